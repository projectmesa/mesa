import MesaModel.Proofs.LayersBulk
import MesaModel.Gen.NumpyTables
/-!
# C11 — property layers and cell attributes are one value; selection is exact

The property theorems, the predicate `Query.filters` their selection statements use, and the example state `demo`
(model: `Model/Layers.lean`; helper lemmas and the other predicates of the statements: `Proofs/Layers*.lean`).

`Reach s`: `s` is reachable from a fresh grid of either implementation (`new` = `mesa.discrete_space`,
`single` / `multi` = legacy `SingleGrid` / `MultiGrid`), of any shape and capacity, by any history of
ops: creating / attaching / detaching layers, single-cell writes through the layer or through the
cell attribute, `set_cells` / `modify_cells` with arbitrary element-wise functions and conditions,
taking and using references to `layer.data`, placing / moving / removing agents, selections.
`s.value l c` is the entry at `c` of the array layer object `l` currently points to.
-/
namespace Mesa.Layers

/-- `Reach` is exactly "the state after some history on some fresh grid". -/
theorem C11_reach_iff_history (s : State) :
    Reach s ↔ ∃ impl dims cap ops, s = (run (init impl dims cap) ops).1 := reach_iff s

/-! ## two views, one value -/

/-- The code keeps the layers of a cell space in two registries written by separate statements of
    `add_property_layer` / `remove_property_layer`: the grid's dict `_mesa_property_layers` (what `grid.<name>`,
    `set_property`, `select_cells` use) and the `PropertyDescriptor`s on the grid's cell class (what a cell attribute
    uses; each holds the layer object it was made for).  After every history they are the same map: no name has a
    descriptor without a dict entry or the other way round, and the descriptor holds the very layer the dict names. -/
theorem C11_descriptors_are_the_layer_dict {s : State} (h : Reach s) (hi : s.impl = .new) (n : String) :
    s.descr.lookup n = s.named? n ∧ s.cellLayer? n = s.named? n :=
  ⟨h.wf.descr_eq hi n, cellLayer?_eq h.wf n⟩

/-- After every history: the attribute `name` of every cell of the grid (read through the descriptor on the cell
    class) and the entry of the layer attached under `name` (the grid's dict) are the same value — whatever
    single-cell writes, bulk operations (including re-pointing `modify_cells`), additions and removals of layers came
    before.  (Not a fact about arbitrary states: see the example next to `demo` below.) -/
theorem C11_two_views_one_value {s : State} (h : Reach s) {n : String} {l : Nat}
    (hn : s.named? n = some l) {c : Coord} (hc : inBounds s.dims c = true) :
    cellGet s n c = layerGet s l c ∧ layerGet s l c = .val (s.value l c) := by
  have hw := h.wf
  have h1 := cellGet_eq_value hw hn hc
  have h2 : layerGet s l c = .val (s.value l c) :=
    layerGet_eq_value (hw.att_lt n l hn) ((hw.att_dims n l hn).symm ▸ hc)
  exact ⟨h1.trans h2.symm, h2⟩

/-- The scope of every "no entry of any other layer" below: in every history of the op language no two layer objects
    share an array, every layer's array is allocated, and a legacy layer never owns the grid's `_empty_mask`.  This is an
    invariant of the *op language*, not of Python: on the legacy implementation `layer.data` is a plain attribute and
    `l2.data = l1.data` would make two layers alias — that rebinding is not an op (design.d/C11.md, known weaknesses);
    on the new implementation `layer.data = arr` is `set_cells(arr)`, a copy (`Op.setFrom`). -/
theorem C11_layers_never_share_an_array {s : State} (h : Reach s) :
    (∀ l1 l2, l1 < s.nLayers → l2 < s.nLayers → (s.layers l1).data = (s.layers l2).data → l1 = l2) ∧
    (∀ l, l < s.nLayers → (s.layers l).data < s.next) ∧
    (s.impl ≠ .new → ∀ l, l < s.nLayers → (s.layers l).data ≠ 0) :=
  ⟨h.wf.data_inj, h.wf.data_lt, h.wf.legacy_data⟩

/-- The frame of a single-cell write in its alias-aware form, for *every* state — also one reached through `rebind`, in which
    layers may share an array —: the write through layer `l` sets the entry at `c` of every layer that shares `l`'s array
    (all of them read `v` there) and changes nothing of a layer whose array is another, nor any other entry. -/
theorem C11_write_frame_by_array {s s' : State} {l : Nat} {c : Coord} {v : Int}
    (hset : layerSet s l c v = (s', .ok)) (l' : Nat) (c' : Coord) :
    s'.value l' c' = if (s.layers l').data = (s.layers l).data ∧ c' = c then v else s.value l' c' := by
  obtain ⟨_, _, rfl⟩ := layerSet_ok hset
  unfold State.value
  show upd s.heap (s.layers l).data ((s.heap (s.layers l).data).set c v) (s.layers l').data c' = _
  by_cases hd : (s.layers l').data = (s.layers l).data
  · rw [hd, upd_same]
    by_cases hc : c' = c <;> simp [Arr.set, hc]
  · rw [upd_other _ _ _ _ hd]
    simp [hd]

/-- Legacy `l2.data = <a reference to l1's array>` (`rebind`, a transition outside the op language): from then on the two
    layer objects are one value — equal everywhere at once, and a write through `l1` is read through `l2` (hence through
    the cell view `grid.properties[name]` of whatever name `l2` is attached under) — until one of them is re-pointed. -/
theorem C11_rebound_layers_are_one_value {s s1 : State} {l1 l2 h : Nat} {d : List Nat}
    (hh : s.handles.lookup h = some ((s.layers l1).data, d)) (hne : l1 ≠ l2) (hr : rebind s l2 h = (s1, .ok)) :
    (s1.layers l2).data = (s1.layers l1).data ∧ (∀ c, s1.value l2 c = s1.value l1 c) ∧
    ∀ c v s2, layerSet s1 l1 c v = (s2, .ok) → s2.value l2 c = v ∧ ∀ c', s2.value l2 c' = s2.value l1 c' := by
  have hs1 : s1.layers = upd s.layers l2 { s.layers l2 with data := (s.layers l1).data } ∧ s1.heap = s.heap := by
    obtain ⟨a, d', hlk, _, rfl⟩ := (hr ▸ rebind_outcome s l2 h).of_ok rfl
    obtain ⟨rfl, _⟩ : (s.layers l1).data = a ∧ d = d' := by simpa using hh.symm.trans hlk
    exact ⟨rfl, rfl⟩
  obtain ⟨hl, hheap⟩ := hs1
  have hd : (s1.layers l2).data = (s1.layers l1).data := by
    rw [hl]
    simp [upd, hne]
  refine ⟨hd, fun c => by simp [State.value, hd], fun c v s2 hset => ?_⟩
  have hf := C11_write_frame_by_array hset
  refine ⟨?_, fun c' => ?_⟩
  · rw [hf l2 c]
    simp [hd]
  · rw [hf l2 c', hf l1 c']
    simp [hd, State.value]

/-- A write through the cell attribute is read back through the layer (and through the cell), and it
    changes no other entry of this layer and no entry of any other layer. -/
theorem C11_cell_write_read_through_layer {s s' : State} (h : Reach s) {n : String} {l : Nat}
    (hn : s.named? n = some l) {c : Coord} {v : Int} (hset : cellSet s n c v = (s', .ok)) :
    layerGet s' l c = .val v ∧ cellGet s' n c = .val v ∧
    ∀ l' c', l' < s.nLayers → (l' ≠ l ∨ c' ≠ c) → s'.value l' c' = s.value l' c' := by
  rw [cellSet_eq_layerSet h.wf hn] at hset
  obtain ⟨hl, hc, hs'⟩ := layerSet_ok hset
  obtain ⟨_, hframe, hcell, hlayer⟩ := set_views h.wf hl hs'
  exact ⟨hlayer hc, hcell n hn (h.wf.att_dims n l hn ▸ hc), hframe⟩

/-- A write through the layer is read back through the cell attribute of every name the layer is
    attached under, and it changes nothing else. -/
theorem C11_layer_write_read_through_cell {s s' : State} (h : Reach s) {l : Nat} {c : Coord} {v : Int}
    (hset : layerSet s l c v = (s', .ok)) :
    layerGet s' l c = .val v ∧ (∀ n, s.named? n = some l → cellGet s' n c = .val v) ∧
    ∀ l' c', l' < s.nLayers → (l' ≠ l ∨ c' ≠ c) → s'.value l' c' = s.value l' c' := by
  obtain ⟨hl, hc, hs'⟩ := layerSet_ok hset
  obtain ⟨_, hframe, hcell, hlayer⟩ := set_views h.wf hl hs'
  exact ⟨hlayer hc, fun n hn => hcell n hn (h.wf.att_dims n l hn ▸ hc), hframe⟩

/-- When a single-cell write is accepted (the write theorems above start from an accepted write): through the layer iff
    the layer exists and the index is inside its shape, through the cell attribute of an attached name iff the cell
    exists, through a reference iff it is held and the index is inside the array's shape — `IndexError` otherwise,
    whatever the value (numpy casts any value of the op language into any of the three dtypes). -/
theorem C11_single_cell_write_accepted_iff {s : State} (h : Reach s) :
    (∀ l c v, (layerSet s l c v).2 = .ok ↔ l < s.nLayers ∧ inBounds (s.layers l).dims c = true) ∧
    (∀ n l c v, s.named? n = some l → ((cellSet s n c v).2 = .ok ↔ inBounds s.dims c = true)) ∧
    (∀ hd c v, (hset s hd c v).2 = .ok ↔ ∃ a d, s.handles.lookup hd = some (a, d) ∧ inBounds d c = true) := by
  have hw := h.wf
  have hlayer : ∀ l c v, (layerSet s l c v).2 = .ok ↔ l < s.nLayers ∧ inBounds (s.layers l).dims c = true := by
    intro l c v
    unfold layerSet State.layer?
    by_cases hl : l < s.nLayers <;> by_cases hc : inBounds (s.layers l).dims c = true <;> simp [hl, hc]
  refine ⟨hlayer, fun n l c v hn => ?_, fun hd c v => ?_⟩
  · rw [cellSet_eq_layerSet hw hn, hlayer, hw.att_dims n l hn]
    exact and_iff_right (hw.att_lt n l hn)
  · unfold hset
    cases hx : s.handles.lookup hd with
    | none => simp
    | some p =>
      obtain ⟨a, d⟩ := p
      by_cases hc : inBounds d c = true
      · simp only [hc]
        exact ⟨fun _ => ⟨a, d, rfl, hc⟩, fun _ => by simp⟩
      · simp [hc]

/-- A layer's values change only by an op that writes to *that* layer (`Op.mayWrite`: through the layer,
    through the cell attribute of a name attached to it, through a reference aliasing its current array,
    or — the built-in `empty` layer — by the grid when agents move).  Creating, attaching, detaching and
    re-pointing *other* layers, references, selections, agent moves leave them alone. -/
theorem C11_value_changes_only_by_writes {s : State} (h : Reach s) {l : Nat} (hl : l < s.nLayers) (op : Op)
    (hno : ¬ op.mayWrite s l) (c : Coord) : (step s op).1.value l c = s.value l c :=
  value_stable h.wf hl op hno c

/-- Read-after-write over histories: a value written through the cell attribute is read back through
    the layer *and* through the cell attribute of whatever name the layer is attached under, after any
    further history that does not write to this layer (`noWrite`) — including histories that detach and
    re-attach it, re-point other layers, move agents. -/
theorem C11_read_after_write_persists {s s1 : State} (h : Reach s) {n : String} {l : Nat}
    (hn : s.named? n = some l) {c : Coord} {v : Int} (hset : cellSet s n c v = (s1, .ok))
    (ops : List Op) (hq : noWrite l s1 ops) :
    layerGet (run s1 ops).1 l c = .val v ∧
    ∀ n', (run s1 ops).1.named? n' = some l → cellGet (run s1 ops).1 n' c = .val v := by
  have hw := h.wf
  have hr1 : Reach s1 := h.of_step (.cellSet n c (.raw v)) hset
  rw [cellSet_eq_layerSet hw hn] at hset
  obtain ⟨hl, hc, hs1⟩ := layerSet_ok hset
  obtain ⟨hv1, _⟩ := set_views hw hl hs1
  have hl1 : l < s1.nLayers := by
    rw [hs1]
    exact hl
  have hc1 : inBounds s1.dims c = true ∧ inBounds (s1.layers l).dims c = true := by
    rw [hs1]
    exact ⟨hw.att_dims n l hn ▸ hc, hc⟩
  obtain ⟨hv2, hl2⟩ := value_stable_run hr1.wf hl1 ops hq c
  obtain ⟨hd2, hld2⟩ := shapes_run s1 ops
  refine ⟨by rw [layerGet_eq_value hl2 ((hld2 l hl1).symm ▸ hc1.2), hv2, hv1], fun n' hn' => ?_⟩
  rw [cellGet_eq_value (reach_run hr1 ops).wf hn' (hd2.symm ▸ hc1.1), hv2, hv1]

/-! ## bulk operations are point-wise, also right after a re-pointing `modify_cells` -/

/-- `set_cells(v, cond)` on an existing layer succeeds unless it has a condition and the layer has no entries (a
    free-standing layer with a zero dimension: `np.vectorize` refuses, `ValueError`, nothing changes); when it
    succeeds every entry of that layer is `v` where the old entry satisfied the condition and the old entry
    elsewhere; every other layer is untouched; the cell attributes show exactly these values. -/
theorem C11_set_cells_pointwise {s s' : State} (h : Reach s) {l : Nat} (hl : l < s.nLayers) {v : Int}
    {cond : Option (Int → Bool)} {o : Out} (hset : step s (.setCells l (.raw v) cond) = (s', o)) :
    (o = .ok ↔ ¬ (cond.isSome = true ∧ 0 ∈ (s.layers l).dims)) ∧
    (o ≠ .ok → o = .err (.value .size0) ∧ s' = s) ∧
    (o = .ok →
      (∀ l' c, l' < s.nLayers → s'.value l' c =
        if l' = l then (if condHolds cond (s.value l c) then v else s.value l c) else s.value l' c) ∧
      (∀ n c, s.named? n = some l → inBounds s.dims c = true →
        cellGet s' n c = .val (if condHolds cond (s.value l c) then v else s.value l c))) := by
  simp only [step] at hset
  rw [vecGuard_eq hl] at hset
  split at hset
  · next hg =>
    simp only [Prod.mk.injEq] at hset
    obtain ⟨rfl, rfl⟩ := hset
    exact ⟨by simp [hg], fun _ => ⟨rfl, rfl⟩, fun e => by simp at e⟩
  · next hg =>
    obtain ⟨ho, hv, hc⟩ := setCells_pointwise h.wf hl hset
    exact ⟨iff_of_true ho hg, fun hne => absurd ho hne, fun _ => ⟨hv, hc⟩⟩

/-- `modify_cells(f, cond)` (`vec`: a Python function, else a ufunc with its operand) on an existing layer succeeds
    unless `np.vectorize` is needed — for a condition or a Python function — and the layer has no entries
    (`ValueError`, nothing changes); when it succeeds the layer points to a *new* array, and still: every entry is
    `f old` where the old entry satisfied the condition and `old` elsewhere, other layers are untouched, and the cell
    attributes — which go through the layer object — show exactly the new values. -/
theorem C11_modify_cells_pointwise {s s' : State} (h : Reach s) {l : Nat} (hl : l < s.nLayers) {vec : Bool}
    {f : Int → Int} {cond : Option (Int → Bool)} {o : Out}
    (hmod : step s (.modifyCells l vec (some f) cond) = (s', o)) :
    (o = .ok ↔ ¬ ((cond.isSome || vec) = true ∧ 0 ∈ (s.layers l).dims)) ∧
    (o ≠ .ok → o = .err (.value .size0) ∧ s' = s) ∧
    (o = .ok →
      (s'.layers l).data ≠ (s.layers l).data ∧
      (∀ l' c, l' < s.nLayers → s'.value l' c =
        if l' = l then (if condHolds cond (s.value l c) then f (s.value l c) else s.value l c)
        else s.value l' c) ∧
      (∀ n c, s.named? n = some l → inBounds s.dims c = true →
        cellGet s' n c = .val (if condHolds cond (s.value l c) then f (s.value l c) else s.value l c))) := by
  simp only [step] at hmod
  rw [vecGuard_eq hl] at hmod
  split at hmod
  · next hg =>
    simp only [Prod.mk.injEq] at hmod
    obtain ⟨rfl, rfl⟩ := hmod
    exact ⟨iff_of_false (fun e => nomatch e) (fun hx => hx hg), fun _ => ⟨rfl, rfl⟩, fun e => nomatch e⟩
  · next hg =>
    obtain ⟨ho, hne, hv, hc⟩ := modifyCells_pointwise h.wf hl hmod
    exact ⟨iff_of_true ho hg, fun hx => absurd ho hx, fun _ => ⟨hne, hv, hc⟩⟩

/-- On a grid that has cells, every *attached* layer has entries (it has the grid's shape), so on the layers the
    cell attributes speak about the `np.vectorize` guard never fires: `set_cells` / `modify_cells` are refused only
    for their own reasons (a cast numpy refuses, a ufunc without operand). -/
theorem C11_attached_layers_have_entries {s : State} (h : Reach s) (hd : 0 ∉ s.dims) {n : String} {l : Nat}
    (hn : s.named? n = some l) :
    s.noEntries l = false ∧ ∀ b k, vecGuard s l b k = k := by
  have hw := h.wf
  have hl := hw.att_lt n l hn
  have h0 : 0 ∉ (s.layers l).dims := by
    rw [hw.att_dims n l hn]
    exact hd
  refine ⟨?_, fun b k => ?_⟩
  · cases hx : s.noEntries l with
    | false => rfl
    | true => exact absurd ((noEntries_iff hl).mp hx) h0
  · rw [vecGuard_eq hl, if_neg (fun hh => h0 hh.2)]

/-- In place versus re-pointing (`setCells` / `modifyCells`: the calls past the `np.vectorize` guard): a reference to `layer.data` taken before `set_cells` sees the new
    values (it is the same array); taken before `modify_cells` it keeps the old values (the layer got a
    new array) — while layer and cell attributes agree on the new values in both cases (theorems above). -/
theorem C11_set_in_place_modify_repoints {s s' : State} (h : Reach s) {l : Nat} (hl : l < s.nLayers)
    {hd : Nat} {d : List Nat} (hh : s.handles.lookup hd = some ((s.layers l).data, d))
    {c : Coord} (hc : inBounds d c = true) :
    (∀ v cond o, setCells s l v cond = (s', o) → hget s' hd c = .val (s'.value l c)) ∧
    (∀ f cond o, modifyCells s l (some f) cond = (s', o) → hget s' hd c = .val (s.value l c)) := by
  have hw := h.wf
  constructor
  · intro v cond o hset
    obtain ⟨_, rfl⟩ := setCells_ok hl hset
    simp [hget, hh, hc, State.value]
  · intro f cond o hmod
    obtain ⟨_, rfl⟩ := modifyCells_ok hl hmod
    have hne : (s.layers l).data ≠ s.next := by
      have := hw.data_lt l hl
      omega
    simp [hget, hh, hc, State.value, State.repoint, upd, hne]

/-- legacy `modify_cell(pos, f)`: that one entry becomes `f old`, nothing else changes. -/
theorem C11_modify_cell_pointwise {s s' : State} (h : Reach s) {l : Nat} {c : Coord} {f : Option (Int → Int)}
    (hm : modifyCell s l c f = (s', .ok)) :
    ∃ g, f = some g ∧ s'.value l c = g (s.value l c) ∧
    ∀ l' c', l' < s.nLayers → (l' ≠ l ∨ c' ≠ c) → s'.value l' c' = s.value l' c' := by
  obtain ⟨g, hf, hl, _, hs'⟩ := (hm ▸ modifyCell_outcome s l c f).of_ok rfl
  obtain ⟨hv, hframe, _⟩ := set_views h.wf hl hs'
  exact ⟨g, hf, hv, hframe⟩

/-- A write through a reference that still aliases the layer's array (`d = layer.data; d[c] = v`) is a
    write to the layer: read back through the layer and the cells, nothing else changes. -/
theorem C11_write_through_live_reference {s s' : State} (h : Reach s) {l : Nat} (hl : l < s.nLayers)
    {hd : Nat} {d : List Nat} (hh : s.handles.lookup hd = some ((s.layers l).data, d))
    {c : Coord} {v : Int} (hs : hset s hd c v = (s', .ok)) :
    s'.value l c = v ∧ (∀ n, s.named? n = some l → inBounds s.dims c = true → cellGet s' n c = .val v) ∧
    ∀ l' c', l' < s.nLayers → (l' ≠ l ∨ c' ≠ c) → s'.value l' c' = s.value l' c' := by
  obtain ⟨a, d', hlk, _, hs'⟩ := hset_ok hs
  rw [hh] at hlk
  simp only [Option.some.injEq, Prod.mk.injEq] at hlk
  obtain ⟨rfl, rfl⟩ := hlk
  obtain ⟨hv, hframe, hcell, _⟩ := set_views h.wf hl hs'
  exact ⟨hv, hcell, hframe⟩

/-! ## element types: what a write of another type stores, and what `modify_cells` does to the dtype

Entries are encoded per dtype (bool 0/1, int, float in quarters); `quarters d v` is the number an entry
stands for.  `x : Val` is a Python scalar (`x.ok`: a Python bool is 0 or 1). -/

/-- numpy's assignment cast in numbers: into a float array every bool / int / float enters exactly; into an
    int array bools and ints enter exactly and a float is replaced by the integer next to it *toward zero*;
    into a bool array everything becomes its truth value. -/
theorem C11_assignment_cast_value (x : Val) (hx : x.ok) :
    quarters .float (castTo .float x) = quarters x.ty x.raw ∧
    (x.ty ≠ .float → quarters .int (castTo .int x) = quarters x.ty x.raw) ∧
    (0 ≤ x.raw → quarters .int (castTo .int x) ≤ quarters x.ty x.raw ∧
                 quarters x.ty x.raw < quarters .int (castTo .int x) + 4) ∧
    (x.raw ≤ 0 → quarters x.ty x.raw ≤ quarters .int (castTo .int x) ∧
                 quarters .int (castTo .int x) - 4 < quarters x.ty x.raw) ∧
    castTo .bool x = (if quarters x.ty x.raw = 0 then 0 else 1) := by
  obtain ⟨ty, raw⟩ := x
  -- per type of `x`: the casts are the identity, `4 * ·` or `· / 4` towards zero, whose bounds are `tdiv4_trunc`
  have ht := tdiv4_trunc raw
  cases ty <;> simp_all [castTo, quarters, Val.ok, boolInt] <;> omega

/-- A typed write through the cell attribute (`cell.a = 2.7` on an int layer, `cell.a = 5` on a bool layer,
    …): the value is cast by the dtype the layer has *now*, and the layer and the cell attribute read back
    that same cast value — never two different ones; nothing else changes, the dtype included. -/
theorem C11_typed_cell_write_one_value {s s' : State} (h : Reach s) {n : String} {l : Nat}
    (hn : s.named? n = some l) {c : Coord} {x : Val} (hset : step s (.cellSet n c (.py x)) = (s', .ok)) :
    layerGet s' l c = .val (castTo (s.dtypeOf l) x) ∧ cellGet s' n c = .val (castTo (s.dtypeOf l) x) ∧
    s'.dtypeOf l = s.dtypeOf l ∧
    ∀ l' c', l' < s.nLayers → (l' ≠ l ∨ c' ≠ c) → s'.value l' c' = s.value l' c' := by
  simp only [step, State.cellWVal, cellLayer?_eq h.wf, hn] at hset
  obtain ⟨h1, h2, h3⟩ := C11_cell_write_read_through_layer h hn hset
  refine ⟨h1, h2, ?_, h3⟩
  have := ((writes_cellSet (A := False) s n c (castTo (s.dtypeOf l) x)).fst .refl).shape
  rw [hset] at this
  exact dtypeOf_sameShape this l

/-- the same for a typed write through the layer (`layer.data[c] = x`, legacy `set_cell`): every cell
    attribute the layer is attached under reads the cast value -/
theorem C11_typed_layer_write_one_value {s s' : State} (h : Reach s) {l : Nat} {c : Coord} {x : Val}
    (hset : step s (.layerSet l c (.py x)) = (s', .ok)) :
    layerGet s' l c = .val (castTo (s.dtypeOf l) x) ∧
    (∀ n, s.named? n = some l → cellGet s' n c = .val (castTo (s.dtypeOf l) x)) ∧
    s'.dtypeOf l = s.dtypeOf l ∧
    ∀ l' c', l' < s.nLayers → (l' ≠ l ∨ c' ≠ c) → s'.value l' c' = s.value l' c' := by
  simp only [step, WVal.resolve] at hset
  obtain ⟨h1, h2, h3⟩ := C11_layer_write_read_through_cell h hset
  refine ⟨h1, h2, ?_, h3⟩
  have := ((writes_layerSet (A := False) s l c (castTo (s.dtypeOf l) x)).fst .refl).shape
  rw [hset] at this
  exact dtypeOf_sameShape this l

/-- `set_cells(x, cond)` with a Python scalar: a condition on a layer without entries is refused first (`np.vectorize`,
    `ValueError`); otherwise numpy (`np.copyto`, `same_kind`) refuses exactly the casts
    that could lose something — a float into an int or bool layer, an int into a bool layer — and then
    nothing is written; every other value enters *exactly* (no truncation, unlike a single-cell write), at
    the cells whose old value satisfies the condition. -/
theorem C11_set_cells_typed {s : State} (h : Reach s) {l : Nat} (hl : l < s.nLayers) (x : Val) (hx : x.ok)
    (cond : Option (Int → Bool)) :
    (cond.isSome = true ∧ 0 ∈ (s.layers l).dims → step s (.setCells l (.py x) cond) = (s, .err (.value .size0))) ∧
    (¬ (cond.isSome = true ∧ 0 ∈ (s.layers l).dims) →
    (sameKind x.ty (s.dtypeOf l) = false → step s (.setCells l (.py x) cond) = (s, .err .type)) ∧
    (sameKind x.ty (s.dtypeOf l) = true → ∃ s', step s (.setCells l (.py x) cond) = (s', .ok) ∧
      quarters (s.dtypeOf l) (castTo (s.dtypeOf l) x) = quarters x.ty x.raw ∧
      (∀ l' c, l' < s.nLayers → s'.value l' c =
        if l' = l then (if condHolds cond (s.value l c) then castTo (s.dtypeOf l) x else s.value l c)
        else s.value l' c) ∧
      (∀ n c, s.named? n = some l → inBounds s.dims c = true →
        cellGet s' n c = .val (if condHolds cond (s.value l c) then castTo (s.dtypeOf l) x else s.value l c)))) := by
  simp only [step, vecGuard_eq hl]
  refine ⟨fun hg => by rw [if_pos hg], fun hg => ?_⟩
  rw [if_neg hg]
  simp only [setCellsV_eq hl]
  refine ⟨fun hk => by simp [hk], fun hk => ?_⟩
  simp only [hk, if_true]
  obtain ⟨ho, hv, hcell⟩ := setCells_pointwise h.wf hl (v := castTo (s.dtypeOf l) x) (cond := cond) rfl
  refine ⟨(setCells s l (castTo (s.dtypeOf l) x) cond).1, ?_, quarters_castTo_sameKind hx hk, hv, hcell⟩
  exact Prod.ext rfl ho

/-- `set_cells(arr, cond)` with an *array* value of the layer's shape (`layer.data = arr`,
    `grid.set_property(name, arr, cond)`): a condition on a layer without entries is refused first (`np.vectorize`);
    otherwise refused — nothing written — iff the array's dtype is not
    `same_kind`-castable; otherwise point-wise and positional: the entry at `c` becomes the number `arr[c]`
    (not the next unused entry of `arr`) where the *old* entry at `c` satisfied the condition and stays
    elsewhere; other layers untouched; the cell attributes show exactly these values. -/
theorem C11_set_cells_array_pointwise {s : State} (h : Reach s) {l : Nat} (hl : l < s.nLayers) {hd a : Nat}
    {dims : List Nat} (hh : s.handles.lookup hd = some (a, dims)) (hdims : dims = (s.layers l).dims)
    (cond : Option (Int → Bool)) :
    (cond.isSome = true ∧ 0 ∈ (s.layers l).dims → setFrom s l hd cond = (s, .err (.value .size0))) ∧
    (¬ (cond.isSome = true ∧ 0 ∈ (s.layers l).dims) →
    (sameKind (s.adt a) (s.dtypeOf l) = false → setFrom s l hd cond = (s, .err .type)) ∧
    (sameKind (s.adt a) (s.dtypeOf l) = true → ∃ s', setFrom s l hd cond = (s', .ok) ∧
      (∀ l' c, l' < s.nLayers → s'.value l' c =
        if l' = l then (if condHolds cond (s.value l c) then recode (s.adt a) (s.dtypeOf l) (s.heap a c) else s.value l c)
        else s.value l' c) ∧
      (∀ c, quarters (s.dtypeOf l) (recode (s.adt a) (s.dtypeOf l) (s.heap a c)) = quarters (s.adt a) (s.heap a c)) ∧
      (∀ n c, s.named? n = some l → inBounds s.dims c = true → cellGet s' n c = .val (s'.value l c)))) := by
  have hw := h.wf
  have hz : ((cells (s.layers l).dims).isEmpty = true) ↔ 0 ∈ (s.layers l).dims := by
    rw [List.isEmpty_iff, cells_eq_nil_iff]
  refine ⟨fun hg => ?_, fun hg => ?_⟩
  · unfold setFrom State.layer?
    simp only [hl, if_true, hh, hdims, ne_eq, not_true_eq_false, if_false]
    rw [if_pos (Bool.and_eq_true _ _ ▸ ⟨hg.1, hz.mpr hg.2⟩)]
  have hsf : setFrom s l hd cond = (if sameKind (s.adt a) (s.dtypeOf l) then
      ({ s with heap := upd s.heap (s.layers l).data (fun c =>
          if condHolds cond (s.heap (s.layers l).data c) then recode (s.adt a) (s.dtypeOf l) (s.heap a c)
          else s.heap (s.layers l).data c) }, .ok) else (s, .err .type)) := by
    unfold setFrom State.layer? State.dtypeOf
    simp only [hl, if_true, hh, hdims, ne_eq, not_true_eq_false, if_false]
    rw [if_neg (fun hx => hg ⟨(Bool.and_eq_true_iff.mp hx).1, hz.mp (Bool.and_eq_true_iff.mp hx).2⟩)]
    cases sameKind (s.adt a) (s.adt (s.layers l).data) <;> simp
  refine ⟨fun hk => ?_, fun hk => ?_⟩
  · rw [hsf, hk]
    rfl
  rw [hsf, hk]
  simp only [if_true]
  refine ⟨_, rfl, fun l' c hl' => value_upd hw hl hl' _ c, fun c => ?_,
    fun n c hn hc => cellGet_eq_value (hw.write _ _) hn hc⟩
  have : (s.adt a).rank ≤ (s.dtypeOf l).rank := by simpa [sameKind] using hk
  exact quarters_recode this _

/-- `modify_cells` whose operation yields entries of type `rd` (`modifyCellsT`: the call past the `np.vectorize`
    guard, see `C11_modify_ufunc_typed`): the layer is re-pointed to an array of the
    *promoted* dtype; every entry stands for `f old` where the old entry satisfied the condition and for the
    *same number as before* elsewhere (promotion loses nothing); other layers keep values and dtypes; the
    cell attributes read the new array. -/
theorem C11_modify_promotes_dtype {s s' : State} (h : Reach s) {l : Nat} (hl : l < s.nLayers)
    {f : Int → Int} {cond : Option (Int → Bool)} {rd : DType} {o : Out}
    (hm : modifyCellsT s l (some f) cond rd = (s', o)) :
    o = .ok ∧ s'.dtypeOf l = (s.dtypeOf l).join rd ∧
    (∀ c, quarters (s'.dtypeOf l) (s'.value l c) =
      if condHolds cond (s.value l c) then quarters rd (f (s.value l c)) else quarters (s.dtypeOf l) (s.value l c)) ∧
    (∀ l' c, l' < s.nLayers → l' ≠ l → s'.value l' c = s.value l' c ∧ s'.dtypeOf l' = s.dtypeOf l') ∧
    (∀ n c, s.named? n = some l → inBounds s.dims c = true → cellGet s' n c = .val (s'.value l c)) := by
  obtain ⟨ho, hs'⟩ := modifyCellsT_ok hl hm
  obtain ⟨_, hdt, hv, hdts, hcell⟩ := repoint_views h.wf hl hs'
  refine ⟨ho, hdt, fun c => ?_, fun l' c hl' hne => ⟨by rw [hv l' c hl', if_neg hne], hdts l' hl' hne⟩,
    fun n c hn hc => by rw [hcell n c hn hc, hv l c hl, if_pos rfl]⟩
  rw [hdt, hv l c hl, if_pos rfl]
  show quarters _ (if condHolds cond (s.value l c) then _ else _) = _
  split
  · exact quarters_recode (DType.rank_join_right _ _) _
  · exact quarters_recode (DType.rank_join_left _ _) _

/-- numpy's result types for `ufunc(array, Python scalar)` as the model has them: arithmetic promotes to the
    larger of the two types (so an int layer modified with a float becomes a float layer, a bool layer
    modified with an int an int layer), the logical ufuncs never change the layer's dtype, and `bool - bool`
    is the one combination numpy refuses. -/
theorem C11_ufunc_result_types (d t : DType) :
    (∀ op ∈ [UOp.add, .mul, .max, .min], op.result d t = some (d.join t)) ∧
    (UOp.sub.result d t = if d = .bool ∧ t = .bool then none else some (d.join t)) ∧
    (∀ op ∈ [UOp.land, .lor, .lxor], ∀ rd, op.result d t = some rd → d.join rd = d) ∧
    (d.join t).rank = max d.rank t.rank := by
  cases d <;> cases t <;> decide +kernel

/-- `modify_cells(ufunc, x, cond)` with a typed operand (`vec`: the same operator in a Python function): on a layer
    without entries a condition or a Python function is refused first (`np.vectorize`); otherwise it is refused
    (state unchanged) exactly when numpy has no such operation; otherwise it is the promoting `modify_cells` with numpy's result type, and for
    `+`, `-`, maximum, minimum into a non-bool result the new entry *is* the sum / difference / larger /
    smaller of the two numbers. -/
theorem C11_modify_ufunc_typed {s : State} {l : Nat} (hl : l < s.nLayers) (vec : Bool) (op : UOp) (x : Val) (hx : x.ok)
    (cond : Option (Int → Bool)) :
    ((cond.isSome || vec) = true ∧ 0 ∈ (s.layers l).dims →
      step s (.modifyU l vec op x cond) = (s, .err (.value .size0))) ∧
    (¬ ((cond.isSome || vec) = true ∧ 0 ∈ (s.layers l).dims) →
    (op.result (s.dtypeOf l) x.ty = none → step s (.modifyU l vec op x cond) = (s, .err .type)) ∧
    (∀ rd, op.result (s.dtypeOf l) x.ty = some rd →
      step s (.modifyU l vec op x cond) = modifyCellsT s l (some (op.apply (s.dtypeOf l) x)) cond rd ∧
      (rd ≠ .bool → ∀ v,
        (op = .add → quarters rd (op.apply (s.dtypeOf l) x v) = quarters (s.dtypeOf l) v + quarters x.ty x.raw) ∧
        (op = .sub → quarters rd (op.apply (s.dtypeOf l) x v) = quarters (s.dtypeOf l) v - quarters x.ty x.raw) ∧
        (op = .max → quarters rd (op.apply (s.dtypeOf l) x v) = max (quarters (s.dtypeOf l) v) (quarters x.ty x.raw)) ∧
        (op = .min → quarters rd (op.apply (s.dtypeOf l) x v) = min (quarters (s.dtypeOf l) v) (quarters x.ty x.raw))))) := by
  refine ⟨fun hg => ?_, fun hg => ?_⟩
  · simp only [step]
    rw [vecGuard_eq hl, if_pos hg]
  have hstep : step s (.modifyU l vec op x cond) = (match op.result (s.dtypeOf l) x.ty with
      | none => (s, .err .type)
      | some rd => modifyCellsT s l (some (op.apply (s.dtypeOf l) x)) cond rd) := by
    simp only [step]
    rw [vecGuard_eq hl, if_neg hg]
    simp only [modifyU, State.layer?, hl, if_true, State.dtypeOf] <;> rfl
  refine ⟨fun hn => by rw [hstep, hn], fun rd hr => ⟨by rw [hstep, hr], fun hnb v => ?_⟩⟩
  obtain ⟨ty, raw⟩ := x
  generalize s.dtypeOf l = d at hr ⊢
  -- `op.apply` is `fromQuarters rd r` for the number `r` the op computes; `r` is whole when both operands are
  have key : ∀ r : Int, (4 ∣ quarters d v → 4 ∣ quarters ty raw → 4 ∣ r) →
      (op = .add ∨ op = .sub ∨ op = .mul ∨ op = .max ∨ op = .min) →
      quarters rd (fromQuarters ((op.result d ty).getD .bool) r) = r := by
    intro r hr4 hop
    rw [hr]
    exact quarters_arith (UOp.result_join hr hop) hnb v raw hr4
  refine ⟨fun e => ?_, fun e => ?_, fun e => ?_, fun e => ?_⟩ <;> subst e
  · exact key _ (fun a b => Int.dvd_add a b) (.inl rfl)
  · exact key _ (fun a b => Int.dvd_sub a b) (.inr (.inl rfl))
  · refine key _ (fun a b => ?_) (.inr (.inr (.inr (.inl rfl))))
    show 4 ∣ max (quarters d v) (quarters ty raw)
    rw [Int.max_def]
    split <;> assumption
  · refine key _ (fun a b => ?_) (.inr (.inr (.inr (.inr rfl))))
    show 4 ∣ min (quarters d v) (quarters ty raw)
    rw [Int.min_def]
    split <;> assumption

/-- … and for `×`: whenever the exact product of the two numbers is again a multiple of 1/4 (always for an integral
    operand — what the harness uses — but not for 0.25 × 0.25) the new entry *is* the product.  Without that the model's
    entry is the product cut to quarters, which is not numpy's value: such operands are outside the model. -/
theorem C11_ufunc_mul_exact (d : DType) (x : Val) (v : Int) (rd : DType)
    (hr : UOp.mul.result d x.ty = some rd) (hnb : rd ≠ .bool)
    (hdiv : (4 : Int) ∣ quarters d v * quarters x.ty x.raw) :
    4 * quarters rd (UOp.mul.apply d x v) = quarters d v * quarters x.ty x.raw := by
  obtain ⟨ty, raw⟩ := x
  -- the entry is made from `p / 4` for the product `p` of the numbers in quarters; with whole operands `p = 16 a b`
  have h16 : 4 ∣ quarters d v → 4 ∣ quarters ty raw → 4 ∣ (quarters d v * quarters ty raw).tdiv 4 := by
    rintro ⟨a, ha⟩ ⟨b, hb⟩
    refine ⟨a * b, ?_⟩
    rw [ha, hb, show 4 * a * (4 * b) = 4 * (4 * (a * b)) by grind, tdiv4_mul]
  show 4 * quarters rd (fromQuarters ((UOp.mul.result d ty).getD .bool) _) = _
  rw [hr]
  show 4 * quarters rd (fromQuarters rd ((quarters d v * quarters ty raw).tdiv 4)) = _
  rw [quarters_arith (UOp.result_join hr (.inr (.inr (.inl rfl)))) hnb v raw h16, Int.mul_tdiv_cancel' hdiv]

/-- 1.5 × 2.0 = 3.0 is inside the hypothesis, 0.25 × 0.25 is not (and there the model's 0 is not numpy's 0.0625) -/
example : (4 : Int) ∣ quarters .float 6 * quarters .float 8 ∧ UOp.mul.apply .float ⟨.float, 8⟩ 6 = 12 ∧
    ¬ (4 : Int) ∣ quarters .float 1 * quarters .float 1 := by decide +kernel

/-- Over any history the dtype of a layer changes only when a typed `modify_cells` re-points that very
    layer (`Op.mayRetype`) — single-cell writes of any type, `set_cells`, writes through references, adding and
    removing layers, agent moves never change it — and it only ever widens (bool → int → float). -/
theorem C11_dtype_changes_only_by_modify {s : State} (h : Reach s) {l : Nat} (hl : l < s.nLayers) :
    (∀ op : Op, ¬ op.mayRetype l → (step s op).1.dtypeOf l = s.dtypeOf l) ∧
    (∀ ops, noRetype l ops → (run s ops).1.dtypeOf l = s.dtypeOf l) ∧
    (∀ ops, (s.dtypeOf l).rank ≤ ((run s ops).1.dtypeOf l).rank) := by
  refine ⟨fun op hno => ?_, fun ops hn => dtype_stable_run h.wf hl ops hn, fun ops => dtype_mono_run h.wf hl ops⟩
  rcases dtype_step h.wf hl op with h1 | ⟨h1, _⟩
  · exact h1
  · exact absurd h1 hno

/-- legacy `modify_cell(pos, ufunc, x)` with a Python scalar of any type: refused (`TypeError`) only where
    numpy has no such operation; otherwise that one entry becomes numpy's result *cast back into the array*
    (`arr[pos] = …`: an int layer keeps the integer part of `3 + 0.5`), nothing else changes and — unlike the
    bulk `modify_cells` — the layer keeps its dtype. -/
theorem C11_modify_cell_typed {s s' : State} (h : Reach s) {l : Nat} {c : Coord} {op : UOp} {x : Val}
    (hm : modifyCellU s l c op x = (s', .ok)) :
    ∃ rd, op.result (s.dtypeOf l) x.ty = some rd ∧
      s'.value l c = castTo (s.dtypeOf l) ⟨rd, op.apply (s.dtypeOf l) x (s.value l c)⟩ ∧
      s'.dtypeOf l = s.dtypeOf l ∧
      ∀ l' c', l' < s.nLayers → (l' ≠ l ∨ c' ≠ c) → s'.value l' c' = s.value l' c' := by
  obtain ⟨rd, hrd, hl, _, hs'⟩ := (hm ▸ modifyCellU_outcome s l c op x).of_ok rfl
  obtain ⟨hv, hframe, _⟩ := set_views h.wf hl hs'
  exact ⟨rd, hrd, hv, hs' ▸ rfl, hframe⟩

/-- `PropertyLayer.from_data(name, arr)`: the new layer has the array's shape and dtype and holds its
    values, no existing layer changes — and it holds a *copy*: a later write into the source array does not
    show in the layer, a later write into the layer does not show in the source array. -/
theorem C11_from_data_copies {s s' : State} (h : Reach s) {n : String} {hd : Nat} {k : Nat}
    (hf : fromData s n hd = (s', .id k)) :
    ∃ a dims, s.handles.lookup hd = some (a, dims) ∧ k = s.nLayers ∧ (s'.layers k).dims = dims ∧
      s'.dtypeOf k = s.adt a ∧ (∀ c, s'.value k c = s.heap a c) ∧
      (∀ l c, l < s.nLayers → s'.value l c = s.value l c) ∧
      (∀ c v s'', hset s' hd c v = (s'', .ok) → ∀ c', s''.value k c' = s'.value k c') ∧
      (∀ c v s'', layerSet s' k c v = (s'', .ok) → ∀ c', hget s'' hd c' = hget s' hd c') := by
  have hw := h.wf
  obtain ⟨a, dims, hlk, rfl, rfl⟩ := fromData_ok hf
  obtain ⟨hL, hv, hdt, hold⟩ := alloc_views hw (L := ⟨n, dims, s.next⟩) rfl (s.heap a) (s.adt a)
  have hne : s.next ≠ a := Nat.ne_of_gt (hw.handle_lt hd a dims hlk)
  refine ⟨a, dims, hlk, rfl, congrArg Layer.dims hL, hdt, hv, hold, fun c v s'' hs c' => ?_, fun c v s'' hs c' => ?_⟩
  · obtain ⟨a', d', hlk', _, rfl⟩ := hset_ok hs
    obtain ⟨rfl, rfl⟩ : a = a' ∧ dims = d' := by simpa using hlk.symm.trans hlk'
    simp [State.value, State.alloc, upd, hne]
  · obtain ⟨_, _, rfl⟩ := layerSet_ok hs
    simp [hget, hlk, State.alloc, upd, hne.symm]

/-! ## the cast and promotion rules are numpy's -/

/-- The model's cast rules are numpy's: for all element types, `sameKind` is what `np.copyto` of the running numpy accepts
    (scalar and array sources: `set_cells`), and `DType.join` is the dtype `np.where` gives the re-pointed array
    (`modify_cells`).  `Gen/NumpyTables.lean` is probed from the running interpreter on every check. -/
theorem C11_cast_rules_match_numpy (a b : DType) :
    Gen.npCopytoScalar.lookup (a.rank, b.rank) = some (sameKind a b) ∧
    Gen.npCopytoArray.lookup (a.rank, b.rank) = some (sameKind a b) ∧
    Gen.npWhereType.lookup (a.rank, b.rank) = some (a.join b).rank := by
  cases a <;> cases b <;> decide +kernel

/-- `UOp.result` is the result type of the running numpy for every ufunc of the op language, every array dtype and every
    type of Python scalar (`none` = numpy's `TypeError`: boolean subtract) — as a ufunc and, for the operators whose
    Python-function form is in the op language, as `np.vectorize(lambda x: x OP scalar)`. -/
theorem C11_ufunc_types_match_numpy (op : UOp) (d t : DType) :
    Gen.npUfuncType.lookup (op.name, d.rank, t.rank) = some ((op.result d t).map DType.rank) ∧
    (op ≠ .max → op ≠ .min →
      Gen.npFnType.lookup (op.name, d.rank, t.rank) = some ((op.result d t).map DType.rank)) := by
  -- one evaluation over the 8 × 3 × 3 combinations
  have all : ∀ op ∈ [UOp.add, .sub, .mul, .max, .min, .land, .lor, .lxor], ∀ d ∈ [DType.bool, .int, .float],
      ∀ t ∈ [DType.bool, .int, .float],
      Gen.npUfuncType.lookup (op.name, d.rank, t.rank) = some ((op.result d t).map DType.rank) ∧
      (op ≠ .max → op ≠ .min →
        Gen.npFnType.lookup (op.name, d.rank, t.rank) = some ((op.result d t).map DType.rank)) := by
    decide +kernel
  exact all op (by cases op <;> decide) d (by cases d <;> decide) t (by cases t <;> decide)

/-- On the probed sample grid (every pair of types; negative, zero, integral and non-integral values) the model's values are
    numpy's: `castTo` is the entry left by `arr[0] = scalar` and by `np.full(shape, scalar, dtype)`, `UOp.apply` the entry
    of `ufunc(array, scalar)` in the encoding of the result dtype. -/
theorem C11_cast_values_match_numpy :
    (∀ e ∈ Gen.npAssign, castCode e.1.1 e.1.2.1 e.1.2.2 = some e.2) ∧
    (∀ e ∈ Gen.npFull, castCode e.1.1 e.1.2.1 e.1.2.2 = some e.2) ∧
    (∀ e ∈ Gen.npUfuncValue, applyCode e.1.1 e.1.2.1 e.1.2.2.1 e.1.2.2.2.1 e.1.2.2.2.2 = some e.2) := by
  refine ⟨by decide +kernel, by decide +kernel, by decide +kernel⟩

set_option maxRecDepth 8000 in
/-- the probed tables are not empty and say what one expects: -2.75 assigned into an int array is -2, 2.75 into a bool
    array True; `np.add(int array, 0.5)` is a float array -/
example : 50 ≤ Gen.npAssign.length ∧ 50 ≤ Gen.npFull.length ∧ 200 ≤ Gen.npUfuncValue.length ∧
    Gen.npAssign.lookup (1, 2, -11) = some (-2) ∧ Gen.npFull.lookup (0, 2, 11) = some 1 ∧
    Gen.npUfuncType.lookup ("add", 1, 2) = some (some 2) ∧ Gen.npUfuncValue.lookup ("add", 1, -3, 2, 2) = some (-10) := by
  decide +kernel

/-! ## adding and removing layers -/

/-- `create_property_layer`: the new layer holds the default everywhere, is attached under its name,
    and no existing layer changes. -/
theorem C11_create_default {s s' : State} (h : Reach s) {n : String} {dt : DType} {d : Int} {k : Nat}
    (hc : create s n dt d = (s', .id k)) :
    k = s.nLayers ∧ s'.named? n = some k ∧ (∀ c, s'.value k c = d) ∧
    ∀ l c, l < s.nLayers → s'.value l c = s.value l c := by
  obtain ⟨hnone, rfl, rfl⟩ := create_ok hc
  obtain ⟨_, hv, _, hold⟩ := alloc_views h.wf (L := ⟨n, s.dims, s.next⟩) rfl (fun _ => d) dt
  exact ⟨rfl, (bind_named hnone _).1, hv, hold⟩

/-- `create_property_layer(name, default_value, dtype)` with a default of any Python type: the array is
    `np.full(dims, default, dtype)` — every entry is numpy's cast of the default into the dtype asked for (2.75 into
    an int layer: 2, any non-zero number into a bool layer: True; the constructor only warns) — the layer has that
    dtype, and at every cell of the grid both views read that one cast value. -/
theorem C11_create_typed_default {s s' : State} (h : Reach s) {n : String} {dt : DType} {w : WVal} {k : Nat}
    (hc : step s (.create n dt w) = (s', .id k)) :
    s'.named? n = some k ∧ s'.dtypeOf k = dt ∧
    (∀ x, w = .py x → ∀ c, s'.value k c = castTo dt x) ∧ (∀ v, w = .raw v → ∀ c, s'.value k c = v) ∧
    ∀ c, inBounds s'.dims c = true →
      cellGet s' n c = .val (w.resolve dt) ∧ layerGet s' k c = .val (w.resolve dt) := by
  have hr' : Reach s' := h.of_step _ hc
  obtain ⟨hnone, rfl, rfl⟩ := create_ok hc
  obtain ⟨_, hv, hdt, _⟩ := alloc_views h.wf (L := ⟨n, s.dims, s.next⟩) rfl (fun _ => w.resolve dt) dt
  have hn := (bind_named (s := s.alloc ⟨n, s.dims, s.next⟩ (fun _ => w.resolve dt) dt) hnone s.nLayers).1
  refine ⟨hn, hdt, ?_, ?_, fun c hcb => ?_⟩
  · rintro x rfl c
    exact hv c
  · rintro v rfl c
    exact hv c
  · obtain ⟨h1, h2⟩ := C11_two_views_one_value hr' hn hcb
    rw [h1, h2]
    exact ⟨congrArg Out.val (hv c), congrArg Out.val (hv c)⟩

/-- the same for a free-standing `PropertyLayer(name, dims, default, dtype)` of any shape -/
theorem C11_new_layer_typed_default {s s' : State} {n : String} {dims : List Nat} {dt : DType} {w : WVal} {k : Nat}
    (hc : step s (.newLayer n dims dt w) = (s', .id k)) :
    k = s.nLayers ∧ s'.layer? k = some ⟨n, dims, s.next⟩ ∧ s'.dtypeOf k = dt ∧ ∀ c, s'.value k c = w.resolve dt := by
  simp only [step] at hc
  unfold newLayer at hc
  split at hc
  · simp at hc
  · simp only [Prod.mk.injEq, Out.id.injEq] at hc
    obtain ⟨rfl, rfl⟩ := hc
    simp [State.layer?, State.dtypeOf, State.value, upd]

/-- `remove_property_layer(name)`: the name disappears from the grid, every other name stays attached
    to its layer, and no layer object changes its values (the removed layer can be attached again). -/
theorem C11_detach_keeps_values {s s' : State} {n : String} (hd : detach s n = (s', .ok)) :
    s'.named? n = none ∧ (∀ n', n' ≠ n → s'.named? n' = s.named? n') ∧
    ∀ l c, s'.value l c = s.value l c := by
  unfold detach at hd
  split at hd
  · simp at hd
  · simp only [Prod.mk.injEq, and_true] at hd
    subst hd
    exact ⟨lookup_filter_self _ _, fun n' hn' => lookup_filter_ne _ _ _ hn', fun _ _ => rfl⟩

/-- `add_property_layer(layer)`: the layer's name now resolves to it, other names are unaffected, no
    values change, and the cells show the layer's current values under that name. -/
theorem C11_attach_exposes_layer {s s' : State} (h : Reach s) {l : Nat} (ha : attach s l = (s', .ok)) :
    s'.named? (s.layers l).name = some l ∧ (∀ n', n' ≠ (s.layers l).name → s'.named? n' = s.named? n') ∧
    (∀ l' c, s'.value l' c = s.value l' c) ∧
    ∀ c, inBounds s.dims c = true → cellGet s' (s.layers l).name c = .val (s.value l c) := by
  have hr' : Reach s' := h.of_step (.attach l) ha
  obtain ⟨_, hchk, rfl⟩ := (ha ▸ attach_outcome s l).of_ok rfl
  obtain ⟨h1, h2⟩ := bind_named (attachCheck_none hchk).1 l
  refine ⟨h1, h2, fun _ _ => rfl, fun c hc => ?_⟩
  rw [cellGet_eq_value hr'.wf h1 hc]
  rfl

/-! ## the clash rule of `add_property_layer`, re-proved against the source on every check

`reservedNames` is built from `Gen/LayersTables.lean`, which the harness rewrites from `cell.py` / `grid.py`
of the checked tree before every build; the `decide`s below are therefore about the code as it is *now*. -/

/-- The names the model refuses as layer names — what the *source* of `class Cell` (slots, methods,
    properties, class attributes) and of the dynamic `GridCell` class defines, plus what Python gives every
    class — are exactly the attributes the running code reports for the grid's cell class
    (`dir(grid.cell_klass)`, layer descriptors removed): `name ∈ reservedNames` is
    `hasattr(self.cell_klass, name)`. -/
theorem C11_reserved_names_are_cell_class_attributes (n : String) :
    n ∈ reservedNames ↔ n ∈ Gen.cellKlassProbe := by
  have h1 : reservedNames.all (fun x => decide (x ∈ Gen.cellKlassProbe)) = true := by decide +kernel
  have h2 : Gen.cellKlassProbe.all (fun x => decide (x ∈ reservedNames)) = true := by decide +kernel
  rw [List.all_eq_true] at h1 h2
  exact ⟨fun h => by simpa using h1 n h, fun h => by simpa using h2 n h⟩

/-- Every name through which a cell takes part in occupancy, emptiness and neighbourhoods (what the model's
    `place` / `move` / `remove` / `isEmptyCell` stand for: `Cell.add_agent`, `remove_agent`, `agents`, `_agents`,
    `is_empty`, `is_full`, `capacity`, `coordinate`, `connections`, `neighborhood`, …) is reserved, so no layer
    can shadow it (defect PL1), while `empty` — the name `Grid.__init__` itself gives its built-in layer — is
    free. -/
theorem C11_cell_protocol_names_reserved :
    (∀ n ∈ ["_agents", "agents", "add_agent", "remove_agent", "is_empty", "is_full", "capacity", "coordinate",
            "connections", "connect", "disconnect", "neighborhood", "get_neighborhood", "random",
            "_mesa_properties", "__dict__", "__class__", "__init__"], n ∈ reservedNames) ∧
    "empty" ∉ reservedNames := by
  decide +kernel

/-- The built-in layer is an ordinary one: a fresh grid *is* the layer-less grid after
    `create_property_layer("empty", True, bool)`, a call the clash rule lets through. -/
theorem C11_builtin_empty_is_created_layer (dims : List Nat) (cap : Option Nat) :
    create { init .new dims cap with next := 0, nLayers := 0, attached := [], descr := [] } "empty" .bool 1
      = (init .new dims cap, .id 0) := by
  have hfree : "empty" ∉ reservedNames := C11_cell_protocol_names_reserved.2
  unfold create attachCheck
  simp only [init, State.named?, List.lookup_nil, Option.isSome_none, ne_eq, not_true_eq_false,
    if_false, Bool.false_eq_true, hfree, if_true, List.nil_append, Nat.zero_add, setDescr, List.filter_nil,
    Prod.mk.injEq, and_true]
  congr 1
  · funext j
    simp [upd]
  · funext j
    simp [upd]
  · funext j
    simp [upd]

/-- After every history on a cell space: a name of the cell class is never attached as a layer — every
    `add_property_layer` of a layer so named is refused and changes nothing — and, the other way round,
    whatever is attached is not a name of the cell class, so the cell attribute of that name *is* the layer
    entry (never the method or property of `Cell`). -/
theorem C11_layer_never_shadows_cell_attribute {s : State} (h : Reach s) (hi : s.impl = .new) :
    (∀ n ∈ reservedNames, s.named? n = none ∧
      ∀ lid, lid < s.nLayers → (s.layers lid).name = n → ∃ w, attach s lid = (s, .err (.value w))) ∧
    (∀ n l, s.named? n = some l → n ∉ reservedNames ∧
      ∀ c, inBounds s.dims c = true → cellGet s n c = .val (s.value l c)) := by
  have hw := h.wf
  refine ⟨fun n hn => ⟨?_, fun lid hl hname => ?_⟩, fun n l hnl => ⟨hw.att_free hi n l hnl, fun c hc => ?_⟩⟩
  · cases hx : s.named? n with
    | none => rfl
    | some l => exact absurd hn (hw.att_free hi n l hx)
  · have hchk : ∃ w, attachCheck s (s.layers lid) = some w := by
      unfold attachCheck
      simp only [hi, hname]
      split
      · exact ⟨_, rfl⟩
      · split
        · exact ⟨_, rfl⟩
        · exact ⟨.clash, rfl⟩
    obtain ⟨w, hchk⟩ := hchk
    refine ⟨w, ?_⟩
    unfold attach State.layer?
    simp [hl, hchk]
  · exact cellGet_eq_value hw hnl hc

/-! ## the emptiness layer / mask is actual emptiness -/

/-- After every history in which the user does not himself overwrite, re-point or remove the built-in `empty` layer /
    the legacy mask (`safeHist`: every op is safe *in the state it is issued in* — taking a reference to
    `grid.empty.data` / `grid.empty_mask` and reading through it is allowed, a write through a reference is unsafe
    exactly when that reference aliases the emptiness array): the emptiness view (`grid.empty.data` /
    `grid.empty_mask`, the array `only_empty` uses) is 1 exactly at the cells no agent is in and 0 elsewhere — through
    any interleaving of placements, moves and removals with layer operations, for SingleGrid, MultiGrid (several
    agents per cell) and cell spaces with capacities.  `C11_unsafe_write_is_the_only_way` below: the hypothesis cannot
    be dropped, and what it excludes is exactly the user's own write. -/
theorem C11_empty_view_is_emptiness (impl : Impl) (dims : List Nat) (cap : Option Nat) (ops : List Op)
    (hs : safeHist (init impl dims cap) ops) :
    ∃ e, (run (init impl dims cap) ops).1.emptyArr? = some e ∧
      ∀ c, e c = boolInt ((run (init impl dims cap) ops).1.isEmptyCell c) := by
  have hinv := EmpInv_run (W := fun _ => False) (WF_init impl dims cap) (EmpInv_init impl dims cap) ops hs
  exact ⟨_, hinv.emptyArr?_eq, fun c => hinv.view c id⟩

/-- the two read-outs of the `empties` op (view and actual emptiness) coincide after such a history -/
theorem C11_empties_readout_agrees (impl : Impl) (dims : List Nat) (cap : Option Nat) (ops : List Op)
    (hs : safeHist (init impl dims cap) ops) :
    empties (run (init impl dims cap) ops).1 =
      .emp (some (((cells (run (init impl dims cap) ops).1.dims).map
              (run (init impl dims cap) ops).1.isEmptyCell).map boolInt))
           ((cells (run (init impl dims cap) ops).1.dims).map (run (init impl dims cap) ops).1.isEmptyCell) := by
  have hinv := EmpInv_run (W := fun _ => False) (WF_init impl dims cap) (EmpInv_init impl dims cap) ops hs
  generalize (run (init impl dims cap) ops).1 = s at hinv ⊢
  have hfun : s.heap 0 = fun c => boolInt (s.isEmptyCell c) := funext fun c => hinv.view c id
  rw [empties_eq, hinv.emptyArr?_eq, hfun]
  simp [List.map_map, Function.comp_def]

/-- The converse, for histories in which the user *does* write through a reference to the emptiness array
    (`grid.empty.data[c] = v`, legacy `grid.empty_mask[c] = v`) — every op otherwise statically safe —: the view is
    still there and is wrong *at most at the cells so written* (`aliasWrites`: judged at the time of each write; a
    later move of an agent through such a cell may well repair it); everywhere else it is actual emptiness. -/
theorem C11_empty_view_wrong_at_most_where_written (impl : Impl) (dims : List Nat) (cap : Option Nat) (ops : List Op)
    (hs : ∀ op ∈ ops, op.safe impl = true) :
    ∃ e, (run (init impl dims cap) ops).1.emptyArr? = some e ∧
      ∀ c, ¬ aliasWrites (init impl dims cap) ops c → e c = boolInt ((run (init impl dims cap) ops).1.isEmptyCell c) := by
  have hinv := EmpInv_run_alias (W := fun _ => False) (WF_init impl dims cap) (EmpInv_init impl dims cap) ops hs
  exact ⟨_, hinv.emptyArr?_eq, fun c hc => hinv.view c (fun hx => hx.elim id hc)⟩

/-- What `safeHist` excludes is exactly the user's own overwrite: one op that is unsafe in a state where the view is right
    can only be a write to / re-pointing / removal of the built-in layer through the layer (id 0), through the cell
    attribute `empty`, or through a reference that aliases the emptiness array — and such a write does break the view
    (`grid.empty_mask[0, 0] = False` on an empty SingleGrid makes `only_empty` miss the cell: the example below). -/
theorem C11_unsafe_write_is_the_only_way {s : State} {op : Op} (h : op.safeAt s = false) :
    (∃ h' c v a d, op = .hset h' c v ∧ s.handles.lookup h' = some (a, d) ∧ a = 0) ∨
    (s.impl = .new ∧ ((∃ c v, op = .cellSet "empty" c v) ∨ op = .detach "empty" ∨
      (∃ c v, op = .layerSet 0 c v) ∨ (∃ c v, op = .cellSet2 0 c v) ∨ (∃ v cond, op = .setCells 0 v cond) ∨
      (∃ hd cond, op = .setFrom 0 hd cond) ∨ (∃ vec f cond, op = .modifyCells 0 vec f cond) ∨
      (∃ f cond rd, op = .modifyT 0 f cond rd) ∨ (∃ vec o x cond, op = .modifyU 0 vec o x cond) ∨
      (∃ c f, op = .modifyCell 0 c f) ∨ (∃ c o x, op = .modifyCellU 0 c o x))) := by
  cases op
  case hset hd c v =>
    left
    simp only [Op.safeAt] at h
    split at h
    · next a d hlk => exact ⟨hd, c, v, a, d, rfl, hlk, by simpa using h⟩
    · simp at h
  -- the other ops are judged by `impl != .new || x != y` with `x`, `y` layer ids or names, or are always safe
  all_goals right
  all_goals simp only [Op.safeAt, Op.safe, Bool.or_eq_false_iff, bne_eq_false_iff_eq, reduceCtorEq] at h
  all_goals obtain ⟨hi, rfl⟩ := h
  all_goals refine ⟨hi, ?_⟩
  all_goals simp

/-! ## `select_cells` is exact -/

/-- the coordinate list of a grid is exactly the in-bounds coordinates, each once -/
theorem C11_cells_exact (dims : List Nat) :
    (∀ c, c ∈ cells dims ↔ inBounds dims c = true) ∧ (cells dims).Nodup :=
  ⟨fun _ => mem_cells, cells_nodup dims⟩

/-- The filters that come before the extreme values: every mask, the `only_empty` flag, every condition. -/
def Query.filters (s : State) (q : Query) (c : Coord) : Prop :=
  (∀ k ∈ q.masks, k c = true) ∧
  (q.onlyEmpty = true → ∃ e, s.emptyArr? = some e ∧ e c ≠ 0) ∧
  (∀ np ∈ q.conds, ∃ a, s.namedArr? np.1 = some a ∧ np.2 (a c) = true)

/-- `select_cells` (any state, any combination of arguments): a cell of the grid is selected iff it
    passes every mask, the `only_empty` flag and every condition, and — for each `extreme_values` entry
    in turn — its property value is the highest / lowest among the cells of the grid that pass these
    filters and the entries before it (`ExtSpec`, defined without reference to the code's computation). -/
theorem C11_select_exact {s : State} {q : Query} {m : Coord → Bool} (h : selectMask s q = .ok m)
    {c : Coord} (hc : c ∈ cells s.dims) :
    m c = true ↔ ExtSpec s q.extremes (q.filters s) c := by
  unfold selectMask at h
  split at h
  · simp at h
  · next m1 h1 =>
    split at h
    · simp at h
    · next m2 h2 =>
      rw [applyExtremes_spec s _ _ _ h c hc]
      apply ExtSpec_congr _ hc
      intro c' _
      rw [applyConds_spec s _ _ _ h2 c']
      unfold emptyStage at h1
      unfold Query.filters
      split at h1
      · next hoe =>
        split at h1
        · simp at h1
        · next e he =>
          simp only [Except.ok.injEq] at h1
          subst h1
          simp only [Bool.and_eq_true, applyMasks_spec, true_and, bne_iff_ne, ne_eq, hoe, he,
            Option.some.injEq, exists_eq_left', forall_const]
          exact and_assoc
      · next hoe =>
        simp only [Except.ok.injEq] at h1
        subst h1
        simp only [applyMasks_spec, true_and, hoe, Bool.false_eq_true, false_implies, true_and]

/-- without extreme values: exactly the cells passing all filters -/
theorem C11_select_filters_only {s : State} {q : Query} {m : Coord → Bool} (h : selectMask s q = .ok m)
    (hx : q.extremes = []) {c : Coord} (hc : c ∈ cells s.dims) : m c = true ↔ q.filters s c := by
  rw [C11_select_exact h hc, hx]
  rfl

/-- one extreme value, in the words of the property: the selected cells are those that pass the other
    filters and whose value is the highest (lowest) *among the cells that pass the other filters* —
    all of them, so ties are all returned. -/
theorem C11_select_one_extreme {s : State} {q : Query} {m : Coord → Bool} (h : selectMask s q = .ok m)
    {n : String} {hi : Bool} (hx : q.extremes = [(n, some hi)]) {c : Coord} (hc : c ∈ cells s.dims) :
    m c = true ↔ ∃ a, s.namedArr? n = some a ∧ q.filters s c ∧
      ∀ c' ∈ cells s.dims, q.filters s c' → notBeyond hi (a c') (a c) := by
  rw [C11_select_exact h hc, hx]
  simp only [ExtSpec, Option.some.injEq, exists_and_left, exists_eq_left']

/-- list form and mask form describe the same cells: the list is exactly the coordinates, in row-major
    order and without repetition, at which the mask form is true. -/
theorem C11_select_list_is_mask {s : State} {q : Query} {list : List Coord} {mask : List Bool}
    (h : selectCells s q = .sel list mask) :
    list = (((cells s.dims).zip mask).filter (·.2)).map (·.1) ∧ mask.length = (cells s.dims).length ∧
    list.Nodup ∧ ∀ c ∈ list, inBounds s.dims c = true := by
  unfold selectCells at h
  split at h
  · simp at h
  · next m _ =>
    simp only [Out.sel.injEq] at h
    obtain ⟨rfl, rfl⟩ := h
    refine ⟨filter_eq_zip_map _ _, by simp, (cells_nodup s.dims).sublist List.filter_sublist, ?_⟩
    intro c hc
    exact mem_cells.mp (List.mem_filter.mp hc).1

/-- `only_empty=True` selects only cells that are actually empty, and misses none: after a history
    that leaves the built-in layer alone, the `only_empty` filter of `select_cells` is *exactly* "no agent
    is in the cell" (this is what defect S16 — and S1 for MultiGrid — broke). -/
theorem C11_only_empty_is_actual_emptiness (impl : Impl) (dims : List Nat) (cap : Option Nat) (ops : List Op)
    (hs : safeHist (init impl dims cap) ops) (q : Query) (hq : q.onlyEmpty = true) (c : Coord) :
    q.filters (run (init impl dims cap) ops).1 c ↔
      (∀ k ∈ q.masks, k c = true) ∧ (run (init impl dims cap) ops).1.isEmptyCell c = true ∧
      (∀ np ∈ q.conds, ∃ a, (run (init impl dims cap) ops).1.namedArr? np.1 = some a ∧ np.2 (a c) = true) := by
  obtain ⟨e, he, hv⟩ := C11_empty_view_is_emptiness impl dims cap ops hs
  unfold Query.filters
  simp only [hq, he, Option.some.injEq, exists_eq_left', forall_const, hv c, boolInt]
  constructor
  · rintro ⟨a, b, d⟩
    refine ⟨a, ?_, d⟩
    cases hx : (run (init impl dims cap) ops).1.isEmptyCell c <;> simp [hx] at b ⊢
  · rintro ⟨a, b, d⟩
    exact ⟨a, by simp [b], d⟩

/-! ## the layer's own `select_cells` and `aggregate` -/

/-- `layer.select_cells(condition, return_list)` on the layer itself (attached or not): the list form is
    exactly the coordinates of the layer's shape whose *current* value passes the condition — each once, in
    row-major order — and the mask form is the condition evaluated at every coordinate; the list is the
    coordinates at which the mask is true. -/
theorem C11_layer_select_exact {s : State} {l : Nat} {p : Int → Bool} {list : List Coord} {mask : List Bool}
    (h : layerSelect s l p = .sel list mask) :
    l < s.nLayers ∧
    (∀ c, c ∈ list ↔ inBounds (s.layers l).dims c = true ∧ p (s.value l c) = true) ∧
    mask = (cells (s.layers l).dims).map (fun c => p (s.value l c)) ∧
    list = (((cells (s.layers l).dims).zip mask).filter (·.2)).map (·.1) ∧ list.Nodup := by
  unfold layerSelect at h
  split at h
  · simp at h
  · next L hL =>
    obtain ⟨hlt, rfl⟩ := layer?_some hL
    simp only [Out.sel.injEq] at h
    obtain ⟨rfl, rfl⟩ := h
    refine ⟨hlt, fun c => ?_, rfl, filter_eq_zip_map _ _, (cells_nodup _).sublist List.filter_sublist⟩
    simp only [List.mem_filter, mem_cells, State.value]

/-- For an attached layer of a reachable state the layer's own selection speaks about the cell attributes:
    a cell of the grid is in the list iff the value read through *its attribute* passes the condition. -/
theorem C11_layer_select_reads_cell_values {s : State} (hr : Reach s) {n : String} {l : Nat}
    (hn : s.named? n = some l) {p : Int → Bool} {list : List Coord} {mask : List Bool}
    (h : layerSelect s l p = .sel list mask) {c : Coord} (hc : inBounds s.dims c = true) :
    c ∈ list ↔ ∃ v, cellGet s n c = .val v ∧ p v = true := by
  obtain ⟨_, hmem, _⟩ := C11_layer_select_exact h
  obtain ⟨h1, h2⟩ := C11_two_views_one_value hr hn hc
  rw [hmem c, hr.wf.att_dims n l hn, h1, h2]
  simp [hc]

/-- `layer.aggregate(np.sum | np.max | np.min)`: the sum is the sum of the values at the coordinates of the
    layer's shape; the maximum (minimum) is the value of some cell and no cell's value is beyond it; it is
    refused exactly for a layer without cells (numpy: zero-size array has no identity for max / min). -/
theorem C11_aggregate_exact {s : State} {l : Nat} (hl : l < s.nLayers) :
    aggregate s l .sum = .val (((cells (s.layers l).dims).map (s.value l)).sum) ∧
    (∀ hi : Bool, ∀ v, aggregate s l (if hi then .max else .min) = .val v ↔
      (∃ c ∈ cells (s.layers l).dims, s.value l c = v) ∧
      ∀ c ∈ cells (s.layers l).dims, notBeyond hi (s.value l c) v) ∧
    (∀ hi : Bool, aggregate s l (if hi then .max else .min) = .err (.value .empty) ↔
      cells (s.layers l).dims = []) := by
  have hL : s.layer? l = some (s.layers l) := if_pos hl
  have key : ∀ hi : Bool, aggregate s l (if hi then .max else .min) =
      match extremum hi ((cells (s.layers l).dims).map (s.value l)) with
      | some v => .val v | none => .err (.value .empty) := by
    intro hi
    cases hi <;> simp only [aggregate, hL] <;> rfl
  refine ⟨?_, fun hi v => ?_, fun hi => ?_⟩
  · simp only [aggregate, hL, foldl_add_eq_sum, Int.zero_add]
    rfl
  · have : ((∃ c ∈ cells (s.layers l).dims, s.value l c = v) ∧
        ∀ c ∈ cells (s.layers l).dims, notBeyond hi (s.value l c) v) ↔
        extremum hi ((cells (s.layers l).dims).map (s.value l)) = some v := by
      rw [extremum_eq_some, List.mem_map, List.forall_mem_map]
    rw [key, this]
    cases extremum hi _ <;> simp
  · rw [key, ← List.map_eq_nil_iff (f := s.value l), ← extremum_eq_none (hi := hi)]
    cases extremum hi _ <;> simp

/-! ## the grid attribute `grid.<name>` -/

/-- `grid.<name>` of a new-style grid (`HasPropertyLayers.__getattr__`) is the attached layer: for a name the user never
    assigned on the grid object itself, `grid.<name>.data` is the layer's current array — the very values the cells
    read through their attribute; a name the user did assign reads that object instead. -/
theorem C11_grid_attribute_is_layer {s : State} (h : Reach s) (hi : s.impl = .new) {n : String} {l : Nat}
    (hn : s.named? n = some l) :
    (n ∉ s.gattrs → dumpName s n = dump s l ∧ dumpName s n = .arr ((cells s.dims).map (s.value l)) ∧
      ∀ c, inBounds s.dims c = true → cellGet s n c = .val (s.value l c)) ∧
    (n ∈ s.gattrs → dumpName s n = .err .shadowed) := by
  have hw := h.wf
  have hl := hw.att_lt n l hn
  have hd := hw.att_dims n l hn
  constructor
  · intro hg
    have h1 : dumpName s n = .arr ((cells s.dims).map (s.value l)) := by
      unfold dumpName
      rw [if_neg (fun hh => hg hh.2), hn]
      simp only [hd]
      rfl
    refine ⟨?_, h1, fun c hc => ?_⟩
    · rw [h1]
      unfold dump State.layer?
      rw [if_pos hl]
      simp only [hd]
      rfl
    · exact cellGet_eq_value hw hn hc
  · intro hg
    unfold dumpName
    rw [if_pos ⟨hi, hg⟩]

/-- `grid.<name> = x` (`HasPropertyLayers.__setattr__`) is refused with `AttributeError` while a layer is attached
    under that name, and nothing changes. -/
theorem C11_grid_attribute_assignment_refused {s : State} (hi : s.impl = .new) {n : String}
    (hn : (s.named? n).isSome = true) : gridSet s n = (s, .err .attr) := by
  unfold gridSet
  rw [if_neg (by simp [hi]), if_pos hn]

/-- Over every history: a layer's name that is not an attribute of the grid object cannot become one while the layer
    stays attached — whatever is done in between, `grid.<name>` keeps meaning the layer. -/
theorem C11_grid_attribute_never_replaces_layer (s : State) {n : String} (hg : n ∉ s.gattrs) (ops : List Op)
    (hatt : ∀ k, k < ops.length → ((run s (ops.take k)).1.named? n).isSome = true) :
    n ∉ (run s ops).1.gattrs := by
  induction ops generalizing s with
  | nil => exact hg
  | cons op ops ih =>
    rw [run_cons_fst]
    have h0 : (s.named? n).isSome = true := hatt 0 (by simp)
    apply ih
    · rcases step_gattrs s op with e | ⟨m, _, hm, e⟩
      · rw [e]
        exact hg
      · rw [e]
        intro hmem
        rcases List.mem_cons.mp hmem with rfl | hmem
        · rw [hm] at h0
          simp at h0
        · exact hg hmem
    · intro k hk
      have := hatt (k + 1) (Nat.succ_lt_succ hk)
      rwa [List.take_succ_cons, run_cons_fst] at this

/-- A layer added to a second grid as well (`g2.add_property_layer(layer)`; refused exactly like on the first:
    its own `empty`, names of the cell class): the cell attribute on the second grid, the cell attribute on the
    first grid and the layer entry are one value — a read through any of them gives it, and a write through the
    second grid's cell (cast by the layer's dtype) is read back through the first grid's cells and the layer,
    changing nothing else. -/
theorem C11_shared_layer_second_grid {s : State} (h : Reach s) {l : Nat} {c : Coord} {L : Layer}
    (hok : otherGridCheck s l c = .ok L) :
    cellGet2 s l c = layerGet s l c ∧ (∀ n, s.named? n = some l → cellGet s n c = cellGet2 s l c) ∧
    ∀ w s', cellSet2 s l c w = (s', .ok) →
      layerGet s' l c = .val (w.resolve (s.dtypeOf l)) ∧ cellGet2 s' l c = .val (w.resolve (s.dtypeOf l)) ∧
      (∀ n, s.named? n = some l → cellGet s' n c = .val (w.resolve (s.dtypeOf l))) ∧
      ∀ l' c', l' < s.nLayers → (l' ≠ l ∨ c' ≠ c) → s'.value l' c' = s.value l' c' := by
  have hw := h.wf
  have hchk : l < s.nLayers ∧ L = s.layers l ∧ inBounds (s.layers l).dims c = true := by
    unfold otherGridCheck at hok
    split at hok
    · cases hok
    · split at hok
      · cases hok
      · next L' hL =>
        obtain ⟨hlt, rfl⟩ := layer?_some hL
        split at hok
        · cases hok
        · split at hok
          · cases hok
          · split at hok
            · cases hok
            · split at hok
              · cases hok
              · next hb =>
                simp only [Except.ok.injEq] at hok
                exact ⟨hlt, hok.symm, by simpa using hb⟩
  obtain ⟨hl, rfl, hc⟩ := hchk
  have hget : cellGet2 s l c = layerGet s l c := by
    rw [layerGet_eq_value hl hc]
    unfold cellGet2
    rw [hok]
    rfl
  refine ⟨hget, fun n hn => ?_, fun w s' hset => ?_⟩
  · rw [hget, layerGet_eq_value hl hc]
    exact cellGet_eq_value hw hn (hw.att_dims n l hn ▸ hc)
  · have hls : layerSet s l c (w.resolve (s.dtypeOf l)) = (s', .ok) := by
      unfold cellSet2 at hset
      rw [hok] at hset
      exact hset
    obtain ⟨_, _, hs'⟩ := layerSet_ok hls
    obtain ⟨hv, hframe, hcell, hlayer⟩ := set_views hw hl hs'
    refine ⟨hlayer hc, ?_, fun n hn => hcell n hn (hw.att_dims n l hn ▸ hc), hframe⟩
    -- the second grid's check looks at the tables only, which the write leaves alone
    have hok' : otherGridCheck s' l c = .ok (s.layers l) := by
      rw [hs']
      exact hok
    unfold cellGet2
    rw [hok', ← hv, hs']
    rfl

/-! ## neighbourhood masks and their use in `select_cells(masks=…)` -/

/-- being within `r` steps is symmetric (Moore and von Neumann, torus or not, any number of dimensions) -/
theorem C11_within_radius_symmetric (moore torus : Bool) (dims : List Nat) (c c' : Coord) (r : Nat) :
    withinRadius moore torus dims c r c' = withinRadius moore torus dims c' r c := by
  have hax : ∀ n x y, axisDist torus n x y = axisDist torus n y x := by
    intro n x y
    unfold axisDist
    have : (if x ≤ y then y - x else x - y) = (if y ≤ x then x - y else y - x) := by
      split <;> split <;> omega
    simp only [this]
  have hds : ∀ (ds : List Nat) (a b : Coord), axisDists torus ds a b = axisDists torus ds b a := by
    intro ds
    induction ds with
    | nil =>
      intro a b
      cases a <;> cases b <;> rfl
    | cons n ns ih =>
      intro a b
      cases a with
      | nil => cases b <;> rfl
      | cons x xs =>
        cases b with
        | nil => rfl
        | cons y ys => simp only [axisDists, hax n x y, ih xs ys]
  unfold withinRadius
  rw [hds dims c c']

/-- `get_neighborhood_mask(c, include_center, radius)` kept as a mask: what the op leaves behind — the saved mask is
    the predicate both output forms describe, no layer value and no shape changes — and the model's *definition* of
    that predicate, spelled out: the cells of the grid within `radius` steps of `c` in the grid's metric (king moves for
    Moore, rook steps for von Neumann; the shorter way round on a torus), `c` itself iff `include_center`.  That this
    metric ball is what `get_neighborhood` enumerates is not said here: `C11_neighborhood_mask_is_hop_closure_partial`
    (Props/C11Ball.lean, against C07's model, on a sample of grids) and the oracle (against the running code). -/
theorem C11_neighborhood_mask_exact {s s' : State} {k : Nat} {moore torus : Bool} {c : Coord} {ic : Bool}
    {r : Nat} {list : List Coord} {mask : List Bool}
    (h : nbhdMask s k (some moore) torus c ic r = (s', .sel list mask)) :
    ∃ m, s'.masks.lookup k = some m ∧
      (∀ c', m c' = true ↔ inBounds s.dims c' = true ∧
        (if c' = c then ic = true else withinRadius moore torus s.dims c r c' = true)) ∧
      list = (cells s.dims).filter m ∧ mask = (cells s.dims).map m ∧
      (∀ l c', s'.value l c' = s.value l c') ∧ s'.dims = s.dims := by
  unfold nbhdMask at h
  simp only at h
  split at h
  · simp at h
  · split at h
    · simp at h
    · simp only [Prod.mk.injEq, Out.sel.injEq] at h
      obtain ⟨rfl, rfl, rfl⟩ := h
      refine ⟨_, by simp, fun c' => ?_, rfl, rfl, fun _ _ => rfl, rfl⟩
      simp only [Bool.and_eq_true]
      refine and_congr_right fun _ => ?_
      split
      · exact Iff.rfl
      · exact Iff.rfl

/-- A saved mask among the `masks=` of a grid selection restricts it: every selected cell satisfies that
    mask, whatever other masks, `only_empty`, conditions and extreme values are given — so selecting with a
    neighbourhood mask returns only cells of that neighbourhood (`C11_neighborhood_mask_exact`), and the extreme
    values are taken among the neighbourhood's cells that pass the other filters (`C11_select_exact`). -/
theorem C11_select_within_saved_mask {s s' : State} {k : Nat} {m : Coord → Bool} (hk : s.masks.lookup k = some m)
    {others : List MaskRef} {oe : Bool} {conds : List (String × (Int → Bool))}
    {exts : List (String × Option Bool)} {save : Option Nat} {list : List Coord} {mask : List Bool}
    (h : step s (.select (.saved k :: others) oe conds exts save) = (s', .sel list mask)) :
    ∀ c ∈ list, inBounds s.dims c = true ∧ m c = true := by
  simp only [step, resolveMasks, hk] at h
  cases hr : resolveMasks s others with
  | none =>
    rw [hr] at h
    simp at h
  | some ms =>
    rw [hr] at h
    simp only [Option.map_some] at h
    cases hsel : selectMask s ⟨m :: ms, oe, conds, exts⟩ with
    | error e =>
      rw [hsel] at h
      simp at h
    | ok m2 =>
      rw [hsel] at h
      have hl : list = (cells s.dims).filter m2 := by
        cases save <;> simp only [Prod.mk.injEq, Out.sel.injEq] at h <;> exact h.2.1.symm
      intro c hc
      rw [hl] at hc
      obtain ⟨hcc, hm2⟩ := List.mem_filter.mp hc
      have hf := ExtSpec_base ((C11_select_exact hsel hcc).mp hm2)
      exact ⟨mem_cells.mp hcc, hf.1 m (List.mem_cons_self ..)⟩

/-! ## non-vacuity: the hypotheses are satisfiable by non-trivial reachable states -/

/-- a cell space with capacity 1: a layer written through the layer, re-pointed by a conditional
    `modify_cells`, an agent placed, a reference taken before a second re-pointing -/
private def demo : State :=
  (run (init .new [2, 3] (some 1))
    [.create "a" .int 0, .layerSet 1 [1, 2] 5, .layerSet 1 [0, 0] 5, .place 7 [0, 1],
     .modifyCells 1 true (some (· + 1)) (some (fun x => decide (x > 3))), .grab 0 1,
     .modifyCells 1 true (some (· * 2)) none]).1

example : Reach demo := reach_run (Reach.init ..) _
/-- `C11_two_views_one_value` needs reachability: in a state whose descriptor registry lost the entry the dict still has,
    the cell attribute is gone while the layer is there — and after a history that adds, removes and re-adds layers
    (one of them under the name of a removed one) the two registries do agree -/
example : cellGet { init .new [1, 1] none with descr := [] } "empty" [0, 0] = .err .attr ∧
    layerGet { init .new [1, 1] none with descr := [] } 0 [0, 0] = .val 1 := by decide +kernel
example : (run (init .new [1, 2] none) [.create "a" .int 3, .newLayer "a" [1, 2] .int 5, .detach "a", .attach 2,
    .detach "empty", .cellGet "a" [0, 1]]).2.getLast? = some (.val 5) ∧
    (run (init .new [1, 2] none) [.create "a" .int 3, .newLayer "a" [1, 2] .int 5, .detach "a", .attach 2,
    .detach "empty"]).1.descr = [("a", 2)] := by decide +kernel
example : demo.named? "a" = some 1 ∧ inBounds demo.dims [1, 2] = true := by decide +kernel
example : cellGet demo "a" [1, 2] = .val 12 ∧ layerGet demo 1 [1, 2] = .val 12 ∧ hget demo 0 [1, 2] = .val 6 := by decide +kernel
example : empties demo = .emp (some [1, 0, 1, 1, 1, 1]) [true, false, true, true, true, true] := by decide +kernel
/-- ties in the extreme value are all returned; the occupied cell is excluded by `only_empty` -/
example : selectCells demo ⟨[fun _ => true], true, [("a", fun x => decide (x ≥ 0))], [("a", some true)]⟩
    = .sel [[0, 0], [1, 2]] [true, false, false, false, false, true] := by decide +kernel
example : selectCells demo ⟨[], true, [], [("a", some false)]⟩
    = .sel [[0, 2], [1, 0], [1, 1]] [false, false, true, true, true, false] := by decide +kernel
/-- a history that never writes layer 1 (`noWrite`) although it creates and re-points another layer,
    detaches and re-attaches layer 1 and moves an agent: the value written before it is still read -/
example : noWrite 1 (run (init .new [2, 2] none) [.create "a" .int 0, .cellSet "a" [0, 1] 7]).1
    [.create "b" .int 1, .modifyCells 2 true (some (· + 1)) none, .detach "a", .place 0 [0, 1], .attach 1] := by
  refine ⟨?_, ?_, ?_, ?_, ?_, trivial⟩
  · simp [Op.mayWrite]
  · simp [Op.mayWrite]
  · simp [Op.mayWrite]
  · simp only [Op.mayWrite, not_and]
    intro _
    decide +kernel
  · simp [Op.mayWrite]
example : cellGet (run (init .new [2, 2] none) [.create "a" .int 0, .cellSet "a" [0, 1] 7,
    .create "b" .int 1, .modifyCells 2 true (some (· + 1)) none, .detach "a", .place 0 [0, 1], .attach 1]).1 "a" [0, 1]
    = .val 7 := by decide +kernel
/-- safe histories that hold a reference to the emptiness array: a cell space whose `grid.empty.data` is grabbed, read
    after a placement (the reference is live: it shows the 0), next to a write through a reference to *another* layer;
    a SingleGrid whose `empty_mask` is grabbed and read -/
example : safeHist (init .new [2, 2] (some 1)) [.grab 5 0, .place 0 [0, 1], .hget 5 [0, 1], .create "a" .int 0, .grab 1 1,
    .hset 1 [0, 0] 7, .move 0 [1, 1], .hdump 5, .empties] := by decide +kernel
example : (run (init .new [2, 2] (some 1)) [.grab 5 0, .place 0 [0, 1], .hget 5 [0, 1], .create "a" .int 0, .grab 1 1,
    .hset 1 [0, 0] 7, .move 0 [1, 1], .hdump 5]).2.getLast? = some (.arr [1, 1, 1, 0]) := by decide +kernel
example : safeHist (init .single [2, 2] none) [.grabMask 0, .place 3 [1, 0], .hget 0 [1, 0], .remove 3, .hdump 0] := by decide +kernel
/-- … and the one thing that is excluded: `grid.empty_mask[0, 0] = False` on an empty SingleGrid is unsafe in that state,
    the view is then wrong at that cell and `only_empty` misses it -/
example : Op.safeAt (run (init .single [2, 2] none) [.grabMask 0]).1 (.hset 0 [0, 0] 0) = false ∧
    (run (init .single [2, 2] none) [.grabMask 0, .hset 0 [0, 0] 0, .empties, .select [] true [] [] none]).2 =
    [.ok, .ok, .emp (some [0, 1, 1, 1]) [true, true, true, true],
     .sel [[0, 1], [1, 0], [1, 1]] [false, true, true, true]] := by decide +kernel
/-- a capacity of 0 is a capacity (repair SC3): nobody enters, every cell stays empty; no capacity: everybody does -/
example : (run (init .new [1, 2] (some 0)) [.place 0 [0, 0], .empties]).2 =
    [.err .full, .emp (some [1, 1]) [true, true]] ∧
    (run (init .new [1, 2] none) [.place 0 [0, 0], .place 1 [0, 0], .empties]).2 =
    [.ok, .ok, .emp (some [0, 1]) [false, true]] := by decide +kernel
/-- the converse at work: the history that writes `False` into `empty_mask[0, 0]` is statically safe, the written cell is
    the only one in `aliasWrites`, and the view is indeed wrong there and right elsewhere -/
example : (∀ op ∈ [Op.grabMask 0, .hset 0 [0, 0] 0, .place 1 [1, 1]], op.safe .single = true) ∧
    aliasWrites (init .single [2, 2] none) [.grabMask 0, .hset 0 [0, 0] 0, .place 1 [1, 1]] [0, 0] ∧
    ¬ aliasWrites (init .single [2, 2] none) [.grabMask 0, .hset 0 [0, 0] 0, .place 1 [1, 1]] [1, 1] ∧
    empties (run (init .single [2, 2] none) [.grabMask 0, .hset 0 [0, 0] 0, .place 1 [1, 1]]).1 =
      .emp (some [0, 1, 1, 0]) [true, true, true, false] := by
  refine ⟨by decide +kernel, ?_, ?_, by decide +kernel⟩
  · simp [aliasWrites, step, grabMask, init]
  · simp [aliasWrites, step, grabMask, init]
/-- aliasing at work on a legacy grid: `b.data = a.data`; a write through `a` shows in `b` and in `grid.properties["b"]`;
    after `a` is re-pointed by `modify_cells` the two part again (`b` keeps the old array) -/
example : (rebind (run (init .multi [1, 2] none) [.create "a" .int 1, .create "b" .int 5, .grab 0 0]).1 1 0).2 = .ok ∧
    (run (rebind (run (init .multi [1, 2] none) [.create "a" .int 1, .create "b" .int 5, .grab 0 0]).1 1 0).1
      [.layerSet 0 [0, 1] 9, .cellGet "b" [0, 1], .modifyCells 0 false (some (· + 1)) none, .layerSet 0 [0, 0] 3,
       .dump 1, .dump 0]).2 = [.ok, .val 9, .ok, .ok, .arr [1, 9], .arr [3, 10]] := by decide +kernel
/-- legacy MultiGrid with two agents in one cell: the mask turns true only when the last one leaves -/
example : ((run (init .multi [2, 2] none) [.place 0 [0, 1], .place 1 [0, 1], .remove 0, .empties, .remove 1, .empties]).2.drop 3)
    = [.emp (some [1, 0, 1, 1]) [true, false, true, true], .ok, .emp (some [1, 1, 1, 1]) [true, true, true, true]] := by
  decide +kernel

/-- the clash rule at work on a reachable state: `is_empty` is refused, `a` is attached and read through the cell -/
example : (run (init .new [2, 2] none) [.newLayer "is_empty" [2, 2] .int 0, .attach 1, .create "a" .int 3, .cellGet "a" [1, 1],
    .cellGet "is_empty" [1, 1]]).2 = [.id 1, .err (.value .clash), .id 2, .val 3, .err .attr] := by decide +kernel
example : "is_empty" ∈ reservedNames ∧ "a" ∉ reservedNames := by decide +kernel

/-- dtypes at work on a reachable state: a float written through the cell attribute of an int layer is
    truncated toward zero (2.75 ↦ 2, -2.75 ↦ -2) and read back so through the layer; `set_cells` refuses the
    float; `modify_cells(np.add, 0.5, cond)` re-points the layer to a float array holding the same numbers
    (3 ↦ 3.5 where the condition held, 2 ↦ 2.0, -2 ↦ -2.0 elsewhere); now the same cell write is exact -/
example : (run (init .new [2, 2] none)
    [.create "a" .int 3, .cellSet "a" [0, 0] (.py ⟨.float, 11⟩), .layerGet 1 [0, 0],
     .cellSet "a" [0, 1] (.py ⟨.float, -11⟩), .cellGet "a" [0, 1],
     .setCells 1 (.py ⟨.float, 8⟩) none, .dtype 1,
     .modifyU 1 false .add ⟨.float, 2⟩ (some fun x => x == 3), .dtype 1, .dump 1,
     .cellSet "a" [0, 0] (.py ⟨.float, 11⟩), .layerGet 1 [0, 0]]).2 =
    [.id 1, .ok, .val 2, .ok, .val (-2), .err .type, .dt .int, .ok, .dt .float, .arr [8, -8, 14, 14],
     .ok, .val 11] := by decide +kernel
/-- a bool layer: any non-zero number written through a cell is `True`; `set_cells(1)` is refused, `set_cells(True)`
    is not; numpy has no `bool - bool`; `bool + int` makes it an int layer -/
example : (run (init .single [1, 2] none)
    [.create "b" .bool 0, .cellSet "b" [0, 1] (.py ⟨.float, -2⟩), .dump 0, .setCells 0 (.py ⟨.int, 1⟩) none,
     .setCells 0 (.py ⟨.bool, 1⟩) (some fun x => x == 0), .modifyU 0 false .sub ⟨.bool, 1⟩ none,
     .modifyU 0 false .add ⟨.int, 2⟩ none, .dtype 0, .dump 0]).2 =
    [.id 0, .ok, .arr [0, 1], .err .type, .ok, .err .type, .ok, .dt .int, .arr [3, 3]] := by decide +kernel
example : (⟨.float, -11⟩ : Val).ok ∧ (⟨.bool, 1⟩ : Val).ok ∧ sameKind .bool .int = true ∧ sameKind .float .int = false := by
  simp [Val.ok, sameKind, DType.rank]
/-- a history that never re-types layer 1 although it writes floats into it, re-points another layer to a
    wider dtype and re-points layer 1 itself without changing its type -/
example : noRetype 1 [.cellSet "a" [0, 0] (.py ⟨.float, 11⟩), .modifyU 2 false .add ⟨.float, 2⟩ none,
    .modifyCells 1 true (some (· + 1)) none, .setCells 1 (.py ⟨.bool, 1⟩) none] := by
  intro op hop
  simp only [List.mem_cons, List.mem_nil_iff, or_false] at hop
  rcases hop with rfl | rfl | rfl | rfl <;> simp [Op.mayRetype]

/-- `from_data` copies: the layer made from a reference to layer 1's array keeps 3 when the source cell is
    overwritten with 9, and has the source's dtype -/
example : (run (init .new [1, 2] none)
    [.create "a" .float 3, .grab 0 1, .fromData "b" 0, .hset 0 [0, 1] 9, .dump 2, .dump 1, .dtype 2, .attach 2,
     .cellGet "b" [0, 1]]).2 = [.id 1, .ok, .id 2, .ok, .arr [3, 3], .arr [3, 9], .dt .float, .ok, .val 3] := by decide +kernel
/-- legacy `modify_cell(pos, np.add, 0.5)` on an int layer keeps the integer part; `modify_cells` promotes -/
example : (run (init .multi [1, 2] none)
    [.create "a" .int 3, .modifyCellU 0 [0, 0] .add ⟨.float, 2⟩, .dump 0, .dtype 0,
     .modifyU 0 false .add ⟨.float, 2⟩ none, .dump 0, .dtype 0]).2 =
    [.id 0, .ok, .arr [3, 3], .dt .int, .ok, .arr [14, 14], .dt .float] := by decide +kernel

/-- a von Neumann torus 3×3: the radius-1 neighbourhood of the corner wraps round; selecting the highest `a`
    with that mask looks only at the neighbourhood (the 9 at the far cell [1, 1] is not seen) -/
example : (run (init .new [3, 3] none)
    [.create "a" .int 0, .layerSet 1 [1, 1] 9, .layerSet 1 [0, 1] 5, .layerSet 1 [2, 0] 5,
     .nbhdMask 0 (some false) true [0, 0] false 1,
     .select [.saved 0] false [] [("a", some true)] none]).2.drop 4 =
    [.sel [[0, 1], [0, 2], [1, 0], [2, 0]] [false, true, true, true, false, false, true, false, false],
     .sel [[0, 1], [2, 0]] [false, true, false, false, false, false, true, false, false]] := by decide +kernel

/-- a layer on two grids: written through the second grid's cell (2.75 into an int layer: 2), read through the
    first grid's cell; the second grid refuses `empty` and names of the cell class like the first -/
example : (run (init .new [2, 2] none)
    [.create "a" .int 0, .cellSet2 1 [1, 0] (.py ⟨.float, 11⟩), .cellGet "a" [1, 0], .cellGet2 1 [1, 0], .cellGet2 0 [0, 0],
     .newLayer "agents" [2, 2] .int 0, .cellSet2 2 [0, 0] 1]).2 =
    [.id 1, .ok, .val 2, .val 2, .err (.value .exists), .id 2, .err (.value .clash)] := by decide +kernel

/-- conditional `set_cells` with an array value is positional: only the cell whose *old* value is 0 takes the
    source's entry *at that cell* (7), not the first entry of the source (5) -/
example : (run (init .new [1, 3] none)
    [.create "a" .int 1, .create "b" .float 0, .layerSet 1 [0, 0] 5, .layerSet 1 [0, 2] 7, .layerSet 2 [0, 1] 4, .grab 0 1,
     .setFrom 2 0 (some fun x => x == 0), .dump 2, .grab 1 2, .setFrom 1 1 none]).2.drop 6 =
    [.ok, .arr [20, 4, 28], .ok, .err .type] := by decide +kernel

/-- 2.75 as the default of an int layer is 2 through both views; -0.5 as the default of a bool layer is True;
    True as the default of a float layer is 1.0 -/
example : (run (init .new [1, 2] none)
    [.create "a" .int (.py ⟨.float, 11⟩), .cellGet "a" [0, 1], .layerGet 1 [0, 1], .dtype 1,
     .create "b" .bool (.py ⟨.float, -2⟩), .cellGet "b" [0, 0], .create "c" .float (.py ⟨.bool, 1⟩), .dump 3]).2 =
    [.id 1, .val 2, .val 2, .dt .int, .id 2, .val 1, .id 3, .arr [4, 4]] := by decide +kernel

/-- the layer's own selection and aggregates on a reachable state: list and mask of the cells above 2, sum, max, min;
    a layer without cells has a sum (0) but no maximum -/
example : (run (init .new [1, 3] none)
    [.create "a" .int 2, .layerSet 1 [0, 1] 5, .layerSelect 1 (fun x => decide (x > 2)), .aggregate 1 .sum,
     .aggregate 1 .max, .aggregate 1 .min, .newLayer "z" [0, 2] .int 0, .aggregate 2 .sum, .aggregate 2 .max]).2.drop 2 =
    [.sel [[0, 1]] [false, true, false], .val 9, .val 5, .val 2, .id 2, .val 0, .err (.value .empty)] := by decide +kernel

/-- a free-standing layer without entries (new implementation): `np.vectorize` refuses a Python function and a condition
    (`ValueError`, nothing changes), a ufunc with its operand and an unconditional `set_cells` go through — the ufunc
    still re-types the layer — and no grid can take the layer (a second grid of its shape cannot even be built) -/
example : (run (init .new [1, 1] none)
    [.newLayer "z" [0, 2] .int 0, .modifyCells 1 true (some (· + 1)) none,
     .setCells 1 (.raw 1) (some fun x => decide (x > 0)), .modifyCells 1 false (some (· + 1)) none, .setCells 1 (.raw 1) none,
     .modifyCells 1 false none (some fun x => decide (x > 0)), .modifyCells 1 false none none,
     .modifyU 1 true .add ⟨.float, 2⟩ none, .modifyU 1 false .add ⟨.float, 2⟩ none, .dtype 1,
     .grab 0 1, .setFrom 1 0 (some fun x => x == 0), .setFrom 1 0 none,
     .cellGet2 1 [0, 0], .attach 1, .layerSelect 1 (fun x => x == 0), .dump 1]).2 =
    [.id 1, .err (.value .size0), .err (.value .size0), .ok, .ok, .err (.value .size0), .err (.value .ufunc),
     .err (.value .size0), .ok, .dt .float, .ok, .err (.value .size0), .ok,
     .err (.value .dims), .err (.value .dims), .sel [] [], .arr []] := by decide +kernel
/-- the guard theorems are not vacuous either way: the layer above has a zero dimension, an attached one has not -/
example : (0 : Nat) ∈ [0, 2] ∧ (0 : Nat) ∉ (init .new [2, 3] (some 1)).dims := by decide +kernel

/-- the code's own caveat, on a reachable state: an attribute given to the grid *before* the layer exists is not
    protected — `grid.a` then reads the user's object, while cell attribute and layer still are one value;
    after the layer exists the assignment is refused -/
example : (run (init .new [1, 2] none)
    [.gridSet "a", .create "a" .int 3, .dumpName "a", .cellGet "a" [0, 1], .create "b" .int 4, .gridSet "b",
     .dumpName "b", .detach "b", .gridSet "b"]).2 =
    [.ok, .id 1, .err .shadowed, .val 3, .id 2, .err .attr, .arr [4, 4], .ok, .ok] := by decide +kernel

end Mesa.Layers
