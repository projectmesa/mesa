import MesaModel.Proofs.LegacySetOrder
/-!
# C01 (legacy-grid part) — the iteration order of a Python set never reaches an observable

Two places of the legacy grids take their population from a `set`: `move_to_empty` picks with
`agent.random.choice(sorted(self.empties))` (at most `cutoff_empties` empty cells), and `_HexGrid.get_neighborhood` collects
`coordinates` in a set and returns `tuple(sorted(coordinates))`.  Model/LegacySetOrder.lean states both with the set as a list
in an *arbitrary* iteration order (`es`; for the hex set: any insertion function `ins` that adds the member, wherever hashing puts
it) and applies `sorted(...)` = `sortedOf` where the code does.  The theorems: a permutation of the iteration order changes neither
the chosen cell nor the generator state afterwards; the number of draws depends on sizes only; and these order-explicit versions
*are* the model the C08 / C09 theorems are about (which keeps sets in canonical sorted form).
-/
namespace Mesa.Legacy

/-- **`sorted(set)` does not depend on the iteration order**: strictly sorted, the same members, and equal for any two
    orders of the same set (even with repetitions) -/
theorem C01_legacy_sorted_set_order_independent (l l' : List Coord) (h : l.Perm l') :
    sortedOf l = sortedOf l' ∧ SortedSet (sortedOf l) ∧ ∀ x, x ∈ sortedOf l ↔ x ∈ l :=
  ⟨sortedOf_perm l l' h, sorted_sortedOf l, mem_sortedOf l⟩

/-- **`move_to_empty`: the same chosen cell and the same generator state afterwards for every iteration order of `empties`** -/
theorem C01_legacy_move_to_empty_pick_order_independent (g : Grid) (es es' : List Coord) (h : es.Perm es') (s : Grid.Script) :
    g.pickEmpty es s = g.pickEmpty es' s := by
  simp only [Grid.pickEmpty, h.length_eq, sortedOf_perm es es' h]

/-- **draws consumed depend on sizes only**: with at most `cutoff` empty cells exactly one draw `x` is consumed and the pick is
    `sorted(empties)[x % len(empties)]` (no draw left: the generator is exhausted); with more, the population is not the set at
    all — the pick is the sampling loop's, which consumes draws in pairs -/
theorem C01_legacy_move_to_empty_draws_by_size (g : Grid) (es : List Coord) (hnd : es.Nodup) :
    (0 < es.length → es.length ≤ g.cutoff →
      g.pickEmpty es [] = none ∧
      ∀ x xs, ∃ q, (sortedOf es)[x % es.length]? = some q ∧ g.pickEmpty es (x :: xs) = some (q, xs)) ∧
    (g.cutoff < es.length → ∀ s, g.pickEmpty es s = g.pickLoopS s) := by
  refine ⟨fun hpos hle => ?_, fun hgt s => by simp [Grid.pickEmpty, hgt]⟩
  have hlen : (sortedOf es).length = es.length := (sortedOf_perm_self es hnd).length_eq
  have hne : sortedOf es ≠ [] := fun h => by rw [h] at hlen; simp at hlen; omega
  have hng : ¬ es.length > g.cutoff := by omega
  obtain ⟨h0, h1⟩ := choice_draws (sortedOf es) hne
  refine ⟨by simp [Grid.pickEmpty, hng, h0], fun x xs => ?_⟩
  obtain ⟨q, hq, hc⟩ := h1 x xs
  rw [hlen] at hq
  exact ⟨q, hq, by simp [Grid.pickEmpty, hng, hc]⟩

/-- **the order-explicit pick is the model's `move_to_empty`**: for any state whose views agree and any duplicate-free listing
    `es` of its empty cells — in whatever order — `move_to_empty` is: `No empty cells` if there is none, else the pick above
    followed by `remove_agent` + `place_agent` (`removePlace`); so the call's outcome cannot depend on the order -/
theorem C01_legacy_move_to_empty_is_the_model (g : Grid) (hi : Inv g) (a : Aid) (s : Grid.Script) (es : List Coord)
    (hnd : es.Nodup) (hes : ∀ p, p ∈ es ↔ g.inGrid p ∧ g.content p = []) :
    g.moveToEmpty a s =
      if es = [] then (g.readEmpties.1, .err .noEmpty)
      else match g.pickEmpty es s with
        | none => (g.readEmpties.1, .err .script)
        | some (q, _) => removePlace g.readEmpties.1 a q := by
  have hsorted : sortedOf es = g.buildEmpties :=
    SortedSet.ext (sorted_sortedOf es) (sorted_buildEmpties g) (fun c => by rw [mem_sortedOf, hes c, mem_buildEmpties])
  have hlen : g.buildEmpties.length = es.length := by rw [← hsorted]; exact (sortedOf_perm_self es hnd).length_eq
  rw [moveToEmpty_unfold g hi a s, hlen]
  by_cases hnil : es = []
  · simp [hnil]
  · have hl0 : es.length ≠ 0 := fun h => hnil (List.eq_nil_of_length_eq_zero h)
    rw [if_neg hl0, if_neg hnil]
    unfold Grid.pickEmpty
    by_cases hgt : es.length > g.cutoff
    · rw [if_pos hgt, if_pos hgt, ← pickLoopS_fst]
      cases g.pickLoopS s with
      | none => rfl
      | some r => rfl
    · rw [if_neg hgt, if_neg hgt, hsorted]
      unfold Grid.choice
      rw [hlen]
      cases Grid.below s es.length with
      | none => rfl
      | some r =>
        obtain ⟨i, s'⟩ := r
        simp only []
        cases g.buildEmpties[i]? <;> rfl

/-- **hex neighbourhoods: any representation of the set `coordinates`** (`ins c v` = `coordinates.add(c)`: any function that
    adds the member, whatever position hashing gives it) yields the very tuple the model computes — for every grid, centre,
    flag and radius; no draw is involved -/
theorem C01_legacy_hex_neighborhood_set_order_independent (ins ins' : Coord → List Coord → List Coord) (h : SetIns ins)
    (h' : SetIns ins') (d : Dim) (pos : Coord) (ic : Bool) (r : Nat) :
    hexComputeW ins d pos ic r = hexComputeW ins' d pos ic r ∧ hexComputeW ins d pos ic r = hexCompute d pos ic r :=
  ⟨by rw [hexComputeW_eq ins h, hexComputeW_eq ins' h'], hexComputeW_eq ins h d pos ic r⟩

/-! ## non-vacuity -/

example : sortedOf [(1, 0), (0, 1), (2, 2), (0, 0)] = [(0, 0), (0, 1), (1, 0), (2, 2)] := by decide +kernel
example : [((1, 0) : Coord), (0, 1), (0, 0)].Perm [(0, 0), (1, 0), (0, 1)] := by decide +kernel
/-- two iteration orders of the three empty cells of a 2x2 grid, one draw: the same cell, the same rest of the script -/
example : (init 2 2 false false 13).pickEmpty [(1, 0), (0, 1), (0, 0)] [5, 9] = some ((1, 0), [9]) := by decide +kernel
example : (init 2 2 false false 13).pickEmpty [(0, 0), (1, 0), (0, 1)] [5, 9] = some ((1, 0), [9]) := by decide +kernel
/-- two set representations: members prepended / appended -/
example : SetIns (fun c v => c :: v) := fun c v x => by simp
example : SetIns (fun c v => v ++ [c]) := fun c v x => by simp [or_comm]
example : hexComputeW (fun c v => c :: v) ⟨4, 4, false⟩ (1, 1) false 1 = [(0, 0), (0, 1), (1, 0), (1, 2), (2, 0), (2, 1)] := by decide +kernel
example : hexComputeW (fun c v => v ++ [c]) ⟨4, 4, false⟩ (1, 1) false 1 = [(0, 0), (0, 1), (1, 0), (1, 2), (2, 0), (2, 1)] := by decide +kernel

end Mesa.Legacy
