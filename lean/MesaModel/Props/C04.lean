import MesaModel.Proofs.Activation
import MesaModel.Props.C02
/-!
# C04 — one activation calls each surviving member exactly once, even under churn

Property theorems only (model: `Model/Registry.lean` + `Model/Activation.lean`; helper lemmas:
`Proofs/Activation.lean`).  All statements hold for **every** world `w` (any registries, any program-held
references, any sets), **every** callback script family `script : Aid → List Action` (on its turn an agent
may remove itself, remove any other agent — earlier, later, held or not —, create agents in any model, make
the program drop references, add agents to / discard agents from program-made sets including the activated one, in
any combination and number), every family `raises : Aid → Bool` of callbacks that end by raising, and every argument.

* `walk script arg w refs` is the loop `for ref in refs: if (agent := ref()) is not None: method(agent, arg)`;
  `doSet` is `walk` over the snapshot `members w t` (`list(keyrefs())`), `shuffleDo` over the shuffled snapshot.
* `visited script arg w refs` is the list of agents the loop invoked, in order; `C04_log_is_invocations`
  ties it to the invocation log (with the argument each callback received).
* `alive w a` ⇔ `a` was created ∧ (registered in its model ∨ held by the program): the refcounting fact.
-/
namespace Mesa.Agents

/-- The invocation log of one activation is exactly `visited`, and every callback received the
    argument that was passed to `do` / `shuffle_do` / `map`, unchanged. -/
theorem C04_log_is_invocations (script : Aid → List Action) (arg : Nat) (w : World) (refs : List Aid) :
    (walk script arg w refs).log = w.log ++ (visited script arg w refs).map (fun a => (a, arg)) :=
  walk_log script arg w refs

/-- Nobody is invoked twice, everybody invoked was a member when the call started, and the invocations
    happen in the visiting order (set order for `do`/`map`): the invoked agents are a sublist of the
    snapshot. -/
theorem C04_never_twice_only_members_in_order (script : Aid → List Action) (arg : Nat) (w : World) (t : Target)
    (hn : (rawMembers w t).Nodup) :
    (visited script arg w (members w t)).Sublist (members w t) ∧
    (visited script arg w (members w t)).Nodup ∧
    ∀ a ∈ visited script arg w (members w t), a ∈ rawMembers w t ∧ alive w a = true := by
  have hs := visited_sublist script arg w (members w t)
  refine ⟨hs, (hn.sublist (members_sublist w t)).sublist hs, fun a ha => ?_⟩
  have := hs.subset ha
  simp only [members, List.mem_filter] at this
  exact this

/-- Exactly the members that are alive at their own turn are invoked: `a` is invoked iff it is a
    member and, after the turns of the members before it, it is still registered or held. -/
theorem C04_invoked_iff_alive_at_turn (script : Aid → List Action) (arg : Nat) (w : World) (refs : List Aid)
    (hn : refs.Nodup) (a : Aid) :
    a ∈ visited script arg w refs ↔
      ∃ pre post, refs = pre ++ a :: post ∧ alive (walk script arg w pre) a = true := by
  -- true of every reference list, one that repeats a member too: `hn` is not needed
  have _ := hn
  exact mem_visited_iff script arg w refs a

/-- Every member that survives the whole call (is still registered in its model, or still held by the
    program, when the call returns) was invoked — exactly once. -/
theorem C04_survivor_invoked_exactly_once (script : Aid → List Action) (arg : Nat) (w : World) (t : Target)
    (hn : (rawMembers w t).Nodup) (a : Aid) (ha : a ∈ members w t)
    (hend : alive (doSet script arg w t) a = true) :
    (visited script arg w (members w t)).count a = 1 :=
  visited_count_of_alive_end script arg w _ (hn.sublist (members_sublist w t)) (members_lt w t) a ha hend

/-- An agent that was removed from its model before its turn, and that the program does not hold, is not
    invoked — and neither is it at any later point of the call: the dead stay dead whatever the callbacks do. -/
theorem C04_removed_unheld_never_invoked (script : Aid → List Action) (arg : Nat) (w : World)
    (pre post : List Aid) (a : Aid) (hn : (pre ++ a :: post).Nodup)
    (hdead : alive (walk script arg w pre) a = false) :
    a ∉ visited script arg w (pre ++ a :: post) ∧
    (a < w.info.length → ∀ more, alive (walk script arg (walk script arg w pre) more) a = false) := by
  refine ⟨fun hv => ?_, fun hlt more => ?_⟩
  · obtain ⟨pre', post', h1, h2⟩ := (mem_visited_iff script arg w _ a).mp hv
    have hpre : pre' = pre := nodup_split_unique hn h1
    rw [hpre, hdead] at h2
    simp at h2
  · cases hal : alive (walk script arg (walk script arg w pre) more) a with
    | false => rfl
    | true =>
      have hle := le_walk script arg (walk script arg w pre) more
      have := hle.dead a (Nat.lt_of_lt_of_le hlt (le_walk script arg w pre).len) hal
      rw [hdead] at this
      simp at this

/-- Agents created during the call are never invoked by it. -/
theorem C04_created_during_call_never_invoked (script : Aid → List Action) (arg : Nat) (w : World) (t : Target)
    (a : Aid) (hnew : w.info.length ≤ a) : a ∉ visited script arg w (members w t) := by
  intro h
  exact absurd (members_lt w t a ((visited_sublist script arg w _).subset h)) (Nat.not_lt.mpr hnew)

/-- `shuffle_do` visits in exactly the order `shuffle()` would have produced from the same generator
    state — an in-place `shuffle` from that state makes the set's own order equal to the visiting order and
    leaves the generator in the same state —, that order is a permutation of the snapshot, and the shuffle
    step of `shuffle_do` leaves the order of every set (and everything but the generator) untouched. -/
theorem C04_shuffle_do_order (script : Aid → List Action) (arg : Nat) (w : World) (t : Target)
    (h : t.exists? w = true) :
    let refs := (Rng.shuffle (members w t) (rngOf w t)).1
    let g := (Rng.shuffle (members w t) (rngOf w t)).2
    shuffleDo script arg w t = walk script arg (setRng w (t.model w) g) refs ∧
    rawMembers (shuffleInPlace w t) t = refs ∧ rngOf (shuffleInPlace w t) t = g ∧
    refs.Perm (members w t) ∧
    (∀ t', rawMembers (setRng w (t.model w) g) t' = rawMembers w t' ∧
           members (setRng w (t.model w) g) t' = members w t') ∧
    (∀ a, alive (setRng w (t.model w) g) a = alive w a) :=
  ⟨rfl, (shuffleInPlace_spec w t h).1, (shuffleInPlace_spec w t h).2, Rng.shuffle_perm _ _,
   fun t' => ⟨setRng_rawMembers _ _ _ t', setRng_members _ _ _ t'⟩, fun a => setRng_alive _ _ _ a⟩

/-- `map` is the same walk as `do`, and its result list is aligned with the invocations: the i-th result
    is what the i-th invoked agent returned. -/
theorem C04_map_results_aligned (script : Aid → List Action) (arg : Nat) (ret : Aid → Nat → Nat) (w : World)
    (t : Target) :
    (mapSet script arg ret w t).1 = doSet script arg w t ∧
    (mapSet script arg ret w t).2 = (visited script arg w (members w t)).map (fun a => ret a arg) :=
  ⟨congrArg Prod.fst (walkMap_eq script arg ret w _), congrArg Prod.snd (walkMap_eq script arg ret w _)⟩

/-- `GroupBy.do`: activating group after group (each group an AgentSet with its own fresh snapshot) is one
    walk over the members regrouped by key — groups in order of first occurrence of their key, members in
    set order inside a group — so every statement above applies to it with that visiting order; the
    regrouped order is a permutation of the snapshot. -/
theorem C04_groupby_do_is_regrouped_walk (script : Aid → List Action) (arg : Nat) (key : Aid → Nat) (w : World)
    (t : Target) :
    groupDo script arg key w t = walk script arg w ((groupBy key (members w t)).map (·.2)).flatten ∧
    ((groupBy key (members w t)).map (·.2)).flatten.Perm (members w t) :=
  ⟨groupDo_eq script arg key w t, groupBy_flatten_perm key _⟩

/-- `GroupBy.map`: the same state change as `GroupBy.do`, and the result dict has the group keys in group
    order (first occurrence of each key among the members). -/
theorem C04_groupby_map_like_do (script : Aid → List Action) (arg : Nat) (ret : Aid → Nat → Nat) (key : Aid → Nat)
    (w : World) (t : Target) :
    (groupMap script arg ret key w t).1 = groupDo script arg key w t ∧
    (groupMap script arg ret key w t).2.map (·.1) = (groupBy key (members w t)).map (·.1) := by
  obtain ⟨h1, h2, _⟩ := groupMap_fold script arg ret _ w [] (groupBy_members_lt key w t) (r := groupMap script arg ret key w t) rfl
  exact ⟨h1.trans (groupDo_eq script arg key w t).symm, by simpa using h2⟩

/-- `GroupBy.map` returns the results of exactly the agents it invoked, in invocation order: the result lists of the dict
    (whose keys are the group keys in group order, `C04_groupby_map_like_do`), read one after the other, are the results of
    the agents invoked by the regrouped walk (the result lists, not only the keys). -/
theorem C04_groupby_map_results_aligned (script : Aid → List Action) (arg : Nat) (ret : Aid → Nat → Nat) (key : Aid → Nat)
    (w : World) (t : Target) :
    ((groupMap script arg ret key w t).2.map (·.2)).flatten
      = (visited script arg w ((groupBy key (members w t)).map (·.2)).flatten).map (fun a => ret a arg) := by
  simpa using (groupMap_fold script arg ret _ w [] (groupBy_members_lt key w t)
    (r := groupMap script arg ret key w t) rfl).2.2

/-- The duplicate-freeness assumed above holds at every reachable state (C02): after **any** history —
    including earlier activations with churn and in-place shuffles — one activation of any set invokes
    nobody twice, and every member that survives the call is invoked exactly once. -/
theorem C04_exactly_once_all_histories (ops : List Op) (script : Aid → List Action) (arg : Nat) (t : Target) :
    let w := run World.empty ops
    (visited script arg w (members w t)).Nodup ∧
    ∀ a ∈ members w t, alive (doSet script arg w t) a = true →
      (visited script arg w (members w t)).count a = 1 :=
  ⟨(C04_never_twice_only_members_in_order script arg _ t (C02_sets_nodup_all_histories ops t)).2.1,
   fun a ha hend => C04_survivor_invoked_exactly_once script arg _ t (C02_sets_nodup_all_histories ops t) a ha hend⟩

/-- **Never twice, only members, never the newly created, survivors exactly once — for every visiting order.**  The
    statements above hold for *any* reference list that is a permutation of the snapshot, walked from any world `w'`
    in which the same agents are alive (for `shuffle_do`: `w` with the generator advanced): nobody is invoked twice,
    everybody invoked was a member at call start, nobody created later is invoked, and every member still alive when
    the walk ends was invoked exactly once.  Instances: `shuffle_do` (the shuffled snapshot) and `GroupBy.do` (the
    snapshot regrouped by key), whose final states are exactly these walks. -/
theorem C04_every_visiting_order_never_twice_survivors_once (script : Aid → List Action) (arg : Nat) (w w' : World)
    (t : Target) (refs : List Aid) (hn : (rawMembers w t).Nodup) (hp : refs.Perm (members w t))
    (hlen : w'.info.length = w.info.length) :
    (visited script arg w' refs).Nodup ∧
    (∀ a ∈ visited script arg w' refs, a ∈ members w t) ∧
    (∀ a, w.info.length ≤ a → a ∉ visited script arg w' refs) ∧
    (∀ a ∈ members w t, alive (walk script arg w' refs) a = true → (visited script arg w' refs).count a = 1) := by
  have hs := visited_sublist script arg w' refs
  have hnd : refs.Nodup := hp.nodup_iff.mpr (hn.sublist (members_sublist w t))
  have hlt : ∀ x ∈ refs, x < w'.info.length := fun x hx => by
    rw [hlen]
    exact members_lt w t x (hp.subset hx)
  refine ⟨hnd.sublist hs, fun a ha => hp.subset (hs.subset ha), fun a hnew ha => ?_, fun a ha hend => ?_⟩
  · have hlt' : a < w'.info.length := hlt a (hs.subset ha)
    rw [hlen] at hlt'
    exact absurd hlt' (Nat.not_lt.mpr hnew)
  · exact visited_count_of_alive_end script arg w' refs hnd hlt a (hp.symm.subset ha) hend

/-- …instantiated: one `shuffle_do` and one `GroupBy.do` invoke nobody twice, only members of the snapshot, and every
    member that is alive when the call returns exactly once (`order` = the agents invoked, in order). -/
theorem C04_shuffle_do_and_groupby_do_exactly_once (script : Aid → List Action) (arg : Nat) (key : Aid → Nat) (w : World)
    (t : Target) (hn : (rawMembers w t).Nodup) :
    (let g := (Rng.shuffle (members w t) (rngOf w t)).2
     let order := visited script arg (setRng w (t.model w) g) (Rng.shuffle (members w t) (rngOf w t)).1
     order.Nodup ∧ (∀ a ∈ order, a ∈ members w t) ∧
     ∀ a ∈ members w t, alive (shuffleDo script arg w t) a = true → order.count a = 1) ∧
    (let order := visited script arg w ((groupBy key (members w t)).map (·.2)).flatten
     order.Nodup ∧ (∀ a ∈ order, a ∈ members w t) ∧
     ∀ a ∈ members w t, alive (groupDo script arg key w t) a = true → order.count a = 1) := by
  constructor
  · have h := C04_every_visiting_order_never_twice_survivors_once script arg w
      (setRng w (t.model w) (Rng.shuffle (members w t) (rngOf w t)).2) t (Rng.shuffle (members w t) (rngOf w t)).1 hn
      (Rng.shuffle_perm _ _) (by rw [setRng_info])
    exact ⟨h.1, h.2.1, h.2.2.2⟩
  · have h := C04_every_visiting_order_never_twice_survivors_once script arg w w t
      ((groupBy key (members w t)).map (·.2)).flatten hn (groupBy_flatten_perm key _) rfl
    rw [(C04_groupby_do_is_regrouped_walk script arg key w t).1]
    exact ⟨h.1, h.2.1, h.2.2.2⟩

/-- **An activation leaves the set's own order untouched** (program-made sets; for `model.agents` and the by-type sets the
    order after any history is fixed by C02's `C02_creation_order_unless_reordered`, for which no activation counts as a
    reordering).  Whatever the callbacks remove, create or drop — as long as they do not themselves edit sets —, after
    `do`, `shuffle_do`, `map` and `GroupBy.do` every program-made set has exactly the key list it had before the call:
    `shuffle_do` shuffles a private copy only, and what the set shows afterwards is its old order minus the dead. -/
theorem C04_activation_leaves_program_made_sets_as_they_are (script : Aid → List Action)
    (hne : ∀ a, ∀ act ∈ script a, act.isSetEdit = false) (arg : Nat) (ret : Aid → Nat → Nat) (key : Aid → Nat)
    (w : World) (t : Target) :
    (doSet script arg w t).sets = w.sets ∧ (shuffleDo script arg w t).sets = w.sets ∧
    (mapSet script arg ret w t).1.sets = w.sets ∧ (groupDo script arg key w t).sets = w.sets ∧
    ∀ k, (∀ a ∈ rawMembers w (.set k), a < w.info.length) →
      members (shuffleDo script arg w t) (.set k) = (members w (.set k)).filter (alive (shuffleDo script arg w t)) := by
  have hsd : (shuffleDo script arg w t).sets = w.sets := by
    simp only [shuffleDo]
    rw [walk_sets script hne, setRng_sets]
  refine ⟨walk_sets script hne arg w _, hsd, ?_, ?_, fun k hk => ?_⟩
  · rw [(C04_map_results_aligned script arg ret w t).1]
    exact walk_sets script hne arg w _
  · rw [(C04_groupby_do_is_regrouped_walk script arg key w t).1]
    exact walk_sets script hne arg w _
  · have hle : Le w (shuffleDo script arg w t) := (le_setRng w _ _).trans (le_walk script arg _ _)
    have hraw : rawMembers (shuffleDo script arg w t) (.set k) = rawMembers w (.set k) := by
      simp only [rawMembers, hsd]
    simp only [members, hraw, List.filter_filter]
    apply List.filter_congr
    intro a ha
    cases h1 : alive (shuffleDo script arg w t) a with
    | false => simp
    | true => simp [hle.dead a (hk a ha) h1]

/-! ### callbacks that raise, callbacks that edit the activated set -/

/-- **A callback that raises ends the call at the raiser.**  Whatever the callbacks do and whichever of them raise,
    the activation is an ordinary walk over a prefix `pre` of the reference list (so every theorem above applies to
    it): if an exception leaves the call, `pre` ends with the raiser `a`, which was alive at its turn and is the
    last agent invoked; everybody invoked before it did not raise; nobody behind it is invoked (the log holds exactly
    the invocations of `pre`).  If no exception leaves the call, the whole list was walked and nobody invoked raises. -/
theorem C04_exception_ends_the_call_at_the_raiser (script : Aid → List Action) (raises : Aid → Bool) (arg : Nat)
    (w : World) (refs : List Aid) :
    ∃ pre post, refs = pre ++ post ∧
      (walkX script raises arg w refs).1 = walk script arg w pre ∧
      (walkX script raises arg w refs).1.log = w.log ++ (visited script arg w pre).map (fun a => (a, arg)) ∧
      ((walkX script raises arg w refs).2 = true →
        ∃ pre' a, pre = pre' ++ [a] ∧ alive (walk script arg w pre') a = true ∧ raises a = true ∧
          visited script arg w pre = visited script arg w pre' ++ [a] ∧
          ∀ b ∈ visited script arg w pre', raises b = false) ∧
      ((walkX script raises arg w refs).2 = false → post = [] ∧ ∀ b ∈ visited script arg w refs, raises b = false) := by
  obtain ⟨pre, post, h1, h2, h3, h4⟩ := walkX_spec script raises arg w refs
  refine ⟨pre, post, h1, h2, by rw [h2]; exact walk_log script arg w pre, ?_, h4⟩
  intro hx
  obtain ⟨pre', a, e1, e2, e3, e4⟩ := h3 hx
  refine ⟨pre', a, e1, e2, e3, ?_, e4⟩
  rw [e1, visited_append, visited_alive _ e2]
  rfl

/-- `map`, `GroupBy.do` and `GroupBy.map` under exceptions: `map` changes the state exactly as `do` does and returns
    no list iff an exception leaves the call, otherwise the results of the invoked agents in order; `GroupBy.do` —
    whose loop over the groups is left by the first exception — is the raising walk over the members regrouped by
    key; `GroupBy.map` changes the state as `GroupBy.do` and returns no dict iff an exception leaves the call; and
    callbacks that never raise give the plain activation. -/
theorem C04_map_and_groupby_under_exceptions (script : Aid → List Action) (raises : Aid → Bool) (arg : Nat)
    (ret : Aid → Nat → Nat) (key : Aid → Nat) (w : World) (t : Target) :
    ((mapSetX script raises arg ret w t).1 = (doSetX script raises arg w t).1 ∧
     ((mapSetX script raises arg ret w t).2 = none ↔ (doSetX script raises arg w t).2 = true) ∧
     ∀ rs, (mapSetX script raises arg ret w t).2 = some rs →
       rs = (visited script arg w (members w t)).map (fun a => ret a arg)) ∧
    groupDoX script raises arg key w t
      = walkX script raises arg w ((groupBy key (members w t)).map (·.2)).flatten ∧
    ((groupMapX script raises arg ret key w t).1 = (groupDoX script raises arg key w t).1 ∧
     ((groupMapX script raises arg ret key w t).2 = none ↔ (groupDoX script raises arg key w t).2 = true)) ∧
    (∀ refs, walkX script (fun _ => false) arg w refs = (walk script arg w refs, false)) :=
  ⟨walkMapX_spec script raises arg ret w (members w t), groupDoX_eq script raises arg key w t,
   groupsMapX_spec script raises arg ret w _, fun refs => walkX_never script arg w refs⟩

/-- **Callbacks may edit the activated set.**  `add` / `discard` calls a callback makes on program-made sets — the
    very set being activated included — are invisible to the walk: the same agents are invoked, in the same order,
    as by the same callbacks without those calls, and the two final worlds differ in nothing but the program-made
    sets (registries, references, log identical).  In particular, when the callbacks do nothing else, every member
    present at call start is invoked exactly once in set order — also one that an earlier callback discarded from
    the set — and nobody that was added. -/
theorem C04_set_edits_invisible_to_the_walk (script : Aid → List Action) (arg : Nat) (w : World) (refs : List Aid) :
    visited script arg w refs = visited (stripEdits script) arg w refs ∧
    (∃ s', walk script arg w refs = withSets (walk (stripEdits script) arg w refs) s') ∧
    ((∀ a, stripEdits script a = []) → ∀ t, visited script arg w (members w t) = members w t) := by
  have h := walk_withSets script arg refs w w.sets
  rw [withSets_self] at h
  refine ⟨h.2, h.1, fun hs t => visited_of_no_churn script arg w _ hs ?_⟩
  intro a ha
  simp only [members, List.mem_filter] at ha
  exact ha.2

/-! ### non-vacuity: churn in one concrete activation -/

private def demoWorld : World :=
  (((((newModel World.empty ⟨[3, 1, 4, 1, 5]⟩ |> (createAgent · 0 0 false)) |> (createAgent · 0 1 true))
    |> (createAgent · 0 0 false)) |> (createAgent · 0 2 false)) |> (createAgent · 0 0 false))

/-- agent 0 removes agent 2 (not held: dies) and agent 1 (held: stays callable) and creates an agent;
    agent 3 removes itself and agent 0 (already invoked) -/
private def demoScript : Aid → List Action
  | 0 => [.rm 2, .rm 1, .create 0 0 1 false]
  | 3 => [.rmSelf, .rm 0]
  | _ => []

example : members demoWorld (.all 0) = [0, 1, 2, 3, 4] := by decide +kernel
example : visited demoScript 7 demoWorld (members demoWorld (.all 0)) = [0, 1, 3, 4] := by decide +kernel
example : members (doSet demoScript 7 demoWorld (.all 0)) (.all 0) = [4, 5] ∧
    (doSet demoScript 7 demoWorld (.all 0)).log = [(0, 7), (1, 7), (3, 7), (4, 7)] := by decide +kernel
example : visited demoScript 7 (setRng demoWorld 0 (Rng.shuffle (members demoWorld (.all 0)) (rngOf demoWorld (.all 0))).2)
    (Rng.shuffle (members demoWorld (.all 0)) (rngOf demoWorld (.all 0))).1 = [0, 4, 1, 3] := by decide +kernel

/-- agent 1 (held) removes agent 2 and then raises: the call ends there — 0 and 1 were invoked, 3 and 4 never -/
private def demoRaises : Aid → Bool := fun a => a == 1

example : walkX (fun a => if a = 1 then [.rm 2] else []) demoRaises 7 demoWorld (members demoWorld (.all 0))
    = (walk (fun a => if a = 1 then [.rm 2] else []) 7 demoWorld [0, 1], true) := by decide +kernel
example : (doSetX (fun a => if a = 1 then [.rm 2] else []) demoRaises 7 demoWorld (.all 0)).1.log = [(0, 7), (1, 7)] ∧
    members (doSetX (fun a => if a = 1 then [.rm 2] else []) demoRaises 7 demoWorld (.all 0)).1 (.all 0) = [0, 1, 3, 4] := by
  decide +kernel
example : ((groupMap demoScript 7 (fun a x => a * 100 + x) (GroupKey.ty.eval demoWorld) demoWorld (.all 0)).2) =
    [(0, [7, 407]), (1, [107]), (2, [307])] := by decide +kernel
example : (mapSetX demoScript demoRaises 7 (fun a x => a * 100 + x) demoWorld (.all 0)).2 = none ∧
    (mapSetX demoScript (fun _ => false) 7 (fun a x => a * 100 + x) demoWorld (.all 0)).2 = some [7, 107, 307, 407] := by
  decide +kernel

/-- the activated set is program-made set 0 = [0, 1, 2, 3]; agent 0 discards agent 2 from it and adds agent 4, agent 1
    discards itself: everybody present at call start is still invoked, agent 4 is not; the set ends as [0, 3, 4] -/
private def demoSetWorld : World := mkSet demoWorld 0 [0, 1, 2, 3]
private def demoEdits : Aid → List Action
  | 0 => [.discardFrom 0 2, .addTo 0 4]
  | 1 => [.discardFrom 0 1]
  | _ => []

/-- `shuffle_do` under churn (`demoScript` removes agents 2, 1, 3, 0 and creates one): the program-made set keeps its key
    list; afterwards it shows its old order minus the dead (1 is held, 0 2 3 died) -/
example : (shuffleDo demoScript 7 demoSetWorld (.set 0)).sets = demoSetWorld.sets ∧
    members (shuffleDo demoScript 7 demoSetWorld (.set 0)) (.set 0) = [1] ∧
    (∀ a, a < 6 → ∀ act ∈ demoScript a, act.isSetEdit = false) := by decide +kernel

example : visited demoEdits 7 demoSetWorld (members demoSetWorld (.set 0)) = [0, 1, 2, 3] ∧
    members (doSet demoEdits 7 demoSetWorld (.set 0)) (.set 0) = [0, 3, 4] ∧
    (∀ a, a < 6 → stripEdits demoEdits a = []) := by decide +kernel

end Mesa.Agents
