import MesaModel.Proofs.StepCounter
import MesaModel.Proofs.StepMro
import MesaModel.Proofs.StepNested
import MesaModel.Proofs.StepBinding
/-!
# C05 — every `step()` call advances `model.steps` by exactly one, before user code

Property theorems only.  Models: `Model/StepBinding.lean` (the binding of `step` on the instance; first four theorems),
`Model/StepCounter.lean`, `Model/StepMro.lean`, `Model/StepNested.lean`; helper lemmas: `Proofs/StepBinding.lean`,
`Proofs/StepCounter.lean`, `Proofs/StepMro.lean`, `Proofs/StepNested.lean`.
A hierarchy `h : Hier` is any list of levels (any depth), most derived class first; each level
independently inherits or overrides `step`, calls `super().step(...)` or not, takes arguments or not.
`callStep i args` is `model.step(*args)` on instance `i`: the new instance state, the records the
user bodies made (`depth`, `steps` as seen inside, arguments received), and whether it returned
normally (`false` = `TypeError` from an argument mismatch somewhere along the chain).
`overriding h 0` lists the depths of the levels that define `step`, in MRO order.

Multiple inheritance (`Model/StepMro.lean`): classes may have several bases (other classes, `mesa.Model` = class 0,
or none at all = a plain mixin); a `Table` records the MRO Python computes for each class by C3 linearisation, and an
instance of class `c` runs through the hierarchy `T.hier lvls c` = the classes of its MRO in front of `Model`.  All
theorems of the first part are about *every* hierarchy, hence about every instance of every class of every table; the
last part says what the MRO is and what that means for the bodies (`TInv T`: `T` is a table of linearisations — true
for every table reachable by class definitions, `C05_class_tables_are_linearisations`).

Nested calls (`Model/StepNested.lean`): a step body may step *another* model instance; `stepNested` / `runNested`
return the calls in the order they start, and the theorems say they are ordinary calls.
-/
namespace Mesa.Steps

/-- **One call, one increment — because of how `Model.__init__` binds `step`.**  Take any hierarchy, construct an instance
    (`__new__`, optionally a subclass `__init__` that assigns `self.step = f` before `super().__init__()`, then
    `Model.__init__`: `self._user_step = self.step; self.step = self._wrapped_step`), and let the program do anything that
    does not re-bind the name `step` on the instance — calls with any arguments, returning normally or leaving with an
    exception (a `TypeError` of the class chain, a `RuntimeError` raised by user code), assignments to `_user_step`.  Then the next `model.step(*args)` finds the wrapper in the instance `__dict__`, advances `steps` by
    exactly one, the wrapper stays in place, and `steps` equals the number of calls made so far. -/
theorem C05_increments_exactly_once (h : Hier) (stopAt : Nat) (pre : Option Nat) (rz : Option Nat) (ops : List BOp)
    (hops : ∀ op ∈ ops, op.rebindsStep = false) (args : List Int) :
    let o := (Obj.construct h stopAt pre rz).run ops
    (o.call args).obj.inst.steps = o.inst.steps + 1 ∧
    (o.call args).obj.dictStep = some .wrapper ∧
    o.inst.steps = (ops.filter (·.isCall)).length := by
  obtain ⟨hw, hs, _⟩ := construct_run h stopAt pre rz ops hops
  have := call_wrapped_steps _ hw args
  exact ⟨this.1, this.2.1, hs⟩

/-- The increment happens before any user code: everything that runs during the call — the step bodies of the class
    chain, or the function the program supplied as `step` / `_user_step` — sees the already incremented counter. -/
theorem C05_increment_before_user_code (h : Hier) (stopAt : Nat) (pre : Option Nat) (rz : Option Nat) (ops : List BOp)
    (hops : ∀ op ∈ ops, op.rebindsStep = false) (args : List Int) :
    let o := (Obj.construct h stopAt pre rz).run ops
    (∀ e ∈ (o.call args).entries, e.steps = o.inst.steps + 1) ∧ (∀ c ∈ (o.call args).fns, c.steps = o.inst.steps + 1) := by
  obtain ⟨hw, _⟩ := construct_run h stopAt pre rz ops hops
  exact (call_wrapped_steps _ hw args).2.2.2

/-- What the wrapper delegates to is what the lookup `self.step` found when `Model.__init__` ran: without an instance
    attribute the class's own `step` — then the call is exactly `callStepR` of the chain model below (`callStep` when no class body
    raises), whose theorems say which bodies run —, and a function assigned before `super().__init__()` otherwise (called once, arguments unchanged,
    no class body runs). -/
theorem C05_wrapper_delegates_to_step_captured_at_init (h : Hier) (stopAt : Nat) (pre : Option Nat) (rz : Option Nat)
    (ops : List BOp)
    (h1 : ∀ op ∈ ops, op.rebindsStep = false) (h2 : ∀ op ∈ ops, ∀ f, op ≠ .setUser f) (args : List Int) :
    let o := (Obj.construct h stopAt pre rz).run ops
    (pre = none → (o.call args).entries = (callStepR o.inst rz args).2.1 ∧ (o.call args).ok = (callStepR o.inst rz args).2.2 ∧
        (o.call args).obj.inst = (callStepR o.inst rz args).1 ∧ (o.call args).fns = []) ∧
    (∀ f, pre = some f → (o.call args).entries = [] ∧ (o.call args).fns = [⟨f, o.inst.steps + 1, args⟩] ∧
        (o.call args).ok = !raisesFn f) := by
  obtain ⟨hw, _, hrz, hu⟩ := construct_run h stopAt pre rz ops h1
  have hu := hu h2
  refine ⟨fun hp => ?_, fun f hp => ?_⟩
  · subst hp
    have := call_wrapped_chain _ hw hu args
    rw [hrz] at this
    exact this
  · subst hp
    exact call_wrapped_fn _ hw f hu args

/-- **What the code does when the program re-binds `step` on the instance** (`model.step = f`, `del model.step`): the
    wrapper is gone for good and the counter stands still — the counter counts exactly the calls made while the
    wrapper was still the instance's `step`.  (The property speaks of `step` defined on classes; this is the boundary.) -/
theorem C05_rebinding_step_on_the_instance_stops_the_counter (h : Hier) (stopAt : Nat) (pre : Option Nat)
    (before : List BOp) (op : BOp) (after : List BOp)
    (hb : ∀ x ∈ before, x.rebindsStep = false) (hop : op.rebindsStep = true) :
    ((Obj.construct h stopAt pre).run (before ++ op :: after)).inst.steps = (before.filter (·.isCall)).length ∧
    ((Obj.construct h stopAt pre).run (before ++ op :: after)).dictStep ≠ some .wrapper :=
  construct_run_rebound h stopAt pre none before op after hb hop

/-- non-vacuity: a two-level chain, the base level overriding `step`; a function assigned before `Model.__init__`; re-binding -/
example : ((Obj.construct [⟨false, false, false⟩, ⟨true, false, true⟩] 9 none).call [4]).entries = [⟨1, 1, [4]⟩] := by decide +kernel
example : ((Obj.construct [] 9 (some 50)).call []).ok = false ∧ ((Obj.construct [] 9 (some 50)).call []).obj.inst.steps = 1 := by decide +kernel
example : ((Obj.construct [⟨true, true, false⟩] 9 (some 3)).call [4]).fns = [⟨3, 1, [4]⟩] ∧
    ((Obj.construct [⟨true, true, false⟩] 9 (some 3)).call [4]).entries = [] := by decide +kernel
example : (((Obj.construct [⟨true, false, false⟩] 9 none).run [.call [], .assign 2, .call [], .del, .call []]).inst.steps = 1) ∧
    (((Obj.construct [⟨true, false, false⟩] 9 none).run [.call [], .assign 2]).call []).fns = [⟨2, 1, []⟩] ∧
    (((Obj.construct [⟨true, false, false⟩] 9 none).run [.call [], .del]).call []).entries = [⟨0, 1, []⟩] := by decide +kernel

/-! ### the class chain (`callStep` = the wrapper delegating to the class's `step`, the case of the theorem above) -/

/-- The user bodies that run are an initial segment of the levels that define `step`, in MRO
    order, each at most once; the wrapper itself is never re-entered (there is exactly one
    increment: `callStep` is the wrapper of `C05_increments_exactly_once`). -/
theorem C05_bodies_are_override_chain (i : Inst) (args : List Int) :
    ((callStep i args).2.1.map (·.depth)) <+: overriding i.hier 0 ∧
    ((callStep i args).2.1.map (·.depth)).Pairwise (· < ·) := by
  have h := runChain_prefix i.hier 0 args (i.steps + 1)
  exact ⟨h, (overriding_sorted i.hier 0).sublist h.sublist⟩

/-- **Exactly which bodies run** (lower and upper bound at once, for every hierarchy and every argument list): of the
    levels that define `step`, in MRO order, take those in front of the first one that cannot accept the arguments
    (`def step(self)` reached with arguments); the bodies that run are these up to and including the first that does not
    call `super().step(...)` — each of them, each once, each seeing the incremented counter and the caller's arguments;
    the call raises `TypeError` iff there are arguments and every body that ran called super. -/
theorem C05_bodies_are_exactly_the_super_chain (i : Inst) (args : List Int) :
    let good := (ovLevels i.hier 0).takeWhile (fun p => args.isEmpty || p.2.takesArgs)
    let n := (good.takeWhile (fun p => p.2.callsSuper)).length
    (callStep i args).2.1 = (good.take (n + 1)).map (fun p => ⟨p.1, i.steps + 1, args⟩) ∧
    (callStep i args).2.2 = (args.isEmpty || decide (n < good.length)) ∧
    (ovLevels i.hier 0).map (·.1) = overriding i.hier 0 ∧
    ∀ p ∈ ovLevels i.hier 0, i.hier[p.1]? = some p.2 ∧ p.2.overrides = true := by
  have h := runChain_eq_chainSpec i.hier 0 args (i.steps + 1)
  exact ⟨congrArg Prod.fst h, congrArg Prod.snd h, ovLevels_depths _ _, fun p hp => (mem_ovLevels.mp hp).2⟩

/-- non-vacuity: three overriding levels, the middle one `def step(self)`: with an argument only the first body runs and the
    call raises; without arguments all three run -/
example : (callStep (Inst.new [⟨true, true, true⟩, ⟨true, true, false⟩, ⟨true, false, true⟩] 9) [4]).2 = ([⟨0, 1, [4]⟩], false) := by decide +kernel
example : ((callStep (Inst.new [⟨true, true, true⟩, ⟨true, true, false⟩, ⟨true, false, true⟩] 9) []).2.1.map (·.depth)) = [0, 1, 2] := by
  decide +kernel

/-- **A class body that raises** (`def step(self): …; raise …` in a class of the hierarchy, possibly between
    two `super()` levels).  Compare a call on an instance of a class whose body at depth `r` raises (`callStepR`) with the
    same call were that body not to raise (`callStep`): the counter is incremented once all the same, before any body; the
    bodies that run are an initial segment of those that would have run; if the chain never reaches depth `r` nothing at all
    differs; and if it does, exactly the bodies up to and including that one run — no body behind the raiser, although its
    level may call `super().step()` — and the call does not return normally. -/
theorem C05_raising_class_body_cuts_the_chain (i : Inst) (r : Nat) (args : List Int) :
    (callStepR i (some r) args).1.steps = i.steps + 1 ∧ callStepR i none args = callStep i args ∧
    (callStepR i (some r) args).2.1 <+: (callStep i args).2.1 ∧
    (∀ e ∈ (callStepR i (some r) args).2.1, e.steps = i.steps + 1) ∧
    ((∀ e ∈ (callStep i args).2.1, e.depth ≠ r) → callStepR i (some r) args = callStep i args) ∧
    (∀ pre e post, (callStep i args).2.1 = pre ++ e :: post → e.depth = r → (∀ x ∈ pre, x.depth ≠ r) →
      (callStepR i (some r) args).2.1 = pre ++ [e] ∧ (callStepR i (some r) args).2.2 = false) := by
  have hpre : (callStepR i (some r) args).2.1 <+: (callStep i args).2.1 := cutAt_prefix _ _
  refine ⟨rfl, rfl, hpre, fun e he => runChain_steps _ _ _ _ e (hpre.subset he), fun hno => ?_, fun pre e post hfull he hp => ?_⟩
  · have h1 := cutAt_of_not_reached (res := runChain i.hier 0 args (i.steps + 1)) hno
    simp only [callStepR, h1, callStep]
  · have h1 := cutAt_of_reached (res := runChain i.hier 0 args (i.steps + 1)) hfull he hp
    exact ⟨congrArg Prod.fst h1, congrArg Prod.snd h1⟩

/-- non-vacuity: three levels all calling super, the middle one raises: bodies 0 and 1 run, body 2 does not, the counter moved;
    a raiser the chain never reaches (level 0 does not call super) changes nothing -/
example : callStepR (Inst.new [⟨true, true, false⟩, ⟨true, true, false⟩, ⟨true, false, false⟩] 9) (some 1) [] =
    ({ (Inst.new [⟨true, true, false⟩, ⟨true, true, false⟩, ⟨true, false, false⟩] 9) with steps := 1, execs := 2 },
      [⟨0, 1, []⟩, ⟨1, 1, []⟩], false) ∧
    callStepR (Inst.new [⟨true, false, false⟩, ⟨true, true, false⟩] 9) (some 1) [] =
      callStep (Inst.new [⟨true, false, false⟩, ⟨true, true, false⟩] 9) [] := by decide +kernel

/-- A call without arguments never raises, and if some level defines `step` the most derived
    such level runs first (inherited from an intermediate base class or overridden directly). -/
theorem C05_most_derived_override_runs_first (i : Inst) :
    (callStep i []).2.2 = true ∧
    ((callStep i []).2.1.map (·.depth)).head? = (overriding i.hier 0).head? := by
  refine ⟨congrArg Prod.snd (runChain_noargs _ _ _), ?_⟩
  show ((runChain i.hier 0 [] (i.steps + 1)).1.map (·.depth)).head? = _
  rw [runChain_noargs, ← ovLevels_depths]
  simp [List.head?_take]
  rfl

/-- `super().step()` links: a body is followed by another one only if its level calls super. -/
theorem C05_next_body_only_through_super (i : Inst) (args : List Int) (pre : List Entry) (e : Entry)
    (post : List Entry) (h : (callStep i args).2.1 = pre ++ e :: post) (hpost : post ≠ []) :
    ∃ L, i.hier[e.depth]? = some L ∧ L.callsSuper = true := by
  rw [show (callStep i args).2.1 = (runChain i.hier 0 args (i.steps + 1)).1 from rfl, runChain_eq_chainSpec] at h
  obtain ⟨pre', r, hr, rfl, hmap⟩ := List.map_eq_append_iff.mp h
  obtain ⟨p, post', rfl, rfl, rfl⟩ := List.map_eq_cons_iff.mp hmap
  have hp : p ∈ ovLevels i.hier 0 :=
    List.takeWhile_subset _ (List.take_subset _ _ (hr ▸ List.mem_append_right _ List.mem_cons_self))
  exact ⟨p.2, (mem_ovLevels.mp hp).2.1,
    of_take_takeWhile_succ (p := fun q : Nat × Level => q.2.callsSuper) hr (by simpa using hpost)⟩

/-- `step` not overridden anywhere: only the counter moves, no user code runs. -/
theorem C05_not_overridden_only_counter (i : Inst) (h : ∀ L ∈ i.hier, L.overrides = false) :
    callStep i [] = ({ i with steps := i.steps + 1 }, [], true) := by
  have hnil : ovLevels i.hier 0 = [] :=
    List.map_eq_nil_iff.mp ((ovLevels_depths _ _).trans (overriding_eq_nil.mpr h))
  simp [callStep, runChain_noargs, hnil]

/-- Arguments are handed to the user's step unchanged. -/
theorem C05_arguments_unchanged (i : Inst) (args : List Int) :
    ∀ e ∈ (callStep i args).2.1.head?, e.args = args :=
  fun e he => (runChain_entry _ _ _ _ e (List.mem_of_mem_head? he)).2

/-- `run_model` keeps stepping exactly until `running` becomes false: if it returns, it made `k`
    calls for some `k`, `running` was true before each of them and is false after the last; the
    counter advanced by exactly `k`. -/
theorem C05_run_model_exact (f : Nat) (i i' : Inst) (es : List Entry) (h : runModel f i = some (i', es)) :
    ∃ k, i' = stepN k i ∧ i'.running = false ∧ (∀ j, j < k → (stepN j i).running = true) ∧
      i'.steps = i.steps + k := by
  obtain ⟨k, h1, _, h2, h3⟩ := runModel_entries f i i' es h
  exact ⟨k, h1, h2, h3, by rw [h1, stepN_steps]⟩

/-- `run_model` is nothing but `k` ordinary `step()` calls made one after the other: the final state is that of `k` calls, the
    records it leaves are the records of those `k` calls in order, call by call (the bodies of call number `j`, counted from 0, all see
    `steps + j + 1`), `running` was true
    before each call and is false after the last, and the counter advanced by exactly `k`. -/
theorem C05_run_model_is_k_step_calls (f : Nat) (i i' : Inst) (es : List Entry) (h : runModel f i = some (i', es)) :
    ∃ k, i' = stepN k i ∧ es = entriesN k i ∧ i'.running = false ∧ (∀ j, j < k → (stepN j i).running = true) ∧
      i'.steps = i.steps + k ∧ (∀ e ∈ es, i.steps + 1 ≤ e.steps ∧ e.steps ≤ i.steps + k) ∧
      es = (List.range k).flatMap (fun j => (callStep (stepN j i) []).2.1) ∧
      ∀ j, j < k → ∀ e ∈ (callStep (stepN j i) []).2.1, e.steps = i.steps + j + 1 := by
  obtain ⟨k, rfl, rfl, h2, h3⟩ := runModel_entries f i i' es h
  exact ⟨k, rfl, rfl, h2, h3, stepN_steps k i, entriesN_steps k i, entriesN_eq_flatMap k i,
    fun j _ => callStep_stepN_steps j i⟩

example : runModel 10 (Inst.new [⟨true, false, false⟩] 3) =
    some (stepN 3 (Inst.new [⟨true, false, false⟩] 3), [⟨0, 1, []⟩, ⟨0, 2, []⟩, ⟨0, 3, []⟩]) := by decide +kernel

/-- …and it does return whenever some level's step body takes part in the stop rule. -/
theorem C05_run_model_terminates (i : Inst) (h : ∃ L ∈ i.hier, L.overrides = true) :
    ∃ f, (runModel f i).isSome = true := by
  apply runModel_terminates
  intro hnil
  obtain ⟨L, hL, ho⟩ := h
  have := overriding_eq_nil.mp hnil L hL
  simp [ho] at this

/-- The counter of one model is unaffected by any other model: an operation on instance `i`
    leaves every other instance exactly as it was. -/
theorem C05_instances_independent (w : List Inst) (op : Op) (j : Nat) (h : op.target ≠ j) :
    (apply w op)[j]? = w[j]? := apply_frame w op j h

/-- All interleavings of `step` calls (with any arguments), re-armings and halts on any number of
    coexisting instances: at the end the counter of instance `j` has advanced by exactly the number
    of `step` calls that were made on `j`. -/
theorem C05_all_interleavings_count (ops : List Op) (hnr : ∀ op ∈ ops, op.isRun = false)
    (w : List Inst) (j : Nat) (x : Inst) (hx : w[j]? = some x) :
    (run w ops)[j]?.map (·.steps) = some (x.steps + (ops.filter (·.isStepOn j)).length) :=
  run_steps ops hnr w j x hx

/-- **The history of one model is its own operations** (all interleavings, `run_model` included: only
    histories in which every `run_model` call *returns* are spoken about — `allReturn`; a `run_model` that would not come back
    is not counted as a no-op): in such a history, what instance `j` is at the end is what it would be had only the
    operations on `j` been performed, in the same order — and in that shorter history every call returns, too.  The operations
    on other models, however many and wherever interleaved, are invisible to it (counter, `running`, stop rule and all). -/
theorem C05_instance_history_is_its_own_ops (ops : List Op) (w : List Inst) (j : Nat) (hret : allReturn w ops = true) :
    allReturn w (ops.filter (fun op => op.target == j)) = true ∧
    (run w ops)[j]? = (run w (ops.filter (fun op => op.target == j)))[j]? :=
  run_own_ops j ops w w rfl hret

/-- a `run_model` on a model whose step never stops it does not return within any fuel given: such a history is not `allReturn` -/
example : allReturn [Inst.new [⟨true, false, false⟩] 100] [.run 0 3] = false ∧
    allReturn [Inst.new [⟨true, false, false⟩] 2, Inst.new [] 9] [.step 0 [], .step 1 [], .run 0 5, .step 1 [3], .halt 1, .step 0 []] = true := by
  decide +kernel

example : (run [Inst.new [⟨true, false, false⟩] 2, Inst.new [] 9] [.step 0 [], .step 1 [], .run 0 5, .step 1 [3], .halt 1, .step 0 []])[0]?.map
    (fun i => (i.steps, i.running)) = some (3, false) := by decide +kernel

/-! ## multiple inheritance: the MRO is the C3 linearisation -/

/-- Every table built by any sequence of (successful) class definitions — single or multiple inheritance,
    mixins, diamonds — is a table of linearisations. -/
theorem C05_class_tables_are_linearisations (defs : List (List Nat)) (T : Table)
    (h : defs.foldlM (fun (T : Table) b => T.define b) Table.init = some T) : TInv T :=
  TInv_foldlM defs Table.init T TInv_init h

/-- `class K(B1, …, Bn)`: if Python accepts the definition, the MRO of `K` starts with `K`, lists nobody twice,
    keeps the MRO of every base as a subsequence (monotonicity) and the bases in the order written (local
    precedence), and contains nothing but `K`, its bases and their ancestors; earlier classes are unaffected. -/
theorem C05_mro_is_c3_linearisation (T T' : Table) (hT : TInv T) (bases : List Nat) (h : T.define bases = some T') :
    TInv T' ∧ T'.length = T.length + 1 ∧ (∀ c, c < T.length → T'.mro c = T.mro c) ∧
    (T'.mro T.length).head? = some T.length ∧ (T'.mro T.length).Nodup ∧
    (∀ b ∈ bases, (T.mro b).Sublist (T'.mro T.length)) ∧ bases.Sublist (T'.mro T.length) ∧
    (∀ x ∈ T'.mro T.length, x = T.length ∨ x ∈ bases ∨ ∃ b ∈ bases, x ∈ T.mro b) := by
  have hT' := TInv_define hT h
  unfold Table.define at h
  obtain ⟨m, hl, rfl⟩ := Option.map_eq_some_iff.mp h
  obtain ⟨h1, h2, _, h4, h5, h6⟩ := Table.linearise_spec hT hl
  have hm : (T ++ [m]).mro T.length = m := by simp [Table.mro]
  refine ⟨hT', by simp, fun c hc => by simp [Table.mro, List.getElem?_append_left hc], ?_⟩
  rw [hm]
  exact ⟨h1, h2, h4, h5, h6⟩

/-- Single inheritance is the special case the first part models directly: the MRO of `class K(B)` is `K`
    followed by the MRO of `B`, so an instance of `K` runs through `K`'s level followed by the hierarchy of `B`. -/
theorem C05_single_inheritance_mro_is_the_chain (T : Table) (hT : TInv T) (b : Nat) (hb : b < T.length)
    (lvls : Nat → Level) :
    T.define [b] = some (T ++ [T.length :: T.mro b]) ∧
    (T ++ [T.length :: T.mro b]).hier lvls T.length = lvls T.length :: T.hier lvls b := by
  refine ⟨by simp [Table.define, Table.linearise_single hT hb], ?_⟩
  have hne : T.length ≠ 0 := by omega
  simp [Table.hier, Table.labels, Table.mro, hne]

/-- Whatever the class graph: during one `step()` on an instance of class `c` every user body that runs
    belongs to a class of `c`'s MRO in front of `Model` that defines `step`; the classes run in MRO order and
    **each at most once** — the shared base of a diamond runs once, not once per path. -/
theorem C05_each_class_body_once_in_mro_order (T : Table) (hT : TInv T) (lvls : Nat → Level) (c : Nat)
    (i : Inst) (hi : i.hier = T.hier lvls c) (args : List Int) :
    let ran := (callStep i args).2.1.filterMap (fun e => (T.labels c)[e.depth]?)
    ran.length = (callStep i args).2.1.length ∧ ran.Sublist (T.labels c) ∧ ran.Nodup ∧
    ∀ k ∈ ran, k ≠ 0 ∧ k ∈ T.mro c ∧ (lvls k).overrides = true := by
  intro ran
  obtain ⟨hran, hlen⟩ : ran = _ ∧ _ := callStep_labels lvls (T.labels c) i hi args
  have hsub : ran.Sublist (T.labels c) := by
    rw [hran]
    exact (List.take_sublist _ _).trans List.filter_sublist
  refine ⟨by rw [hran, List.length_take, Nat.min_eq_left hlen], hsub,
    ((Table.mro_spec hT c).2.sublist (List.takeWhile_sublist _)).sublist hsub, fun k hk => ?_⟩
  rw [hran] at hk
  obtain ⟨hk1, hk2⟩ := List.mem_filter.mp (List.mem_of_mem_take hk)
  have hk0 := List.all_eq_true.mp List.all_takeWhile k hk1
  exact ⟨by simpa using hk0, List.takeWhile_subset _ hk1, hk2⟩

/-! ## nested step calls across model instances -/

/-- **A `step()` made from inside another model's step body is an ordinary `step()`.**  Whatever the linking of
    instances (each body of `i` steps the instance `i` is linked to) and whatever the nesting fuel `f`, one
    call `model_i.step(*args)` — with the nested calls that fuel lets it set off (all of them when links point to later
    instances and `f ≥ w.length`: `C05_nested_fuel_is_immaterial`) — leaves all instances exactly as the same calls made one
    after the other at top level would; every call, nested or not, records what a top-level call records at that
    moment — in particular each of its bodies sees its *own* instance's counter already advanced by one; and the
    counter of every instance ends advanced by exactly the number of calls made on it, nested ones included.
    (No instance-external state: a guard or counter shared between models breaks the second clause.) -/
theorem C05_nested_calls_are_ordinary_calls (links : List (Option Nat)) (f : Nat) (w : List Inst) (i : Nat)
    (args : List Int) :
    let r := stepNested links f w i args
    r.1 = run w (r.2.map Call.toOp) ∧
    (∀ pre c post, r.2 = pre ++ c :: post →
      ∃ x, (run w (pre.map Call.toOp))[c.inst]? = some x ∧ (callStep x c.args).2 = (c.entries, c.ok) ∧
        ∀ e ∈ c.entries, e.steps = x.steps + 1) ∧
    (∀ j x, w[j]? = some x → r.1[j]?.map (·.steps) = some (x.steps + (r.2.filter (fun c => c.inst == j)).length)) := by
  intro r
  obtain ⟨h1, h2⟩ := stepNested_flat links f w i args
  refine ⟨h1, fun pre c post hc => ?_, fun j x hx => ?_⟩
  · obtain ⟨x, hx1, hx2⟩ := h2 pre c post hc
    exact ⟨x, hx1, hx2, fun e he => runChain_steps _ _ _ _ e
      ((show (callStep x c.args).2.1 = c.entries from congrArg Prod.fst hx2) ▸ he)⟩
  · show (stepNested links f w i args).1[j]?.map (·.steps) = _
    rw [h1]
    exact run_calls_steps _ w j x hx

/-- …and so is a `run_model()` whose steps set off nested calls. -/
theorem C05_nested_run_is_ordinary_calls (links : List (Option Nat)) (f : Nat) (w w' : List Inst) (i : Nat)
    (cs : List Call) (h : runNested links f w i = some (w', cs)) :
    w' = run w (cs.map Call.toOp) ∧
    ∀ j x, w[j]? = some x → w'[j]?.map (·.steps) = some (x.steps + (cs.filter (fun c => c.inst == j)).length) := by
  obtain ⟨h1, _⟩ := runNested_flat links f w i w' cs h
  exact ⟨h1, fun j x hx => h1 ▸ run_calls_steps cs w j x hx⟩

/-! ### non-vacuity, and the nesting fuel -/

/-- depth-4 chain: level 0 inherits, level 1 overrides and calls super with arguments, level 2 inherits,
    level 3 overrides without arguments and does not call super: `step()` runs bodies 1 and 3, both see 8. -/
example :
    let h : Hier := [⟨false, false, false⟩, ⟨true, true, true⟩, ⟨false, true, false⟩, ⟨true, false, false⟩]
    let i : Inst := { hier := h, steps := 7, running := true, execs := 0, stopAt := 5 }
    (callStep i []).2.1 = [⟨1, 8, []⟩, ⟨3, 8, []⟩] ∧ (callStep i []).2.2 = true ∧
    -- with an argument the chain breaks at level 3 (`def step(self)`): TypeError — after the increment
    (callStep i [4]).2 = ([⟨1, 8, [4]⟩], false) ∧ (callStep i [4]).1.steps = 8 := by decide +kernel

/-- `run_model` on that instance: stop rule at the 5th body execution, two bodies per call → 3 calls -/
example :
    let h : Hier := [⟨false, false, false⟩, ⟨true, true, true⟩, ⟨false, true, false⟩, ⟨true, false, false⟩]
    let i : Inst := { hier := h, steps := 7, running := true, execs := 0, stopAt := 5 }
    (runModel 10 i).map (fun r => (r.1.steps, r.1.running)) = some (10, false) := by decide +kernel

/-- two interleaved instances -/
example :
    let a : Inst := Inst.new [⟨true, false, false⟩] 9
    let b : Inst := Inst.new [] 9
    (run [a, b] [.step 0 [], .step 1 [], .step 0 [], .halt 1, .step 0 []]).map (·.steps) = [3, 1] := by decide +kernel

/-- a driver whose two bodies each step a sub-model, which itself steps a third: one `driver.step()` makes 1 + 2 + 2
    calls; the sub-model's bodies see its own counter (4, then 5), not the driver's -/
example :
    let d : Inst := { Inst.new [⟨true, true, false⟩, ⟨true, false, false⟩] 99 with steps := 10 }
    let s : Inst := { Inst.new [⟨true, false, false⟩] 99 with steps := 3 }
    let t : Inst := Inst.new [] 99
    let r := stepNested [some 1, some 2, none] 4 [d, s, t] 0 []
    r.1.map (·.steps) = [11, 5, 2] ∧
    r.2.map (fun c => (c.inst, c.entries.map (·.steps))) = [(0, [11, 11]), (1, [4]), (2, []), (1, [5]), (2, [])] := by
  decide +kernel

/-- the diamond `A(Model)`, `B(A)`, `C(A)`, `D(B, C)`, every class overriding `step` and calling `super().step()`:
    the MRO of `D` is D, B, C, A, Model — `B`'s `super()` leads to `C`, not to `A` — and one `step()` runs the four
    bodies once each, all seeing the incremented counter -/
example :
    let defs := [[0], [1], [1], [2, 3]]
    let lv : Nat → Level := fun _ => ⟨true, true, false⟩
    (defs.foldlM (fun (T : Table) b => T.define b) Table.init).map (fun T =>
      (T.mro 4, (callStep (Inst.new (T.hier lv 4) 9) []).2.1.map (fun e => ((T.labels 4)[e.depth]?, e.steps))))
    = some ([4, 2, 3, 1, 0], [(some 4, 1), (some 2, 1), (some 3, 1), (some 1, 1)]) := by decide +kernel

/-- a mixin in front of `Model` runs, the same mixin behind `Model` never does; `class X(Model, A)` with `A(Model)`
    has no consistent MRO (TypeError at class creation) -/
example :
    (([[], [1, 0], [0, 1]].foldlM (fun (T : Table) b => T.define b) Table.init).map fun T => (T.labels 2, T.labels 3)) = some ([2, 1], [3]) ∧
    [[0], [0, 1]].foldlM (fun (T : Table) b => T.define b) Table.init = none := by decide +kernel

/-- **The nesting fuel is immaterial** (it is a device of the model, not of the code): when links only point to instances
    created later — what the generator and the driver enforce; Python would raise `RecursionError` on a cycle — any two
    fuels at least the number of instances (the driver uses one more) give the same run; and with that fuel no nested call
    is dropped: a call on an instance whose bodies step instance `j` comprises, besides itself, at least one call per body
    that ran. -/
theorem C05_nested_fuel_is_immaterial (links : List (Option Nat)) (hf : Forward links) (w : List Inst) (i : Nat)
    (args : List Int) :
    (∀ f f', w.length ≤ f → w.length ≤ f' → stepNested links f w i args = stepNested links f' w i args) ∧
    (∀ f j x, w[i]? = some x → links[i]?.join = some j → j < w.length →
      1 + (callStep x args).2.1.length ≤ (stepNested links (f + 2) w i args).2.length) :=
  ⟨fun f f' h1 h2 => stepNested_fuel links hf f f' w i args (by omega) (by omega),
   fun f j x hx hl hj => stepNested_calls_ge links f w i j args x hx hl hj⟩

/-- non-vacuity: model 0 (two bodies) steps model 1 (one body), which steps model 2: five calls, whatever the fuel ≥ 3 -/
example : (stepNested [some 1, some 2, none] 3
      [Inst.new [⟨true, true, false⟩, ⟨true, false, false⟩] 9, Inst.new [⟨true, false, false⟩] 9, Inst.new [] 9] 0 []).2.map (·.inst)
    = [0, 1, 2, 1, 2] ∧ Forward [some 1, some 2, none] := by
  refine ⟨by decide +kernel, fun i j h => ?_⟩
  match i, h with
  | 0, h =>
    simp at h
    omega
  | 1, h =>
    simp at h
    omega
  | 2, h => simp at h
  | n + 3, h => simp at h

end Mesa.Steps
