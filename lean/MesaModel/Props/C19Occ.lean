import MesaModel.Proofs.CopyOccInv
import MesaModel.Proofs.CopyOccMain
/-!
# C19, cell spaces with their agents — a deep copy / pickle round trip keeps coordinates, connections, capacities and
occupancy, the copied agents point to the copy's cells, and neither side can change the other

Model: `Model/CopyOcc.lean` (identities; cells with agent lists, connections and capacities; agents with a cell pointer;
one record per space + model; copy by identity shift).  `view w s` is what the program reads from space `s`: per cell, in
enumeration order, its identity, coordinate index, capacity, the agents it lists, its connection targets, its generator and
its class; per registered agent its identity, `unique_id` and the cell it points to.  The theorems are about every world a history of operations can
reach (`run init ops`), or assume the two facts `C19_space_reachable` gives for each of them.  Two statements need words of
their own, defined here: `uidsOf` and `strays`; so are the demo worlds of the examples.
-/
namespace Mesa.CopyOcc

/-- every world reached by a history of operations is well-formed and satisfies the occupancy invariant (the hypotheses
    `WF w`, `Inv w` of the theorems below) -/
theorem C19_space_reachable (ops : List Op) : WF (run init ops) ∧ Inv (run init ops) := reachable ops

/-- **Mirror, after any history — copies included.**  An agent points to a cell exactly if that cell lists it, and no cell
    lists an agent twice. -/
theorem C19_space_mirror (ops : List Op) (a c : Nat) (ar : AgentRec) (cr : CellRec)
    (ha : (run init ops).agents a = some ar) (hc : (run init ops).cells c = some cr) :
    (ar.cell = some c ↔ a ∈ cr.agents) ∧ cr.agents.Nodup := by
  have hi := (reachable ops).2
  refine ⟨⟨fun h => ?_, fun h => ?_⟩, hi.nodup c cr hc⟩
  · obtain ⟨cr', hcr', hx⟩ := hi.mirror1 a ar c ha h
    rw [hc] at hcr'
    cases hcr'
    exact hx
  · obtain ⟨ar', har', hx⟩ := hi.mirror2 c cr a hc h
    rw [ha] at har'
    cases har'
    exact hx

/-- **Capacities, after any history.**  A cell with a capacity never holds more agents than that (capacity 0 included, after
    the repair SC3: such a cell stays empty). -/
theorem C19_space_capacity (ops : List Op) (c k : Nat) (cr : CellRec)
    (hc : (run init ops).cells c = some cr) (hk : cr.cap = some k) : cr.agents.length ≤ k :=
  (reachable ops).2.capOk c cr k hc hk

/-- **Closure, after any history.**  Every pointer of a space stays inside it: each of its cells exists, is connected to
    cells of the same space only, lists agents registered in the space's model only, uses the space's own generator and (if it
    has a dynamic class at all) the space's own cell class; each registered agent exists and points to a cell of the same
    space (or to none). -/
theorem C19_space_closure (ops : List Op) (s : Nat) (sr : SpaceRec) (hs : (run init ops).spaces s = some sr) :
    (∀ c ∈ sr.cells, ∃ cr, (run init ops).cells c = some cr ∧ (∀ d ∈ cr.conn, d ∈ sr.cells) ∧ (∀ a ∈ cr.agents, a ∈ sr.reg) ∧
      cr.rnd = s ∧ ∀ k, cr.klass = some k → k = s) ∧
    (∀ a ∈ sr.reg, ∃ ar, (run init ops).agents a = some ar ∧ ∀ c, ar.cell = some c → c ∈ sr.cells) := by
  have hi := (reachable ops).2
  constructor
  · intro c hc
    obtain ⟨cr, hcr, hconn, hrnd, hkl⟩ := hi.connIn s sr c hs hc
    exact ⟨cr, hcr, hconn, fun a ha => hi.listed_reg hs hc hcr ha, hrnd, hkl⟩
  · intro a ha
    obtain ⟨ar, har, _, hcell⟩ := hi.regIn s sr a hs ha
    exact ⟨ar, har, hcell⟩

/-- **No object belongs to two spaces, after any history**: neither a cell nor an agent. -/
theorem C19_space_never_share (ops : List Op) (s s' : Nat) (sr sr' : SpaceRec)
    (hs : (run init ops).spaces s = some sr) (hs' : (run init ops).spaces s' = some sr') (x : Nat)
    (hx : (x ∈ sr.cells ∧ x ∈ sr'.cells) ∨ (x ∈ sr.reg ∧ x ∈ sr'.reg)) : s = s' := by
  have hi := (reachable ops).2
  rcases hx with ⟨h1, h2⟩ | ⟨h1, h2⟩
  · exact hi.disj s s' sr sr' x hs hs' h1 h2
  · obtain ⟨ar, har, hh, _⟩ := hi.regIn s sr x hs h1
    exact hh.symm.trans (hi.reg_rec hs' h2 har).1

/-- **Faithful.**  The copy shows, cell by cell in the same order, the same coordinate index and capacity, and the same
    occupancy, connections, generator and class with every identity shifted to the copy's own objects; agent by agent the
    same `unique_id` and the shifted cell pointer. -/
theorem C19_space_copy_faithful (w : World) (s : Nat) (w' : World) (s' : Nat) (hc : copySpace w s = some (w', s')) :
    ∃ cv av, view w s = some (cv, av) ∧
      view w' s' = some (cv.map (shiftCellView w.next), av.map (shiftAgentView w.next)) := by
  obtain ⟨cv, av, h1, _, h2⟩ := copy_view s hc
  exact ⟨cv, av, h1, h2⟩

/-- the `unique_id`s of a list of agents, in order -/
def uidsOf (w : World) (l : List Nat) : List Nat := l.filterMap fun a => (w.agents a).map (·.uid)

/-- **Same occupancy, in values.**  In a reachable world, every cell of the copied space has a twin in the copy with the same
    coordinate index and capacity that lists agents with the same `unique_id`s in the same order (and as many of them). -/
theorem C19_space_copy_same_occupancy (w : World) (hi : Inv w) (s : Nat) (sr : SpaceRec) (hs : w.spaces s = some sr)
    (w' : World) (s' : Nat) (hc : copySpace w s = some (w', s')) (c : Nat) (hcs : c ∈ sr.cells) (cr : CellRec)
    (hcr : w.cells c = some cr) :
    ∃ cr', w'.cells (c + w.next) = some cr' ∧ cr'.idx = cr.idx ∧ cr'.cap = cr.cap ∧
      cr'.agents.length = cr.agents.length ∧ uidsOf w' cr'.agents = uidsOf w cr.agents := by
  simp only [copySpace, hs, Option.some.injEq, Prod.mk.injEq] at hc
  obtain ⟨rfl, rfl⟩ := hc
  refine ⟨_, copyWorld_cells_of_mem s sr hcs hcr, rfl, rfl, List.length_map _, ?_⟩
  simp only [uidsOf, shiftCell, List.filterMap_map]
  apply filterMap_congr'
  intro a ha
  have hreg : sr.reg.contains a = true := by simpa using hi.listed_reg hs hcs hcr ha
  simp only [Function.comp, copyWorld_agents_shift, hreg, if_true]
  cases w.agents a <;> simp [shiftAgent]

/-- **No reference of the copy leads to an old object.**  Everything the copy shows — its cells, the agents they list, their
    connection targets, their generator and class, its registered agents and the cells they point to — is an object created
    by the copy. -/
theorem C19_space_copy_mentions_only_new_objects (w : World) (s : Nat) (w' : World) (s' : Nat)
    (hc : copySpace w s = some (w', s')) (cv' : List (Nat × Nat × Option Nat × List Nat × List Nat × Nat × Option Nat))
    (av' : List (Nat × Nat × Option Nat)) (hv : view w' s' = some (cv', av')) :
    (∀ e ∈ cv', w.next ≤ e.1 ∧ (∀ a ∈ e.2.2.2.1, w.next ≤ a) ∧ (∀ d ∈ e.2.2.2.2.1, w.next ≤ d) ∧
      w.next ≤ e.2.2.2.2.2.1 ∧ ∀ k, e.2.2.2.2.2.2 = some k → w.next ≤ k) ∧
    (∀ e ∈ av', w.next ≤ e.1 ∧ ∀ c, e.2.2 = some c → w.next ≤ c) := by
  obtain ⟨cv, av, _, _, h2⟩ := copy_view s hc
  rw [h2] at hv
  simp only [Option.some.injEq, Prod.mk.injEq] at hv
  obtain ⟨rfl, rfl⟩ := hv
  constructor
  · intro e he
    simp only [List.mem_map] at he
    obtain ⟨⟨c, i, cap, ags, conn, rnd, kl⟩, _, rfl⟩ := he
    simp only [shiftCellView, List.mem_map]
    refine ⟨by omega, ?_, ?_, by omega, ?_⟩
    · rintro a ⟨a0, _, rfl⟩; omega
    · rintro d ⟨d0, _, rfl⟩; omega
    · intro k hk
      obtain ⟨k0, _, rfl⟩ := Option.map_eq_some_iff.mp hk
      omega
  · intro e he
    simp only [List.mem_map] at he
    obtain ⟨⟨a, u, c⟩, _, rfl⟩ := he
    simp only [shiftAgentView]
    refine ⟨by omega, ?_⟩
    intro c' hc'
    obtain ⟨c0, _, rfl⟩ := Option.map_eq_some_iff.mp hc'
    omega

/-- **The copied agents point into the copy** (what S22 broke): every agent registered in the copy's model exists, and the
    cell it points to is a cell *of the copied space*, is a new object, and lists that agent. -/
theorem C19_space_copied_agents_point_into_copy (w : World) (hw : WF w) (hi : Inv w) (s : Nat) (w' : World) (s' : Nat)
    (hc : copySpace w s = some (w', s')) :
    ∃ sr', w'.spaces s' = some sr' ∧ ∀ a ∈ sr'.reg, ∃ ar, w'.agents a = some ar ∧
      ∀ c, ar.cell = some c → c ∈ sr'.cells ∧ w.next ≤ c ∧ ∃ cr, w'.cells c = some cr ∧ a ∈ cr.agents := by
  have hfresh := copy_deps_fresh s hc
  obtain ⟨sr, hsr, rfl, rfl⟩ := copySpace_eq_some.mp hc
  have hi' := hi.copyWorld hw hsr
  have hsr' := copyWorld_spaces_new (w := w) s sr
  refine ⟨_, hsr', fun a ha => ?_⟩
  obtain ⟨ar, har, _, hcell⟩ := hi'.regIn _ _ a hsr' ha
  refine ⟨ar, har, fun c hcc => ?_⟩
  have hin := hcell c hcc
  obtain ⟨cr, hcr, hx⟩ := hi'.mirror1 a ar c har hcc
  exact ⟨hin, hfresh c (by simp [deps, hsr', hin]), cr, hcr, hx⟩

/-- the registered agents of space `s` that point to something that is not a cell of `s` -/
def strays (w : World) (s : Nat) : List Nat :=
  match w.spaces s with
  | none => []
  | some sr => sr.reg.filter fun a =>
      match w.agents a with
      | some ar => (match ar.cell with | some c => !sr.cells.contains c | none => false)
      | none => true

/-- a small history: a grid of three cells in a row with capacity 1, one agent in the middle cell, one in the last, one unplaced -/
def demo : World :=
  run init [.newSpace 3 (some 1) true [(0, 1), (1, 0), (1, 2), (2, 1)], .newAgent 0, .newAgent 0, .newAgent 0, .set 4 2, .set 5 3]

example : view demo 0 = some ([(1, 0, some 1, [], [2], 0, some 0), (2, 1, some 1, [4], [1, 3], 0, some 0),
    (3, 2, some 1, [5], [2], 0, some 0)], [(4, 1, some 2), (5, 2, some 3), (6, 3, none)]) := by rfl

/-- the hypotheses of the copy theorems hold for it, and the copy exists -/
example : WF demo ∧ Inv demo := C19_space_reachable _

example : (copySpace demo 0).isSome = true := by decide +kernel

def demoCopy : World :=
  match copySpace demo 0 with
  | some p => p.1
  | none => demo

example : view demoCopy 7 = some ([(8, 0, some 1, [], [9], 7, some 7), (9, 1, some 1, [11], [8, 10], 7, some 7),
    (10, 2, some 1, [12], [9], 7, some 7)], [(11, 1, some 9), (12, 2, some 10), (13, 3, none)]) := by rfl

example : uidsOf demo [4, 5] = [1, 2] ∧ uidsOf demoCopy [11, 12] = [1, 2] := by decide +kernel

/-- a history with one placed agent (for it `ghostCopy` is the code before S22 exactly: `deepcopy` reaches the occupied cell
    through the space, its agent through the cell, and the cell once more through the agent before the first reconstruction
    is memoised; run on that code, mesa gives the view below, with `?` for cell 14) -/
def demoOne : World :=
  run init [.newSpace 3 (some 1) true [(0, 1), (1, 0), (1, 2), (2, 1)], .newAgent 0, .newAgent 0, .set 4 2]

/-- what the copy of space 0 of `demoOne` shows and which of its agents point outside it (`good = false`: the code before S22) -/
def copyOne (good : Bool) : Option (List (Nat × Nat × Option Nat × List Nat × List Nat × Nat × Option Nat) ×
    List (Nat × Nat × Option Nat)) × List Nat :=
  match (if good then copySpace demoOne 0 else ghostCopy demoOne 0) with
  | some p => (view p.1 p.2, strays p.1 p.2)
  | none => (none, [])

/-- **The code before S22 violates the property**: the same cells, capacities, occupancy and connections come back, but the
    copied agent points to a cell (14: the second reconstruction of its cell) that is not a cell of the copied space — while
    the repaired copy has no such agent and the pointer leads to the copy's own cell 8. -/
theorem C19_space_ghost_copy_points_outside :
    copyOne false = (some ([(7, 0, some 1, [], [8], 6, some 6), (8, 1, some 1, [10], [7, 9], 6, some 6),
      (9, 2, some 1, [], [8], 6, some 6)], [(10, 1, some 14), (11, 2, none)]), [10]) ∧
    copyOne true = (some ([(7, 0, some 1, [], [8], 6, some 6), (8, 1, some 1, [10], [7, 9], 6, some 6),
      (9, 2, some 1, [], [8], 6, some 6)], [(10, 1, some 8), (11, 2, none)]), []) :=
  ⟨by rfl, by rfl⟩

/-- **Frame.**  A history none of whose operations writes an object the space depends on (the space / model record, its
    cells, its registered agents) leaves what the space shows unchanged — whatever else it creates, moves, removes or copies. -/
theorem C19_space_frame (w : World) (hw : WF w) (s : Nat) (sr : SpaceRec) (hs : w.spaces s = some sr) (ops : List Op)
    (hav : WritesOnly (fun x => x ∉ deps w s) w ops) :
    view (run w ops) s = view w s ∧ empties (run w ops) s = empties w s :=
  ⟨(frame_run hw hs ops hav).view_eq, (frame_run hw hs ops hav).empties_eq⟩

/-- **The copy leaves every existing space as it was.** -/
theorem C19_space_original_untouched_by_copy (w : World) (hw : WF w) (s s0 : Nat) (hs0 : s0 < w.next)
    (w' : World) (s' : Nat) (hc : copySpace w s = some (w', s')) : view w' s0 = view w s0 :=
  (agree_copy hw hs0 s hc).view_eq

/-- **Detached, both ways.**  After `copy s`:
    operations that only write objects created by or after the copy never change what the original shows, and
    operations that only write objects that existed before the copy never change what the copy shows —
    for operation sequences of any length. -/
theorem C19_space_copy_detached (w : World) (hw : WF w) (s : Nat) (w' : World) (s' : Nat)
    (hc : copySpace w s = some (w', s')) :
    (∀ ops, WritesOnly (fun x => w.next ≤ x) w' ops → view (run w' ops) s = view w s) ∧
    (∀ ops, WritesOnly (fun x => x < w.next) w' ops → view (run w' ops) s' = view w' s') := by
  have hfresh := copy_deps_fresh s hc
  obtain ⟨sr, hsr, rfl, rfl⟩ := copySpace_eq_some.mp hc
  have hw' := hw.copyWorld hsr
  have hs : s < w.next := (hw.spacesLt s sr hsr).1
  have hag := agree_copy hw hs s hc
  constructor
  · intro ops hwo
    have := (frame_run hw' (hag.space.trans hsr) ops (hwo.mono fun x hx hmem => by
      rw [hag.deps_eq] at hmem
      exact Nat.not_le.mpr (deps_lt hw hs x hmem) hx)).view_eq
    rw [this, hag.view_eq]
  · intro ops hwo
    exact (frame_run hw' (copyWorld_spaces_new s sr) ops
      (hwo.mono fun x hx hmem => Nat.not_le.mpr hx (hfresh x hmem))).view_eq

/-- the two premises of `C19_space_copy_detached` are satisfiable by real work on either side: in the copy, taking an agent
    out of its cell, moving another one there and creating one writes fresh objects only; in the original, a refused move
    into the full cell, a move and a removal write old objects only -/
example : WritesOnly (fun x => demo.next ≤ x) demoCopy [.unset 12, .set 11 10, .newAgent 7] := by
  simp only [WritesOnly]
  decide +kernel

example : WritesOnly (fun x => x < demo.next) demoCopy [.set 6 2, .set 4 1, .remove 5] := by
  simp only [WritesOnly]
  decide +kernel

example : (setCell demoCopy 6 2).2 = .full := by decide +kernel

example : view (run demoCopy [.unset 12, .set 11 10, .newAgent 7]) 7 =
    some ([(8, 0, some 1, [], [9], 7, some 7), (9, 1, some 1, [], [8, 10], 7, some 7), (10, 2, some 1, [11], [9], 7, some 7)],
      [(11, 1, some 10), (12, 2, none), (13, 3, none), (14, 1, none)]) := by rfl

example : view (run demoCopy [.set 6 2, .set 4 1, .remove 5]) 0 =
    some ([(1, 0, some 1, [4], [2], 0, some 0), (2, 1, some 1, [], [1, 3], 0, some 0), (3, 2, some 1, [], [2], 0, some 0)],
      [(4, 1, some 1), (6, 3, none)]) := by
  rfl

end Mesa.CopyOcc
