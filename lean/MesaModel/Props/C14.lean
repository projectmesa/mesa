import MesaModel.Proofs.Devs
import MesaModel.Gen.DevsTables
import MesaModel.Proofs.DevsHeap
import MesaModel.Proofs.DevsLive
import MesaModel.Proofs.DevsOrder
import MesaModel.Proofs.DevsDoomed
import MesaModel.Proofs.DevsShared
import MesaModel.Proofs.DevsRaise
import MesaModel.Proofs.DevsHistory
/-!
# C14 — the simulators run each live event once, in (time, priority, FIFO) order

The property theorems of C14, with non-vacuity examples at the end (model: `Model/Devs.lean`, `Model/Heap.lean`; helper lemmas and
the notions the statements use: `Proofs/Devs.lean` and the `Proofs/Devs*.lean`, `Proofs/Heap.lean` modules imported above).
`Reachable s`: every state reachable from a fresh simulator of either class by any interleaving of
scheduling / cancelling / reference-dropping commands (issued at top level or from inside executing
events), `setup`, `run_until` / `run_for` with a horizon not before the clock, `run_next_event`, callables that raise
(the run call is cut short, the program catches the exception — `caught` — and goes on: aborted states are reachable states).
`Reachable` is a SUPERSET of what a Python program can do: `Reachable.until` / `.next` / `.cmd` also apply to a state with the
exception still on its way (`raised = some x`), where a real program has to catch first; the invariants are proved for the
superset, so they hold a fortiori for real histories (a run from such a state executes events whose programs do nothing).
Event ids are handed out in scheduling order, so "(time, priority, id)" is (time, priority, FIFO).
A run call that returns normally leaves `raised = none`; statements about such calls carry that hypothesis.
-/
namespace Mesa.Devs

/-- The pending list of every reachable state is strictly sorted by (time, priority, id), holds only ids
    handed out so far, and nothing in it lies before the clock. -/
theorem C14_queue_sorted {s : Sim} (h : Reachable s) :
    s.pending.Pairwise (fun a b => a.lt b = true) ∧ (∀ e ∈ s.pending, e.id < s.nextId) ∧
    (∀ e ∈ s.pending, s.now ≤ e.time) :=
  let w := (reachable_inv h).1
  ⟨w.sorted, w.idlt, w.future⟩

/-- The event a simulator executes next is live and is the least of all live pending events w.r.t.
    (time, priority, order of scheduling). -/
theorem C14_next_is_least_live {s : Sim} (h : Reachable s) {e : Ev} {rest : List Ev}
    (hp : popLive s.pending = some (e, rest)) :
    e ∈ s.pending ∧ e.cancelled = false ∧
    ∀ y ∈ s.pending, y.cancelled = false → y = e ∨ e.lt y = true := by
  obtain ⟨hl, hlt, _⟩ := popLive_spec (reachable_inv h).1.sorted hp
  refine ⟨(popLive_mem hp).1, hl, fun y hy hyl => ?_⟩
  rcases popLive_live_mem hp hy hyl with h | h
  · exact Or.inl h
  · exact Or.inr (hlt y h)

/-- Exactly-once accounting: at every reachable state every event id handed out so far is in exactly one
    of three places, exactly once — still pending, executed (in the log), or discarded without execution —
    and no other id occurs anywhere. -/
theorem C14_exactly_once_accounting {s : Sim} (h : Reachable s) (i : Nat) :
    (ids s.pending).count i + (logIds s.log).count i + s.gone.count i = if i < s.nextId then 1 else 0 := by
  simpa [Acc, AccH] using (reachable_inv h).2.1 i

/-- No event is ever executed twice. -/
theorem C14_never_twice {s : Sim} (h : Reachable s) : (logIds s.log).Nodup := by
  rw [List.nodup_iff_count]
  intro i
  have := (reachable_inv h).2.1.le_one i
  omega

/-- An event is discarded without execution only if it was cancelled or its callable was collected:
    a pop hands out a live event, what it throws away is cancelled, and an execution logs the event
    unless its callable is dead. -/
theorem C14_only_cancelled_or_dead_discarded {s : Sim} {e : Ev} {rest : List Ev}
    (hp : popLive s.pending = some (e, rest)) :
    (∀ x ∈ skipped s.pending, x.cancelled = true) ∧ e.cancelled = false ∧
    (e.dead = false → (logIds (exec (popped s e rest) e).log) = logIds s.log ++ [e.id]) ∧
    (e.dead = true → (exec (popped s e rest) e).log = s.log) := by
  refine ⟨skipped_cancelled, (popLive_decomp hp).2, ?_, ?_⟩
  · intro hd
    rw [exec_log]
    unfold entryOf
    rw [if_neg (by simp [hd])]
    split <;> simp [logIds, popped, LogEntry.id]
  · intro hd
    rw [exec_log]
    unfold entryOf
    rw [if_pos hd]
    simp [popped]

/-- Once cancelled, never executed: an event that is cancelled while pending is not in the execution log of
    any state reachable afterwards, whatever further scheduling, cancelling and running happens. -/
theorem C14_cancelled_never_executes {s s' : Sim} (h : Reachable s) {e : Ev} (he : e ∈ s.pending)
    (hc : e.cancelled = true) (hr : ReachableFrom s s') : e.id ∉ logIds s'.log :=
  lost_never_logged (reachable_inv h).2.1 (Or.inl ⟨e, he, rfl, Or.inl hc⟩) hr

/-- Once its callable has been garbage-collected, never executed: an event whose callable died while it was pending is not
    in the execution log of any state reachable afterwards (it is popped and silently discarded). -/
theorem C14_collected_never_executes {s s' : Sim} (h : Reachable s) {e : Ev} (he : e ∈ s.pending)
    (hd : e.dead = true) (hr : ReachableFrom s s') : e.id ∉ logIds s'.log :=
  lost_never_logged (reachable_inv h).2.1 (Or.inl ⟨e, he, rfl, Or.inr hd⟩) hr

/-- `cancel_event` marks every pending event carrying that handle. -/
theorem C14_cancel_marks (s : Sim) (k : Nat) {e : Ev} (he : e ∈ s.pending) (hu : e.isStep = false) (ht : e.tag = k) :
    ∃ e' ∈ (cancelTag s k).pending, e'.id = e.id ∧ e'.cancelled = true := by
  refine ⟨{ e with cancelled := true }, ?_, rfl, rfl⟩
  simp only [cancelTag, List.mem_map]
  exact ⟨e, he, by simp [hu, ht]⟩

/-- A cancelled event is never handed out for execution. -/
theorem C14_cancelled_never_popped {l : List Ev} {e : Ev} {rest : List Ev}
    (hp : popLive l = some (e, rest)) : e.cancelled = false := (popLive_decomp hp).2

/-- While an event runs the clock equals the event's time, and that is the clock value it is logged with. -/
theorem C14_clock_is_event_time (s : Sim) (e : Ev) (rest : List Ev) :
    (exec (popped s e rest) e).now = e.time ∧
    ∀ x ∈ entryOf (popped s e rest) e, x.clock = e.time := by
  refine ⟨exec_now _ e, fun x hx => ?_⟩
  rw [entryOf_clock x hx]
  rfl

/-- The clock never moves backwards: the clocks of all executions so far are non-decreasing and none
    exceeds the current clock. -/
theorem C14_clock_monotone {s : Sim} (h : Reachable s) :
    (clocks s.log).Pairwise (· ≤ ·) ∧ ∀ c ∈ clocks s.log, c ≤ s.now :=
  let c := (reachable_inv h).2.2
  ⟨c.mono, c.le_now⟩

/-- `run_until(T)` with `T` not before the clock: leaves the clock at `T`, leaves no live event with time
    `≤ T` pending (including events scheduled by the events it executed), and executed only events with
    time `≤ T`. -/
theorem C14_run_until_post {s s' : Sim} {f : Nat} {T : Int} (h : Reachable s)
    (hr : runUntil f s T = some s') (hn : s'.raised = none) :
    s'.now = T ∧ (∀ y ∈ s'.pending, y.cancelled = false → T < y.time) ∧
    ∃ new, s'.log = s.log ++ new ∧ ∀ x ∈ new, x.clock ≤ T :=
  let p := runUntil_post (reachable_inv h).1 hr
  ⟨(p.2 hn).1, fun y hy _ => (p.2 hn).2 y hy, p.1⟩

/-- Scheduling is rejected exactly when the time lies before the clock (`Past`) or, otherwise, has the
    wrong unit (`Unit`); a rejected call — caught by the caller — leaves the simulator unchanged. -/
theorem C14_schedule_rejects_exactly (s : Sim) (t d : Int) (p a : Nat) :
    (schedAbs s t p a = .error .past ↔ t < s.now) ∧
    (schedAbs s t p a = .error .unit ↔ ¬ t < s.now ∧ okUnit s.kind t = false) ∧
    (schedRel s d p a = .error .past ↔ d < 0) ∧
    (schedRel s d p a = .error .unit ↔ ¬ d < 0 ∧ okUnit s.kind (s.now + d) = false) ∧
    ((∃ err, schedAbs s t p a = .error err) → doCmd s (.schedAbs t p a) = s) ∧
    ((∃ err, schedRel s d p a = .error err) → doCmd s (.schedRel d p a) = s) := by
  have habs : ∀ t, (schedAbs s t p a = .error .past ↔ t < s.now) ∧
      (schedAbs s t p a = .error .unit ↔ ¬ t < s.now ∧ okUnit s.kind t = false) := by
    intro t
    unfold schedAbs
    by_cases h1 : t < s.now
    · simp [h1]
    · cases okUnit s.kind t <;> simp [h1]
  have hrej : ∀ c, doCmd1 s c = s → doCmd s c = s := by
    intro c h
    unfold doCmd
    split
    · rfl
    · exact h
  refine ⟨(habs t).1, (habs t).2, ?_, ?_, ?_, ?_⟩
  · rw [schedRel_eq, (habs _).1]
    omega
  · rw [schedRel_eq, (habs _).2]
    constructor <;> exact fun h => ⟨by omega, h.2⟩
  · rintro ⟨err, h⟩
    exact hrej _ (by simp [doCmd1, h])
  · rintro ⟨err, h⟩
    exact hrej _ (by simp [doCmd1, h])

/-- Looking ahead shows the live events in the order they would execute: `peak_ahead n` is exactly what
    `n` successive pops would hand out, and that sequence is strictly increasing in (time, priority, FIFO). -/
theorem C14_peek_is_execution_order {s : Sim} (h : Reachable s) (n : Nat) :
    peek s n = popSeq n s.pending ∧ (peek s n).Pairwise (fun a b => a.lt b = true) ∧
    ∀ e ∈ peek s n, e.cancelled = false := by
  refine ⟨(popSeq_eq n s.pending).symm, ?_, ?_⟩
  · exact ((reachable_inv h).1.sorted.sublist (List.filter_sublist)).sublist (List.take_sublist _ _)
  · intro e he
    have := List.mem_of_mem_take he
    simpa [Ev.live] using (List.mem_filter.mp this).2

/-- Events scheduled up front run in sorted order: when no callable schedules or cancels anything, `run_until(T)`
    executes exactly the live events with time `≤ T`, each at its own time, in the order of the (sorted) list — i.e. in
    increasing (time, priority, order of scheduling) — skipping only events whose callable was collected. -/
theorem C14_upfront_events_run_in_sorted_order {s s' : Sim} {f : Nat} {T : Int} (h : Reachable s) (hq : Quiet s)
    (hr : runUntil f s T = some s') :
    s'.log = s.log ++ (due T s.pending).filterMap logged ∧
    (due T s.pending).Pairwise (fun a b => a.lt b = true) ∧
    ∀ e ∈ s.pending, e.cancelled = false → e.time ≤ T → e ∈ due T s.pending := by
  have hs := (reachable_inv h).1.sorted
  refine ⟨runUntil_quiet_log hq hr, ?_, ?_⟩
  · exact (hs.sublist List.filter_sublist).sublist (List.takeWhile_sublist _)
  · intro e he hl ht
    unfold due
    rw [takeWhile_time_eq_filter (hs.sublist List.filter_sublist)]
    exact List.mem_filter.mpr ⟨List.mem_filter.mpr ⟨he, by simp [Ev.live, hl]⟩, by simpa using ht⟩

/-- `heapq` — transcribed from CPython's Lib/heapq.py in `Model/Heap.lean` and compared with the real module by the
    check — is a correct priority queue for `SimulationEvent.__lt__` (a strict weak order): `heappush` and `heappop`
    keep the heap invariant and the multiset of events, and `heappop` hands out a minimum, the root of the array. -/
theorem C14_heapq_is_priority_queue :
    Heap.SWO Ev.lt ∧
    (∀ (hp : List Ev) (e : Ev), Heap.IsHeap Ev.lt hp →
      Heap.IsHeap Ev.lt (Heap.heappush Ev.lt hp e) ∧ (Heap.heappush Ev.lt hp e).Perm (e :: hp)) ∧
    (∀ (hp hp' : List Ev) (m : Ev), Heap.IsHeap Ev.lt hp → Heap.heappop Ev.lt hp = some (m, hp') →
      hp.Perm (m :: hp') ∧ Heap.IsHeap Ev.lt hp' ∧ (∀ y ∈ hp', y.lt m = false) ∧ hp[0]? = some m) :=
  ⟨ev_swo, fun hp e h => ⟨Heap.heappush_heap ev_swo h e, Heap.heappush_perm Ev.lt hp e⟩,
   fun _ _ _ h hpop => Heap.heappop_spec ev_swo h hpop⟩

/-- The model's sorted event list is a sound abstraction of the heap array `EventList` keeps: starting from empty
    queues, `add_event` (heappush ↔ sorted insertion) and `pop_event` (heappop until a live event ↔ `popLive`) keep
    array and list in correspondence — same events, and every pop hands out the same event on both sides. -/
theorem C14_heap_refines_sorted_queue :
    Refines [] [] ∧
    (∀ (hp s : List Ev) (e : Ev), Refines hp s → (∀ x ∈ s, x.id ≠ e.id) →
      Refines (Heap.heappush Ev.lt hp e) (insert e s)) ∧
    (∀ (hp s : List Ev), Refines hp s →
      match popLive s with
      | some (e, rest) => ∃ hp', heapPopLive (s.length + 1) hp = some (e, hp') ∧ Refines hp' rest
      | none => heapPopLive (s.length + 1) hp = none) :=
  ⟨refines_nil, fun _ _ e r hid => refines_push r e hid, fun _ _ r => refines_popLive r⟩

/-- The priority levels the source defines (regenerated from `eventlist.py` on every run) are the three the model and
    the harness use, and they order events as documented: HIGH before DEFAULT before LOW. -/
theorem C14_priority_order_generated :
    Gen.priorities.lookup "HIGH" = some 1 ∧ Gen.priorities.lookup "DEFAULT" = some 5 ∧
    Gen.priorities.lookup "LOW" = some 10 ∧ Gen.priorities.length = 3 ∧
    ∀ (a b : Ev), a.time = b.time → a.prio = 1 → b.prio = 5 ∨ b.prio = 10 → a.lt b = true := by
  refine ⟨by decide +kernel, by decide +kernel, by decide +kernel, by decide +kernel, ?_⟩
  intro a b ht ha hb
  rw [Ev.lt_iff]
  omega

/-! ### at least once

`Served`, `ProgsSpare` and `ReachableSparing` are defined in `Proofs/DevsLive.lean`.  For an ordinary scheduling call the callable
is fresh and `c = k`; the id is the value of the id counter at the scheduling call.  `ReachableSparing k c` allows scheduling — also
of `c` again —, cancellations of other events, *including events that share the callable `c`*, drops of other callables and runs of
any kind. -/

/-- **At least once (absolute scheduling).**  An event that was accepted by `schedule_event_absolute` and that nobody cancels or
    drops stays served through every further history: it is never lost, and when it runs the clock is the time it was
    scheduled for. -/
theorem C14_spared_event_is_served {s s₀ s' : Sim} {t : Int} {p a : Nat} (hs : schedAbs s t p a = .ok s₀)
    (hps : ProgsSpare s.nextTag s.nextTag s) (hr : ReachableSparing s.nextTag s.nextTag s₀ s') :
    Served s.nextTag s.nextTag s.nextId t s' := by
  obtain ⟨_, rfl⟩ := schedAbs_ok hs
  exact (served_stays (pushUser_serves s t p a) hps hr).1

/-- **At least once (relative scheduling, `schedule_event_now`, `schedule_event_next_tick`).** -/
theorem C14_spared_event_is_served_rel {s s₀ s' : Sim} {d : Int} {p a : Nat} (hs : schedRel s d p a = .ok s₀)
    (hps : ProgsSpare s.nextTag s.nextTag s) (hr : ReachableSparing s.nextTag s.nextTag s₀ s') :
    Served s.nextTag s.nextTag s.nextId (s.now + d) s' := by
  obtain ⟨_, rfl⟩ := schedRel_ok hs
  exact (served_stays (pushUser_serves s (s.now + d) p a) hps hr).1

/-- **Every live event that is due is executed by `run_until`** — including events scheduled from inside other events, in
    any reachable state, after any further history: after a `run_until(T)` that returns normally, an uncancelled, undropped
    event scheduled for `t ≤ T` is in the execution log — the very event the call created (id = the id counter at the call) —,
    with the clock at `t`.  With `C14_never_twice`: exactly once. -/
theorem C14_spared_due_event_executed {s s₀ s' s'' : Sim} {t T : Int} {p a f : Nat} (h : Reachable s)
    (hs : schedAbs s t p a = .ok s₀) (hps : ProgsSpare s.nextTag s.nextTag s) (hr : ReachableSparing s.nextTag s.nextTag s₀ s')
    (hT : s'.now ≤ T) (hrun : runUntil f s' T = some s'') (hn : s''.raised = none) (htT : t ≤ T) :
    LogEntry.user s.nextId s.nextTag t ∈ s''.log := by
  have hw' : WF s' := by
    obtain ⟨ht, rfl⟩ := schedAbs_ok hs
    exact wf_kept.ofFrom (pushUser_wf (reachable_inv h).1 ht p a) (reachableSparing_from hr)
  exact served_due_logged hw' (C14_spared_event_is_served hs hps (.until hr hT hrun)) hrun hn htT

/-- The same for relative scheduling (`schedule_event_relative`, `schedule_event_now`, `schedule_event_next_tick`). -/
theorem C14_spared_due_event_executed_rel {s s₀ s' s'' : Sim} {d T : Int} {p a f : Nat} (h : Reachable s)
    (hs : schedRel s d p a = .ok s₀) (hps : ProgsSpare s.nextTag s.nextTag s) (hr : ReachableSparing s.nextTag s.nextTag s₀ s')
    (hT : s'.now ≤ T) (hrun : runUntil f s' T = some s'') (hn : s''.raised = none) (htT : s.now + d ≤ T) :
    LogEntry.user s.nextId s.nextTag (s.now + d) ∈ s''.log := by
  have hw' : WF s' := by
    obtain ⟨hd, rfl⟩ := schedRel_ok hs
    exact wf_kept.ofFrom (pushUser_wf (reachable_inv h).1 (by omega) p a) (reachableSparing_from hr)
  exact served_due_logged hw' (C14_spared_event_is_served_rel hs hps (.until hr hT hrun)) hrun hn htT

/-! ### shared callables

The same callable object may be scheduled many times (`again c d p`: the program calls `schedule_event_relative` once more with
the callable `c` it still holds — a bound method `self.act` re-scheduled again and again).  Events sharing a callable are
independent of each other (each has its own handle: cancelling one leaves the others alone) except for the life of the callable:
when the program drops its last strong reference to `c`, every one of them is dead. -/

/-- **At least once, shared callable.**  A further event scheduled with a callable `c` the program still holds is never lost
    as long as nobody cancels *this* event or drops `c` — cancelling any other event that shares `c` is allowed. -/
theorem C14_shared_callable_event_is_served {s s₀ s' : Sim} {c : Nat} {d : Int} {p : Nat}
    (hs : again s c d p = some (.ok s₀)) (hps : ProgsSpare s.nextTag c s) (hr : ReachableSparing s.nextTag c s₀ s') :
    Served s.nextTag c s.nextId (s.now + d) s' := by
  obtain ⟨a, _, _, rfl⟩ := again_ok hs
  exact (served_stays (pushUser_serves s (s.now + d) p a (some c)) hps hr).1

/-- `run_until(T)` executes a due event scheduled with a shared callable, although other events sharing its callable were cancelled. -/
theorem C14_shared_due_event_executed {s s₀ s' s'' : Sim} {c : Nat} {d T : Int} {p f : Nat} (h : Reachable s)
    (hs : again s c d p = some (.ok s₀)) (hps : ProgsSpare s.nextTag c s) (hr : ReachableSparing s.nextTag c s₀ s')
    (hT : s'.now ≤ T) (hrun : runUntil f s' T = some s'') (hn : s''.raised = none) (htT : s.now + d ≤ T) :
    LogEntry.user s.nextId s.nextTag (s.now + d) ∈ s''.log := by
  have hw' : WF s' := by
    obtain ⟨a, _, hd, rfl⟩ := again_ok hs
    exact wf_kept.ofFrom (pushUser_wf (reachable_inv h).1 (by omega) p a _) (reachableSparing_from hr)
  exact served_due_logged hw' (C14_shared_callable_event_is_served hs hps (.until hr hT hrun)) hrun hn htT

/-- **Once a callable is collected, no event sharing it ever executes.**  After the program has dropped its last strong reference
    to a callable `c` it created earlier, in every state of every further history: the program cannot schedule `c` again, every
    pending event scheduled with `c` — however many there are — has a dead weak reference, and when such an event is popped
    nothing runs (the log does not grow). -/
theorem C14_collected_callable_never_runs {s s' : Sim} {c : Nat} (hc : c < s.nextTag) (hr : ReachableFrom (dropFn s c) s') :
    s'.fns.lookup c = none ∧ (∀ d p, again s' c d p = none) ∧
    (∀ e ∈ s'.pending, e.isStep = false → e.fn = c → e.dead = true) ∧
    ∀ e rest, popLive s'.pending = some (e, rest) → e.isStep = false → e.fn = c →
      (exec (popped s' e rest) e).log = s'.log := by
  have hcol := (collected_kept c).ofFrom (dropFn_collects s hc) hr
  refine ⟨hcol.unheld, fun d p => by simp [again, hcol.unheld], hcol.dead, ?_⟩
  intro e rest hp hu hf
  have hd := hcol.dead e (popLive_mem hp).1 hu hf
  rw [exec_log]
  unfold entryOf
  rw [if_pos hd]
  simp [popped]

/-- **An event's weak reference is dead exactly when the program no longer holds its callable object** — in every reachable
    state, for every pending user event (so events that share a callable are all alive or all dead); callable ids are tags that
    have been handed out.  NOTE what this is: a consistency invariant between two *ghost* fields of the model (`Ev.dead` and
    `Sim.fns` are written together, by `pushUser` and `dropFn` only); it says the model's two views of "collected" never drift
    apart through any history, not that CPython's weak references behave so (that is in `TRUSTED` of `harness/c14.py` and compared by the check). -/
theorem C14_weakref_dead_iff_callable_dropped {s : Sim} (h : Reachable s) :
    (∀ x ∈ s.fns, x.1 < s.nextTag) ∧
    (∀ e ∈ s.pending, e.isStep = false → e.fn < s.nextTag ∧ (e.dead = true ↔ s.fns.lookup e.fn = none)) ∧
    ∀ e₁ ∈ s.pending, ∀ e₂ ∈ s.pending, e₁.isStep = false → e₂.isStep = false → e₁.fn = e₂.fn → e₁.dead = e₂.dead := by
  have hi := reachable_fnInv h
  refine ⟨hi.keys, hi.evs, ?_⟩
  intro e₁ h₁ e₂ h₂ hu₁ hu₂ hf
  have i₁ := (hi.evs e₁ h₁ hu₁).2
  have i₂ := (hi.evs e₂ h₂ hu₂).2
  rw [hf] at i₁
  exact Bool.eq_iff_iff.mpr (i₁.trans i₂.symm)

/-- **Dropping a callable kills every pending event that shares it**: none of them is in the execution log of any state
    reachable afterwards (`C14_collected_never_executes` for all sharers at once). -/
theorem C14_drop_kills_every_sharer {s s' : Sim} (h : Reachable s) {c : Nat} {e : Ev} (he : e ∈ s.pending)
    (hu : e.isStep = false) (hf : e.fn = c) (hr : ReachableFrom (dropFn s c) s') : e.id ∉ logIds s'.log := by
  have ha0 : Acc (dropFn s c) := doCmd1_accH (reachable_inv h).2.1 (.drop c)
  have hmem : { e with dead := true } ∈ (dropFn s c).pending := by
    simp only [dropFn, List.mem_map]
    exact ⟨e, he, by simp [hu, hf]⟩
  exact lost_never_logged ha0 (Or.inl ⟨_, hmem, rfl, Or.inr rfl⟩) hr


/-! ### callables that raise

A callable (or the step body) may raise (`raise x`): the rest of its program does not run, `run_until` / `run_for` /
`run_next_event` do not return normally — the exception reaches the program with its kind (`Sim.raised = some x`), which catches it
(`caught`) and goes on.  All states on the way are `Reachable`, so every invariant above (sorted queue, accounting, never twice,
clock monotone, once cancelled / collected never executed, at-least-once over `ReachableSparing`, which has the `caught` step too)
holds in aborted states and across any number of exceptions.  Post-conditions of a run that *returns normally* carry the hypothesis
`s'.raised = none`; what a run that is cut short leaves is stated here. -/

/-- **What `run_until(T)` leaves when a callable raises `x`.**  The run has a trace (`runUntilT`, `Proofs/DevsOrder.lean`: the events
    it executed, in order, each with the id counter at its pop; `logOf e`: what executing `e` logs) that ends with the raising event `e`: `e` was alive, live and due, its execution is the last log entry,
    logged at the clock the run stopped at — `e`'s time, `≤ T` —, everything executed before it is logged before it (at its own
    time `≤ T`); it is the program of THAT event — `s.prog e.act`, the step body for a step event — that contains the
    `raise x` (the kind is preserved; a `raise` in some other program of the table does not do); the raising event is consumed
    (no longer on the list), and nothing on the list lies before the clock. -/
theorem C14_run_until_aborted {s s' : Sim} {f : Nat} {T : Int} {x : Exc} (h : Reachable s) (hT : s.now ≤ T)
    (h0 : s.raised = none) (hr : runUntil f s T = some s') (hx : s'.raised = some x) :
    ∃ (tr : List (Ev × Nat)) (e : Ev) (n : Nat), runUntilT f s T = some (s', tr ++ [(e, n)]) ∧
      s'.log = s.log ++ tr.flatMap (fun y => logOf y.1) ++ logOf e ∧
      (∀ y ∈ tr ++ [(e, n)], y.1.id < y.2 ∧ y.1.cancelled = false ∧ y.1.time ≤ T) ∧
      e.dead = false ∧ s'.now = e.time ∧
      ((e.isStep = true ∧ logOf e = [.step e.id s'.now] ∧ Cmd.raise x ∈ s.stepProg) ∨
       (e.isStep = false ∧ logOf e = [.user e.id e.tag s'.now] ∧ Cmd.raise x ∈ s.prog e.act)) ∧
      e.id ∉ ids s'.pending ∧ ∀ z ∈ s'.pending, s'.now ≤ z.time := by
  obtain ⟨tr0, htr⟩ := runUntilT_of_runUntil hr
  obtain ⟨tr, e, n, rfl, hd, hnow, hprog⟩ := runUntilT_aborted h0 htr hx
  have hi := reachable_inv (.until h hT hr)
  have hlog : s'.log = s.log ++ tr.flatMap (fun y => logOf y.1) ++ logOf e := by
    rw [runUntilT_log htr]
    simp [List.append_assoc]
  exact ⟨tr, e, n, htr, hlog, runUntilT_popped (reachable_inv h).1 htr, hd, hnow, hnow ▸ logOf_raiser hd hprog,
    executed_not_pending hi.2.1 hd hlog, hi.1.future⟩

/-- **What `run_next_event` leaves when the callable of the event it executes raises `x`** (the twin of
    `C14_run_until_aborted`): the event it popped was alive, its execution is logged — the one new log entry — at the event's
    time, which is the clock; it is that event's program (the step body for a step event) that contains the `raise x`; the
    event is consumed and nothing on the list lies before the clock. -/
theorem C14_run_next_aborted {s : Sim} {x : Exc} (h : Reachable s) (h0 : s.raised = none)
    (hx : (runNext s).raised = some x) :
    ∃ e rest, popLive s.pending = some (e, rest) ∧ e.dead = false ∧ (runNext s).now = e.time ∧
      (runNext s).log = s.log ++ logOf e ∧
      ((e.isStep = true ∧ logOf e = [.step e.id e.time] ∧ Cmd.raise x ∈ s.stepProg) ∨
       (e.isStep = false ∧ logOf e = [.user e.id e.tag e.time] ∧ Cmd.raise x ∈ s.prog e.act)) ∧
      e.id ∉ ids (runNext s).pending ∧ ∀ z ∈ (runNext s).pending, (runNext s).now ≤ z.time := by
  have hi := reachable_inv (.next h)
  rcases runNext_cases s with ⟨hp, he⟩ | ⟨e, rest, hp, he⟩ <;> rw [he] at hx hi ⊢
  · cases h0.symm.trans (show s.raised = some x from hx)
  · obtain ⟨hd, hprog⟩ := exec_raised (s := popped s e rest) h0 hx
    have hlog : (exec (popped s e rest) e).log = s.log ++ logOf e := exec_log _ e
    exact ⟨e, rest, hp, hd, exec_now _ e, hlog, logOf_raiser hd hprog, executed_not_pending hi.2.1 hd hlog, hi.1.future⟩

/-- **A raising event is executed exactly once.**  Whatever the program does after the exception reached it — catch it, schedule,
    cancel, run again to the same or a later horizon, meet further exceptions —, the event that raised is never run again: in
    every later state it occurs in the execution log exactly once and not on the list. -/
theorem C14_raising_event_never_rerun {s s' s'' : Sim} {f : Nat} {T : Int} {x : Exc} (h : Reachable s) (hT : s.now ≤ T)
    (h0 : s.raised = none) (hr : runUntil f s T = some s') (hx : s'.raised = some x) (hfrom : ReachableFrom s' s'') :
    ∃ ent, s'.log.getLast? = some ent ∧ (logIds s''.log).count ent.id = 1 ∧ ent.id ∉ ids s''.pending := by
  obtain ⟨_, pre, ent, hlog⟩ := runUntil_aborted (reachable_inv h).1 h0 hr hx
  obtain ⟨new, hnew⟩ := reachableFrom_log_grows hfrom
  have hle := (reachable_inv (reachableFrom_reachable (.until h hT hr) hfrom)).2.1.le_one ent.id
  have h2 : 0 < (logIds s''.log).count ent.id := by
    apply List.count_pos_iff.mpr
    rw [hnew, hlog]
    simp [logIds]
  refine ⟨ent, ?_, by omega, fun hmem => ?_⟩
  · rw [hlog]
    simp
  have := List.count_pos_iff.mpr hmem
  omega

/-- **Resuming after an exception.**  `run_until(T)` was cut short by an exception `x`; the program catches it and calls
    `run_until(T)` again; if that call returns normally: the clock is `T`; NOTHING is left on the list with time `≤ T` (not even a
    cancelled entry); only events with time `≤ T` ran; the event that raised is in the log exactly once (it was not run again);
    every entry that was still on the list with time `≤ T` when the first call was cut short has been consumed — it is off the
    list and its id is, exactly once, in the execution log or among the discarded (cancelled / collected) ids; and every such
    entry that was a live user event with a living callable, and that no program cancels or drops (`ProgsSpare`, sufficient), has
    been EXECUTED, at its own time: `LogEntry.user e.id e.tag e.time` is in the log. -/
theorem C14_resume_after_exception {s s' s'' : Sim} {f f' : Nat} {T : Int} {x : Exc} (h : Reachable s) (hT : s.now ≤ T)
    (h0 : s.raised = none) (hr : runUntil f s T = some s') (hx : s'.raised = some x)
    (hr2 : runUntil f' (caught s') T = some s'') (hn : s''.raised = none) :
    s''.now = T ∧ (∀ y ∈ s''.pending, T < y.time) ∧
    (∃ new, s''.log = s'.log ++ new ∧ ∀ y ∈ new, y.clock ≤ T) ∧
    (∃ ent, s'.log.getLast? = some ent ∧ (logIds s''.log).count ent.id = 1) ∧
    (∀ e ∈ s'.pending, e.time ≤ T →
      e.id ∉ ids s''.pending ∧ (logIds s''.log).count e.id + s''.gone.count e.id = 1) ∧
    (∀ e ∈ s'.pending, e.isStep = false → e.cancelled = false → e.dead = false → e.time ≤ T → ProgsSpare e.tag e.fn s' →
      LogEntry.user e.id e.tag e.time ∈ s''.log) := by
  have hle : (caught s').now ≤ T := (runUntil_aborted (reachable_inv h).1 h0 hr hx).1
  have hc : Reachable (caught s') := .caught (.until h hT hr)
  have hi := reachable_inv hc
  obtain ⟨hnew, hpost⟩ := runUntil_post hi.1 hr2
  obtain ⟨hnow, hnd⟩ := hpost hn
  refine ⟨hnow, hnd, hnew, ?_, ?_, ?_⟩
  · obtain ⟨ent, h1, h2, _⟩ := C14_raising_event_never_rerun h hT h0 hr hx (.until (.caught .refl) hle hr2)
    exact ⟨ent, h1, h2⟩
  · intro e he heT
    obtain ⟨hnp, hnext⟩ := runUntil_consumes_due hi.1 hi.2.1 hr2 hn (show e ∈ (caught s').pending from he) heT
    have hacc := C14_exactly_once_accounting (.until hc hle hr2) e.id
    rw [List.count_eq_zero.mpr hnp, if_pos (Nat.lt_of_lt_of_le (hi.1.idlt e he) hnext)] at hacc
    exact ⟨hnp, by omega⟩
  · intro e he hu hl hd heT hps
    have hserved : Served e.tag e.fn e.id e.time (caught s') := Or.inl ⟨e, he, hu, rfl, rfl, rfl, rfl, hl, hd⟩
    exact served_due_logged hi.1 (served_stays hserved (show ProgsSpare e.tag e.fn (caught s') from hps)
      (.until .refl hle hr2)).1 hr2 hn heT

/-! ### order of execution with nested scheduling

`runUntilT` (`Proofs/DevsOrder.lean`) is `runUntil` that also returns its trace; erasing the trace gives `runUntil` back. -/

/-- **Order of execution, nested scheduling included.**  Every successful `run_until` from a reachable state has a trace with:
    the log grows by exactly the trace's entries (each at the clock of its event's time); of two events executed in the run the
    earlier one has the smaller (time, priority, id) key **unless the later one was scheduled only after the earlier one had
    been popped**; every traced event was live, due (`time ≤ T`) and older than the counter recorded for it. -/
theorem C14_execution_order {s s' : Sim} {f : Nat} {T : Int} (h : Reachable s) (hr : runUntil f s T = some s') :
    ∃ tr : List (Ev × Nat), runUntilT f s T = some (s', tr) ∧
      s'.log = s.log ++ tr.flatMap (fun y => logOf y.1) ∧
      tr.Pairwise (fun x y => x.1.lt y.1 = true ∨ x.2 ≤ y.1.id) ∧
      ∀ y ∈ tr, y.1.id < y.2 ∧ y.1.cancelled = false ∧ y.1.time ≤ T := by
  obtain ⟨tr, htr⟩ := runUntilT_of_runUntil hr
  have hw := (reachable_inv h).1
  exact ⟨tr, htr, runUntilT_log htr, (runUntilT_traced hw htr).ordered, runUntilT_popped hw htr⟩

/-- **Order of execution over a whole history** (`Proofs/DevsHistory.lean`).  `runHistT` runs any list of steps — top-level
    commands, `run_until` / `run_for` / `run_next_event` calls (cut short by exceptions or not), catches — and returns the trace
    of everything executed on the way (`run_next_event` contributes its one event).  The log grows by exactly the trace; of two
    events executed anywhere in the history — in the same run call or in different ones — the earlier has the smaller
    (time, priority, id) key unless the later one was scheduled only after the earlier one had been popped; every executed
    event precedes, in that sense, everything that is still pending at the end; and the number recorded with a traced event is
    a value the id counter really had: above the event's own id (the event existed at its pop; it was live) and not above the
    final counter — so "`x.2 ≤ y.id`" can only hold for a `y` scheduled after `x` was popped. -/
theorem C14_execution_order_history {s s' : Sim} {f : Nat} {sts : List Step} {tr : List (Ev × Nat)} (h : Reachable s)
    (hr : runHistT f s sts = some (s', tr)) :
    s'.log = s.log ++ tr.flatMap (fun y => logOf y.1) ∧
    tr.Pairwise (fun x y => x.1.lt y.1 = true ∨ x.2 ≤ y.1.id) ∧
    (∀ x ∈ tr, ∀ z ∈ s'.pending, x.1.lt z = true ∨ x.2 ≤ z.id) ∧
    ∀ x ∈ tr, x.1.id < x.2 ∧ x.2 ≤ s'.nextId ∧ x.1.cancelled = false := by
  have hw := (reachable_inv h).1
  obtain ⟨_, ht, hl, hb⟩ := runHistT_spec hw hr
  exact ⟨hl, ht.ordered, fun x hx => (ht.ahead x hx).1, fun x hx => ⟨(hb x hx).1, (ht.ahead x hx).2, (hb x hx).2⟩⟩

/-- **The traces of `C14_execution_order_history` are the real histories.**  Erasing the trace from `runHistT` gives `runHist` —
    nothing but the model's operations (`doCmd`, `runUntil`, `runNext`, `caught`) one after the other —, and every history
    `ReachableFrom` speaks about is such a list of steps and so has a trace. -/
theorem C14_history_traces_are_histories :
    (∀ (f : Nat) (s : Sim) (sts : List Step), (runHistT f s sts).map (·.1) = runHist f s sts) ∧
    (∀ {s s' : Sim}, ReachableFrom s s' → ∃ f sts tr, runHistT f s sts = some (s', tr)) := by
  refine ⟨runHistT_erase, fun hr => ?_⟩
  obtain ⟨f, sts, h⟩ := reachableFrom_runHist hr
  obtain ⟨tr, htr⟩ := runHistT_of_runHist h
  exact ⟨f, sts, tr, htr⟩

/-! non-vacuity: a concrete run with ties, nested scheduling and a cancellation -/
section Example
def exProg : Nat → List Cmd
  | 1 => [.schedRel 0 5 0, .cancel 0]
  | _ => []
def ex0 : Sim := init .devs exProg []
def ex1 : Sim := doCmd (doCmd (doCmd ex0 (.schedAbs 2048 5 0)) (.schedAbs 1024 10 1)) (.schedAbs 1024 1 0)
example : Reachable ex1 := .cmd _ (.cmd _ (.cmd _ (.init _ _ _)))
example : (ex1.pending.map (·.tag)) = [2, 1, 0] := by decide +kernel
example : ((runUntil 10 ex1 4096).map fun s => (s.now, s.log.map (·.id), s.gone)) =
    some (4096, [2, 1, 3], [0]) := by decide +kernel
example : schedRel ex1 (-1) 5 0 = .error .past := rfl
/-- the hypotheses of the at-least-once theorems are met by the event with tag 2 of `ex1` (program 1 cancels tag 0 only);
    the event with tag 0 is cancelled from inside program 1 and is indeed not served -/
example : ProgsSpare 2 2 ex0 := by
  refine ⟨fun a => ?_, by simp [Spares, ex0, init]⟩
  show Spares 2 2 (exProg a)
  unfold Spares exProg
  split <;> simp
example : ((runUntil 10 ex1 4096).map fun s => s.log) =
    some [.user 2 2 1024, .user 1 1 1024, .user 3 3 1024] := by decide +kernel
/-- the trace of that run as (id, priority, id counter at the pop): the event with id 3 (priority 5) runs after the event with
    id 1 (priority 10) at the same time — allowed only because it was scheduled by it (3 ≤ 3): the second disjunct of
    `C14_execution_order` is needed and is tight -/
example : ((runUntilT 10 ex1 4096).map fun p => p.2.map fun y => (y.1.id, y.1.prio, y.2)) =
    some [(2, 1, 3), (1, 10, 3), (3, 5, 4)] := by decide +kernel
/-- a history in pieces with a command in between: `run_next_event` (id 2), a new HIGH event for the same time scheduled at top
    level (id 3: smaller key than id 1, but scheduled after id 2 was popped — it still runs before id 1), `run_until` -/
example : ((runHistT 10 ex1 [.next, .cmd (.schedAbs 1024 1 0), .until 4096]).map fun p => p.2.map fun y => (y.1.id, y.1.prio, y.2)) =
    some [(2, 1, 3), (3, 1, 4), (1, 10, 4), (4, 5, 5)] := by decide +kernel

/-- shared callable: the callable of tag 0 is scheduled three times (tags 0, 1, 2 share `fn = 0`); tag 1 is cancelled — tags 0
    and 2 still run (independence); a HIGH-priority event (tag 3, program 1) drops callable 0 at time 2048, just before tag 2
    would run: tag 2 (id 2) is popped and discarded, and the program can no longer schedule the callable -/
def shProg : Nat → List Cmd
  | 1 => [.drop 0, .again 0 1024 5]
  | _ => []
def sh0 : Sim := init .devs shProg []
def sh1 : Sim := doCmd (doCmd (doCmd (doCmd sh0 (.schedAbs 1024 5 0)) (.again 0 1024 5)) (.again 0 2048 5)) (.cancel 1)
example : Reachable sh1 := .cmd _ (.cmd _ (.cmd _ (.cmd _ (.init _ _ _))))
example : (sh1.pending.map fun e => (e.tag, e.fn, e.cancelled)) = [(0, 0, false), (1, 0, true), (2, 0, false)] := by decide +kernel
example : ((runUntil 10 sh1 4096).map fun s => (s.log.map (·.id), s.gone)) = some ([0, 2], [1]) := by decide +kernel
def sh2 : Sim := doCmd sh1 (.schedAbs 2048 1 1)
example : ((runUntil 10 sh2 4096).map fun s => (s.log.map (·.id), s.gone, s.fns, s.nextId)) =
    some ([0, 3], [1, 2], [(3, 1)], 4) := by decide +kernel
example : again sh1 0 0 5 ≠ none ∧ again (dropFn sh1 0) 0 0 5 = none := by decide +kernel
/-- the hypotheses of `C14_shared_callable_event_is_served` are met by tag 2 (callable 0) when program 1 cancels the two OTHER
    events sharing callable 0 instead of dropping it: tag 2 runs all the same -/
def shProgQ : Nat → List Cmd
  | 1 => [.cancel 0, .cancel 1]
  | _ => []
def sq0 : Sim := init .devs shProgQ []
def sq1 : Sim := doCmd (doCmd (doCmd (doCmd sq0 (.schedAbs 1024 5 0)) (.again 0 1024 5)) (.again 0 2048 5)) (.schedAbs 512 5 1)
example : ProgsSpare 2 0 sq0 := by
  refine ⟨fun a => ?_, by simp [Spares, sq0, init]⟩
  show Spares 2 0 (shProgQ a)
  unfold Spares shProgQ
  split <;> simp
example : ((runUntil 10 sq1 4096).map fun s => (s.log, s.gone)) = some ([.user 3 3 512, .user 2 2 2048], [0, 1]) := by decide +kernel

/-- a callable that raises: program 1 schedules a follow-up, raises IndexError, and would schedule another one (which it never
    does); `run_until(4096)` is cut short at 1024 with the exception pending, the raising event (id 0) consumed, the follow-up
    (id 2) and the event of time 2048 (id 1) still on the list; the resumed call executes exactly those two -/
def rsProg : Nat → List Cmd
  | 1 => [.schedRel 512 5 0, .raise .index, .schedRel 0 5 0]
  | _ => []
def rs1 : Sim := doCmd (doCmd (init .devs rsProg []) (.schedAbs 1024 5 1)) (.schedAbs 2048 5 0)
example : Reachable rs1 := .cmd _ (.cmd _ (.init _ _ _))
example : ((runUntil 10 rs1 4096).map fun s => (s.raised, s.now, s.log.map (·.id), s.pending.map (·.id), s.nextId)) =
    some (some .index, 1024, [0], [2, 1], 3) := by decide +kernel
example : ((runUntil 10 rs1 4096).bind fun s => (runUntil 10 (caught s) 4096).map fun s => (s.raised, s.now, s.log.map (·.id), s.pending.map (·.id))) =
    some (none, 4096, [0, 2, 1], []) := by decide +kernel
example : ((resume 10 5 rs1 4096).map fun s => (s.now, s.log.map (·.id))) = some (4096, [0, 2, 1]) := by decide +kernel
example : ((runUntilC 10 rs1 4096).map fun s => (s.now, s.log.map (·.id))) = some (4096, [0, 2, 1]) := by decide +kernel
/-- `run_next_event` meets the same exception (`C14_run_next_aborted`): event id 0 consumed, its follow-up (id 2) on the list -/
example : ((runNext rs1).raised, (runNext rs1).now, (runNext rs1).log.map (·.id), (runNext rs1).pending.map (·.id)) =
    (some .index, 1024, [0], [2, 1]) := by decide +kernel
/-- the `ProgsSpare` hypothesis of the last clause of `C14_resume_after_exception` is met by both events left on the list when the
    run was cut short (no program of `rsProg` cancels or drops anything): both are executed by the resumed call (log above) -/
example (k c : Nat) : ProgsSpare k c (init .devs rsProg []) := by
  refine ⟨fun a => ?_, by simp [Spares, init]⟩
  show Spares k c (rsProg a)
  unfold Spares rsProg
  split <;> simp
end Example

end Mesa.Devs
