import MesaModel.Proofs.ContMetric
/-!
# C10 — both continuous spaces keep every position and answer range / k-nearest / distance queries exactly

Property theorems (model: `Model/Cont.lean`; helper lemmas: `Proofs/ContArith.lean`,
`Proofs/ContLegacy.lean`, `Proofs/ContExp.lean`, `Proofs/ContMetric.lean`).  The statements are written with definitions of
those files: `LInv`, `nbrSpec`, `lspecStep` / `lspec`, `LCfg.WF` (ContLegacy); `EInv`, `eassign` (the value an assignment stores),
`ESpec` / `especStep` / `espec`, `ECfg.WF`, `EOp.target` (ContExp); `norm2`, `euclid2`, `imgDist2`, `MetricDist2`, `LCfg.dims`,
`EOp.vec`, `WfOps` (ContMetric).  Coordinates are exact (`Int`, units of 1/64),
distances are compared squared.

A *history* is any list of calls, accepted or rejected:
legacy `LOp` = place / move / remove / get_neighbors (which builds the cache),
experimental `EOp` = new agent / position assignment / `position += v` / `agent.remove()` / a user write through the public
`space.agent_positions` view (`raw`, not validated by anything) — so every `∀ ops` below includes histories with such writes.
`lrun c ops` / `erun c cap ops` is the model state after the history on a fresh space with bounds `c`
(and initial capacity `cap`); `lspec c ops` / `espec c ops` is the property's own bookkeeping of the
same history: the agents placed and not removed, in order, the value last assigned to each, and (experimental)
which agent objects were removed (`lspecStep`, `especStep`: no cache, no array, no index maps).
The experimental agent-level API is `agentGet / agentSet / agentIadd / agentRemove / agentNir / agentNn`
(an `AttributeError` on a removed agent object, otherwise `getPos / setPos / … `: `C10_exp_agent_api`).
-/
namespace Mesa.Cont

/-! ## the assignment rule (in bounds / wrapped on a torus / rejected) -/

/-- Legacy: a position inside `[min, max)` is stored as it is; outside, a bounded space rejects it and
    a torus stores a point inside the space that differs from it by whole multiples of the size. -/
theorem C10_legacy_assignment_rule (c : LCfg) (hw : c.WF) (p : P2) :
    (oob c p = false → torusAdj c p = .ok p) ∧
    (oob c p = true → c.torus = false → torusAdj c p = .error .oob) ∧
    (oob c p = true → c.torus = true → ∃ p', torusAdj c p = .ok p' ∧ oob c p' = false ∧
      ∃ kx ky : Int, p' = (p.1 + kx * c.width, p.2 + ky * c.height)) :=
  ⟨torusAdj_inside c p, torusAdj_reject c p, torusAdj_wrap c hw p⟩

/-- Experimental: a position inside `[min, max]` is stored as it is; outside, a bounded space rejects
    the assignment (and the setter then raises) and a torus stores `torus_correct(p)`, a point inside the space.
    (What `torus_correct` returns, coordinate by coordinate: `C10_exp_wrap_is_periodic_image`.) -/
theorem C10_exp_assignment_rule (c : ECfg) (hw : c.WF) (p : Pos) :
    (inBounds c.dims p = true → eassign c p = some p) ∧
    (inBounds c.dims p = false → c.torus = false → eassign c p = none) ∧
    (inBounds c.dims p = false → c.torus = true →
      eassign c p = some (torusCorrect c.dims p) ∧ inBounds c.dims (torusCorrect c.dims p) = true) :=
  ⟨eassign_of_inBounds, eassign_of_bounded, fun h ht => ⟨eassign_of_torus h ht, torusCorrect_inBounds _ _ hw⟩⟩

/-- every coordinate the torus correction produces is a periodic image of the given one -/
theorem C10_wrap_is_periodic_image (lo w x : Int) (hw : 0 < w) :
    lo ≤ lo + (x - lo) % w ∧ lo + (x - lo) % w < lo + w ∧ ∃ k : Int, lo + (x - lo) % w = x + k * w :=
  ⟨(wrap_bounds lo w x hw).1, (wrap_bounds lo w x hw).2, wrap_congr lo w x⟩

/-- Experimental torus, the stored value itself (not the bare expression): for a point `p` with one coordinate per axis,
    what an out-of-bounds assignment stores has again one coordinate per axis, and its `i`-th coordinate is `p[i]` moved
    by a whole number of sizes of axis `i` into `[min_i, max_i)` — so a `torus_correct` that returned, say, the lower
    corner would not do.  Legacy: the third clause of `C10_legacy_assignment_rule`. -/
theorem C10_exp_wrap_is_periodic_image (c : ECfg) (hw : c.WF) (p : Pos) (hl : p.length = c.dims.length)
    (hout : inBounds c.dims p = false) (ht : c.torus = true) :
    ∃ p', eassign c p = some p' ∧ p'.length = c.dims.length ∧
      ∀ i (h1 : i < c.dims.length) (h2 : i < p.length) (h3 : i < p'.length),
        c.dims[i].1 ≤ p'[i] ∧ p'[i] < c.dims[i].2 ∧ ∃ k : Int, p'[i] = p[i] + k * (c.dims[i].2 - c.dims[i].1) :=
  ⟨torusCorrect c.dims p, eassign_of_torus hout ht, torusCorrect_length _ _ hl,
    fun i h1 h2 h3 => torusCorrect_getElem c.dims hw p i h1 h2 h3⟩

/-! ## positions and membership over all histories -/

/-- Legacy, every history: `space.agents` is exactly the agents placed and not removed (in order of
    first placement) and every agent's `pos` is the value last assigned to it — whatever was done to
    other agents, and whether or not the position cache was built, patched or invalidated in between. -/
theorem C10_legacy_positions_all_histories (c : LCfg) (ops : List LOp) :
    (lrun c ops).agents = (lspec c ops).1 ∧ (lrun c ops).pos = (lspec c ops).2 :=
  ⟨(lrun_refines c ops).keys, (lrun_refines c ops).pos⟩

/-- Legacy frame: a call that does not assign to / remove agent `a` leaves `a.pos` alone. -/
theorem C10_legacy_frame (c : LCfg) (ops : List LOp) (op : LOp) (a : Aid)
    (h : ∀ b p, (op = .place b p ∨ op = .move b p ∨ op = .remove b) → b ≠ a) :
    (lrun c (ops ++ [op])).pos a = (lrun c ops).pos a := by
  rw [(lrun_refines c (ops ++ [op])).pos, (lrun_refines c ops).pos, lspec_snoc]
  exact (lspecStep_frame c _ op a h).1

/-- Legacy: every agent in the space has a position, and it lies inside the bounds. -/
theorem C10_legacy_positions_inside (c : LCfg) (hw : c.WF) (ops : List LOp) :
    ∀ a ∈ (lrun c ops).agents, ∃ p, (lrun c ops).pos a = some p ∧ oob c p = false := by
  rw [(C10_legacy_positions_all_histories c ops).1, (C10_legacy_positions_all_histories c ops).2]
  exact lspec_inside c hw ops

/-- Legacy, every history: whenever the position cache exists it is coherent — `_index_to_agent` lists
    the agents in dict order, `_agent_to_index` is its inverse (never `None`), and row `i` of
    `_agent_points` is the position of agent `i`. -/
theorem C10_legacy_cache_coherent (c : LCfg) (ops : List LOp) : LInv (lrun c ops) :=
  (lrun_refines c ops).inv

/-- Experimental, every history and every initial capacity: `space.agents` is exactly the agents created
    and not removed (in order), every agent reads back the value last assigned to it — unaffected by
    growth of the array, by compaction on removal and by assignments to other agents — and an agent
    that is not in the space has no row. -/
theorem C10_exp_positions_all_histories (c : ECfg) (cap : Nat) (ops : List EOp) :
    (erun c cap ops).active = (espec c ops).members ∧
    (∀ a p, (espec c ops).pos a = some p →
      agentGet (erun c cap ops) a = .ok p ∧ getPos (erun c cap ops) a = .ok p) ∧
    (∀ a, a ∉ (espec c ops).members →
      agentGet (erun c cap ops) a = .error (if (espec c ops).removed a then .attr else .key) ∧
      getPos (erun c cap ops) a = .error .key) := by
  have h := erun_refines c cap ops
  refine ⟨h.active, fun a p hp => ?_, fun a ha => ?_⟩
  · have hm : a ∈ (erun c cap ops).active := h.active ▸ h.mem_of_pos hp
    exact ⟨by rw [agentGet_of_mem h.inv hm]; exact h.pos a p hp, h.pos a p hp⟩
  · have hn : a ∉ (erun c cap ops).active := by
      rw [h.active]
      exact ha
    exact ⟨by rw [agentGet_of_not_mem h.inv hn, h.gone], getPos_of_not_mem h.inv hn⟩

/-- Experimental frame: a call about another agent (creation — with or without growth of the array —,
    assignment, removal with compaction, a write through the `agent_positions` view into another agent's row or beyond
    the view) does not change what agent `a` reads back. -/
theorem C10_exp_frame (c : ECfg) (cap : Nat) (ops : List EOp) (op : EOp) (a : Aid)
    (ha : a ∈ (erun c cap ops).active) (hne : op.target (erun c cap ops) ≠ some a) :
    getPos (erun c cap (ops ++ [op])) a = getPos (erun c cap ops) a := by
  rw [erun_snoc]
  exact getPos_estep_frame (erun_refines c cap ops).inv op ha hne

/-- Experimental, every history: the array bookkeeping is consistent — `_n_agents` is the number of agents
    and does not exceed the capacity (so every agent has a row), and `_agent_to_index` maps `active[i]`
    to `i` and nothing else to `i`. -/
theorem C10_exp_index_maps_consistent (c : ECfg) (cap : Nat) (ops : List EOp) :
    let s := erun c cap ops
    s.n = s.active.length ∧ s.n ≤ s.cap ∧ s.active.Nodup ∧ ∀ a i, s.a2i a = some i ↔ s.active[i]? = some a :=
  let h := (erun_refines c cap ops).inv
  ⟨h.len, h.cap, h.nodup, h.idx⟩

/-- Experimental: every position assigned through the agent API (by the setter or by `+=`) lies inside the bounds — in
    every history whose writes through the `agent_positions` view, if any, wrote points of the space (the view does not
    validate: `C10_exp_raw_view_write`, and the `rawWrite` example in the Examples section, show an agent put outside a
    bounded space that way). -/
theorem C10_exp_positions_inside (c : ECfg) (hw : c.WF) (ops : List EOp)
    (hraw : ∀ i p, EOp.raw i p ∈ ops → inBounds c.dims p = true) :
    ∀ a p, (espec c ops).pos a = some p → inBounds c.dims p = true :=
  espec_pos_invariant c (fun p => inBounds c.dims p = true) ops
    (fun _ _ _ _ hp => eassign_inBounds c hw hp) (fun _ _ _ _ _ _ hp => eassign_inBounds c hw hp) hraw

/-- In every history whose vectors have one coordinate per axis (`WfOps`), every recorded position has one coordinate per axis —
    whatever was written through the view. -/
theorem C10_exp_positions_have_dimension (c : ECfg) (ops : List EOp) (hwf : WfOps c ops) :
    ∀ a p, (espec c ops).pos a = some p → p.length = c.dims.length :=
  espec_pos_invariant c (fun p => p.length = c.dims.length) ops
    (fun a q hm p' he => eassign_length c he (hwf _ hm q rfl))
    (fun a v q hm hq p' he => eassign_length c he (by rw [vadd_length q v (by rw [hwf _ hm v rfl, hq]), hq]))
    (fun i q hm => hwf _ hm q rfl)

/-- … and "inside the bounds" means what it says.  `inBounds`, `torusCorrect`, `vadd` and the distance functions pair
    coordinates with axes and stop at the shorter list, so for vectors of the wrong length the conclusion above would be met
    by `[]`.  In every history whose vectors have one coordinate per axis (`WfOps`; what numpy does to other vectors is
    `C10_exp_vector_lengths` and `C10_exp_history_vectors_normalise`), every position the space holds has exactly one
    coordinate per axis, and coordinate `i` lies in `[min_i, max_i]`. -/
theorem C10_exp_positions_wellformed (c : ECfg) (hw : c.WF) (ops : List EOp) (hwf : WfOps c ops)
    (hraw : ∀ i p, EOp.raw i p ∈ ops → inBounds c.dims p = true) :
    ∀ a p, (espec c ops).pos a = some p →
      p.length = c.dims.length ∧
      ∀ i (h1 : i < c.dims.length) (h2 : i < p.length), c.dims[i].1 ≤ p[i] ∧ p[i] ≤ c.dims[i].2 := by
  intro a p hp
  exact ⟨C10_exp_positions_have_dimension c ops hwf a p hp,
    fun i h1 h2 => inBounds_getElem c.dims p (C10_exp_positions_inside c hw ops hraw a p hp) i h1 h2⟩

/-! ## calls the property allows never raise -/

/-- Legacy, every history: a call the property allows never raises — a placement or a move of an agent of
    the space is accepted whenever the assignment rule accepts the position (and only then), and an agent
    of the space can be removed.  (`get_neighbors` never raises: `C10_legacy_neighbors_exact`.) -/
theorem C10_legacy_valid_calls_succeed (c : LCfg) (ops : List LOp) (a : Aid) (p : P2) :
    let s := lrun c ops
    (∀ p', torusAdj c p = .ok p' → ∃ s', place s a p = .ok s') ∧
    (∀ e, torusAdj c p = .error e → place s a p = .error e ∧ move s a p = (s, .error e)) ∧
    (a ∈ s.agents → ∀ p', torusAdj c p = .ok p' → (move s a p).2 = .ok ()) ∧
    (a ∈ s.agents → ∃ s', remove s a = .ok s') := by
  dsimp only
  have h := lrun_refines c ops
  refine ⟨fun p' hp => ?_, fun e he => ?_, fun ha p' hp => ?_, fun ha => ?_⟩
  · exact ⟨_, by simp only [place, h.cfg, hp]; rfl⟩
  · exact ⟨by simp only [place, h.cfg, he], by simp only [move, h.cfg, he]⟩
  · obtain ⟨pts', r, hm, _, hr | ⟨_, hr⟩⟩ := move_accepted h.inv a (h.cfg ▸ hp)
    · rw [hm]
      exact hr
    · exact absurd ha hr
  · have : (lrun c ops).a2i.keys.contains a = true := by simpa [LSpace.agents] using ha
    exact ⟨_, by simp only [remove, this]; rfl⟩

/-- Experimental, every history and every initial capacity: a call the property allows never raises —
    an agent of the space can be assigned (`agent.position = p`) every position the assignment rule accepts
    (whatever the capacity was: the array has grown) and reads it back, is rejected with `ValueError` otherwise,
    and can be removed. -/
theorem C10_exp_valid_calls_succeed (c : ECfg) (cap : Nat) (ops : List EOp) (a : Aid) (p : Pos) :
    let s := erun c cap ops
    a ∈ s.active →
    (∀ p', eassign c p = some p' → ∃ s', agentSet s a p = .ok s' ∧ agentGet s' a = .ok p') ∧
    (eassign c p = none → agentSet s a p = .error .oob) ∧
    (∃ s', agentRemove s a = .ok s') := by
  dsimp only
  intro ha
  have h := erun_refines c cap ops
  obtain ⟨i, hi⟩ := (h.inv.mem_iff a).mp ha
  have hc : eassign (erun c cap ops).cfg p = eassign c p := by rw [h.cfg]
  rw [agentSet_of_mem h.inv ha, setPos_of_idx h.inv hi, hc]
  refine ⟨fun p' hp => ?_, fun hp => by rw [hp], ?_⟩
  · rw [hp]
    refine ⟨_, rfl, ?_⟩
    rw [agentGet_of_mem (einv_set h.inv i p') (by exact ha), getPos_set h.inv hi]
    simp
  · obtain ⟨s', h1, _⟩ := agentRemove_spec h.inv hi
    exact ⟨s', h1⟩

/-- Experimental, every history: `agent.position += v` is the assignment of (current position) + v — the sum is
    validated / wrapped by the assignment rule before anything is written (after repair CS2: the getter hands
    out a copy, so `+=` cannot write into the array behind the setter's back).  A rejected `+=` leaves the
    space as it was. -/
theorem C10_exp_iadd_is_assignment (c : ECfg) (cap : Nat) (ops : List EOp) (a : Aid) (q v : Pos) :
    let s := erun c cap ops
    a ∈ s.active → agentGet s a = .ok q →
    agentIadd s a v = agentSet s a (vadd q v) ∧
    (∀ p', eassign c (vadd q v) = some p' → ∃ s', agentIadd s a v = .ok s' ∧ agentGet s' a = .ok p') ∧
    (eassign c (vadd q v) = none → agentIadd s a v = .error .oob ∧ estep s (.iadd a v) = s) := by
  dsimp only
  intro ha hq
  have hv := C10_exp_valid_calls_succeed c cap ops a (vadd q v) ha
  have e : agentIadd (erun c cap ops) a v = agentSet (erun c cap ops) a (vadd q v) := by
    simp only [agentIadd, hq]
  refine ⟨e, fun p' hp => ?_, fun hp => ?_⟩
  · rw [e]
    exact hv.1 p' hp
  · have := hv.2.1 hp
    exact ⟨by rw [e]; exact this, by simp only [estep, e, this]⟩

/-! ## "last assigned", in closed form (no bookkeeping function in the statement) -/

/-- Experimental, every pair of histories and every initial capacity: if agent `a` of the space is assigned `p`, the
    assignment rule stores `p'` for `p`, and none of the calls that follow is about `a` (no assignment, `+=`, removal of `a`,
    no write through the view into the row `a` has at that moment) — whatever they do to other agents: creations with
    re-allocation, removals with compaction of `a`'s row, writes — then `a` is still in the space and reports `p'`. -/
theorem C10_exp_last_assignment (c : ECfg) (cap : Nat) (pre post : List EOp) (a : Aid) (p p' : Pos) :
    a ∈ (erun c cap pre).active → eassign c p = some p' →
    (∀ k (hk : k < post.length), (post[k]).target (erun c cap (pre ++ [EOp.set a p] ++ post.take k)) ≠ some a) →
    a ∈ (erun c cap (pre ++ [EOp.set a p] ++ post)).active ∧
    agentGet (erun c cap (pre ++ [EOp.set a p] ++ post)) a = .ok p' := by
  intro ha hp hpost
  obtain ⟨s', h1, h2⟩ := (C10_exp_valid_calls_succeed c cap pre a p ha).1 p' hp
  have hstep : erun c cap (pre ++ [EOp.set a p]) = s' := by
    rw [erun_snoc]
    simp only [estep, h1]
  have hmem : a ∈ (erun c cap (pre ++ [EOp.set a p])).active := by
    rw [(erun_refines c cap (pre ++ [EOp.set a p])).active, espec_snoc]
    exact especStep_members_frame c _ _ a (by rw [← (erun_refines c cap pre).active]; exact ha) (by simp)
  obtain ⟨f1, f2⟩ := erun_frame_fold c cap a post (pre ++ [EOp.set a p]) hmem hpost
  refine ⟨f1, ?_⟩
  rw [agentGet_of_mem (erun_refines c cap _).inv f1, f2, ← agentGet_of_mem (erun_refines c cap _).inv hmem, hstep]
  exact h2

/-- Experimental: a freshly created agent has no assigned position, and the code gives it none (`_add_agent` only reserves the
    next row; the constructor's `self.position[:] = np.nan` is commented out).  It is appended to `space.agents`, and until its
    first assignment it reports whatever that row holds — uninitialised memory, or the stale copy compaction left there of an
    agent removed earlier (example below: the new agent reads the removed agent's last position) — and every query computes
    with that row.  The property speaks about assigned positions only, so this is outside its quantifier (harness assumption
    "assigned before read"); the bookkeeping `espec` says `none` for it, which leaves the agent unconstrained in
    `C10_exp_positions_all_histories` until it is assigned (`C10_exp_last_assignment`). -/
theorem C10_exp_fresh_agent (c : ECfg) (cap : Nat) (ops : List EOp) (a : Aid) :
    let s := erun c cap ops
    a ∉ s.active → (espec c ops).removed a = false →
    (erun c cap (ops ++ [.new a])).active = s.active ++ [a] ∧
    (espec c (ops ++ [.new a])).pos a = none ∧
    getPos (erun c cap (ops ++ [.new a])) a = .ok (s.buf s.active.length) := by
  dsimp only
  have h := erun_refines c cap ops
  have h' := estep_refines h (.new a)
  simp only [erun_snoc, espec_snoc]
  generalize erun c cap ops = s at h h' ⊢
  generalize espec c ops = st at h h' ⊢
  intro ha hr
  have hf : s.a2i a = none := (h.inv.not_mem_iff a).mp ha
  have hg : s.gone a = false := by
    rw [h.gone]
    exact hr
  rw [estep_new_of_fresh hf hg] at h' ⊢
  refine ⟨rfl, ?_, ?_⟩
  · simp [especStep, show a ∉ st.members from h.active ▸ ha, hr, upd]
  · rw [getPos_of_idx h'.inv (show (addAgent s a).a2i a = some s.n by simp [addAgent, upd]), h.inv.len]
    rfl

/-- Experimental, every history: every agent of the space has a row of the view — it is the `i`-th agent of `space.agents`
    for the `i < _n_agents` that `_agent_to_index` gives, and reading its position never raises and returns that row, whether
    or not it has been assigned one (the bookkeeping of `C10_exp_positions_all_histories` says what it reads only once it was
    assigned). -/
theorem C10_exp_every_agent_has_a_row (c : ECfg) (cap : Nat) (ops : List EOp) (a : Aid) :
    let s := erun c cap ops
    a ∈ s.active → ∃ i, i < s.n ∧ s.n ≤ s.cap ∧ s.a2i a = some i ∧ s.active[i]? = some a ∧
      agentGet s a = .ok (s.buf i) ∧ getPos s a = .ok (s.buf i) := by
  intro s ha
  have h := (erun_refines c cap ops).inv
  obtain ⟨i, hi⟩ := (h.mem_iff a).mp ha
  exact ⟨i, h.lt hi, h.cap, hi, (h.idx a i).mp hi, by rw [agentGet_of_mem h ha]; exact getPos_of_idx h hi, getPos_of_idx h hi⟩

/-- Legacy, every pair of histories: if `a` is placed at (or, being in the space, moved to) `p`, the assignment rule stores
    `p'` for `p`, and no later call places, moves or removes `a` — whatever is done to other agents and whenever the cache is
    built, patched or dropped — then `a` is in the space and its `pos` is `p'`. -/
theorem C10_legacy_last_assignment (c : LCfg) (pre post : List LOp) (a : Aid) (p p' : P2) (byMove : Bool) :
    (byMove = true → a ∈ (lrun c pre).agents) → torusAdj c p = .ok p' →
    (∀ op ∈ post, ∀ b q, (op = .place b q ∨ op = .move b q ∨ op = .remove b) → b ≠ a) →
    a ∈ (lrun c (pre ++ [if byMove then .move a p else .place a p] ++ post)).agents ∧
    (lrun c (pre ++ [if byMove then .move a p else .place a p] ++ post)).pos a = some p' := by
  intro hm hp hpost
  rw [(C10_legacy_positions_all_histories c _).1, (C10_legacy_positions_all_histories c _).2]
  simp only [lspec, List.foldl_append, List.foldl_cons, List.foldl_nil]
  apply lspec_fold_frame c a p' post hpost
  · cases byMove with
    | true =>
      have := hm rfl
      rw [(C10_legacy_positions_all_histories c pre).1] at this
      simpa [lspecStep, hp, lspec] using this
    | false =>
      simp only [Bool.false_eq_true, if_false, lspecStep, hp]
      split <;> simp [*]
  · cases byMove <;> simp [lspecStep, hp, upd]

/-- Experimental life cycle, every history: an agent object whose `remove()` was executed is out of the space
    for good — it is not in `space.agents`, no query returns it (`C10_exp_radius_exact`, … range over
    `space.agents`), and every method of the agent object (`position`, `position = …`, `position += …`,
    `remove()` again, both neighbour queries) raises `AttributeError` and changes nothing; through the space-level
    API (`agents=[a]`) it is a `KeyError`. -/
theorem C10_exp_removed_agent_is_dead (argpart : List Int → Nat → List Nat) (c : ECfg) (cap : Nat)
    (ops : List EOp) (a : Aid) :
    let s := erun c cap ops
    (espec c ops).removed a = true →
    a ∉ s.active ∧
    agentGet s a = .error .attr ∧ (∀ p, agentSet s a p = .error .attr) ∧ (∀ v, agentIadd s a v = .error .attr) ∧
    agentRemove s a = .error .attr ∧ (∀ r, agentNir s a r = .error .attr) ∧
    (∀ k, agentNn argpart s a k = .error .attr) ∧ (∀ j, agentPoke s a j = .error .attr) ∧
    (∀ pt, distancesOf s pt (some [a]) = .error .key) ∧
    (∀ op : EOp, op.target s = some a → estep s op = s) := by
  dsimp only
  intro hr
  have h := erun_refines c cap ops
  have hg : (erun c cap ops).gone a = true := by
    rw [h.gone]
    exact hr
  have hn : (erun c cap ops).a2i a = none := h.inv.gone a hg
  have hget : agentGet (erun c cap ops) a = .error .attr := by simp [agentGet, hg]
  refine ⟨(h.inv.not_mem_iff a).mpr hn, hget, fun p => by simp [agentSet, hg],
    fun v => by simp [agentIadd, hget], by simp [agentRemove, hg], fun r => by simp [agentNir, hg],
    fun k => by simp [agentNn, hg], fun j => by simp [agentPoke, hget],
    fun pt => by simp [distancesOf, rowsOf, collect, hn, Except.map], ?_⟩
  intro op ht
  cases op with
  | new b | set b _ | remove b | iadd b _ =>
    cases ht
    simp [estep, agentSet, agentRemove, agentIadd, hget, hg]
  | raw i p =>
    -- no row of the view belongs to a removed agent: a write through the view cannot reach it
    exact absurd (List.mem_of_getElem? ht) ((h.inv.not_mem_iff a).mpr hn)

/-- … and removal is what kills it: on an agent of the space `remove()` succeeds, takes exactly that agent out of
    `space.agents`, marks the object removed, and no other agent's position changes. -/
theorem C10_exp_remove_lifecycle (c : ECfg) (cap : Nat) (ops : List EOp) (a : Aid) :
    let s := erun c cap ops
    a ∈ s.active →
    (espec c ops).removed a = false ∧
    ∃ s', agentRemove s a = .ok s' ∧ s' = erun c cap (ops ++ [.remove a]) ∧
      s'.active = s.active.filter (fun b => b ≠ a) ∧ (espec c (ops ++ [.remove a])).removed a = true ∧
      ∀ b, b ≠ a → agentGet s' b = agentGet s b := by
  dsimp only
  have h := erun_refines c cap ops
  have h' := estep_refines h (.remove a)
  simp only [erun_snoc, espec_snoc]
  generalize erun c cap ops = s at h h' ⊢
  generalize espec c ops = st at h h' ⊢
  intro ha
  obtain ⟨i, hi⟩ := (h.inv.mem_iff a).mp ha
  obtain ⟨s', h1, _, _, h6, h8⟩ := agentRemove_spec h.inv hi
  have hrun : estep s (.remove a) = s' := by simp only [estep, h1]
  have hmem : a ∈ st.members := h.active ▸ ha
  refine ⟨by rw [← h.gone]; exact h.inv.not_gone hi, s', h1, hrun.symm, ?_, ?_, ?_⟩
  · rw [← hrun, h'.active, h.active]
    simp [especStep, hmem]
  · simp [especStep, hmem, upd]
  · intro b hba
    simp only [agentGet, h6, upd, hba, if_false]
    rw [h8 b hba]

/-- The agent-level API on an agent of the space is the space-level function the other theorems talk about. -/
theorem C10_exp_agent_api (argpart : List Int → Nat → List Nat) (c : ECfg) (cap : Nat) (ops : List EOp) (a : Aid) :
    let s := erun c cap ops
    a ∈ s.active →
    agentGet s a = getPos s a ∧ (∀ p, agentSet s a p = setPos s a p) ∧
    (∀ r, agentNir s a r = neighborsInRadius s a r) ∧ (∀ k, agentNn argpart s a k = nearestNeighbors argpart s a k) := by
  dsimp only
  intro ha
  have h := erun_refines c cap ops
  obtain ⟨i, hi⟩ := (h.inv.mem_iff a).mp ha
  have hg := h.inv.not_gone hi
  exact ⟨agentGet_of_mem h.inv ha, agentSet_of_mem h.inv ha, fun r => by simp [agentNir, hg],
    fun k => by simp [agentNn, hg]⟩

/-- `space.agent_positions` is a *view* of the filled rows, and a user write through it, `space.agent_positions[i] = p`
    (or a vectorised update of all rows), at any state any history can reach: it lands in the row of the `i`-th agent of
    `space.agents` with no validation — that agent then reports `p` even if `p` is outside the bounds of a bounded space
    or un-wrapped on a torus — and touches nothing else: membership, order, index maps, counts, capacity and every other
    agent's position are as before.  For a value the assignment rule stores as it is (in bounds) the write is
    indistinguishable from `agent.position = p`.  Beyond the view it is an `IndexError`.  The write is a call of the
    histories (`EOp.raw`): the bookkeeping `espec` records `p` as the agent's position, and every history theorem of this
    file (positions, index maps, exact radius / k-nearest / distance answers) holds after any number of such writes —
    they can misplace an agent, they cannot corrupt the space. -/
theorem C10_exp_raw_view_write (c : ECfg) (cap : Nat) (ops : List EOp) (i : Nat) (p : Pos) :
    let s := erun c cap ops
    (∀ a, s.active[i]? = some a →
      ∃ s', rawWrite s i p = .ok s' ∧ s'.active = s.active ∧ s'.a2i = s.a2i ∧ s'.n = s.n ∧ s'.cap = s.cap ∧
        s'.gone = s.gone ∧ agentGet s' a = .ok p ∧ (∀ b, b ≠ a → agentGet s' b = agentGet s b) ∧
        s' = erun c cap (ops ++ [.raw i p]) ∧ (espec c (ops ++ [.raw i p])).pos a = some p ∧
        (inBounds c.dims p = true → s' = erun c cap (ops ++ [.set a p]))) ∧
    (s.active.length ≤ i → rawWrite s i p = .error .index ∧ erun c cap (ops ++ [.raw i p]) = s) := by
  dsimp only
  have h := erun_refines c cap ops
  simp only [erun_snoc, espec_snoc]
  generalize erun c cap ops = s at h ⊢
  generalize espec c ops = st at h ⊢
  refine ⟨fun a ha => ?_, fun hi => ?_⟩
  · have hidx : s.a2i a = some i := (h.inv.idx a i).mpr ha
    have hlt : i < s.view := by
      rw [h.inv.view]
      exact h.inv.lt hidx
    have hmem : a ∈ s.active := List.mem_of_getElem? ha
    refine ⟨{ s with buf := upd s.buf i p }, by simp [rawWrite, hlt], rfl, rfl, rfl, rfl, rfl,
      ?_, fun b hb => ?_, ?_, ?_, fun hin => ?_⟩
    · rw [agentGet_of_mem (einv_set h.inv i p) (by exact hmem), getPos_set h.inv hidx]
      simp
    · simp only [agentGet]
      rw [getPos_set h.inv hidx]
      simp [hb]
    · rw [estep_raw, if_pos hlt]
    · simp [especStep, show st.members[i]? = some a from h.active ▸ ha, upd]
    · have he : eassign s.cfg p = some p := by
        rw [h.cfg]
        exact eassign_of_inBounds hin
      rw [estep_set_of_idx h.inv hidx, he]
  · have : ¬ i < s.view := by
      rw [h.inv.view, h.inv.len]
      omega
    exact ⟨by simp [rawWrite, this], by rw [estep_raw, if_neg this]⟩

/-! ### vectors with the wrong number of coordinates -/

/-- The code never checks the length of a point; this is what happens instead, at every reachable state of a space with
    `nd ≥ 2` axes (`…V` = the call with a vector of any length).  With the right length the call is the one the other
    theorems talk about.  A one-element vector `[x]` is silently taken for `(x, …, x)` by assignment, `+=`, writes through the
    view, difference vectors, `in_bounds` — and by the distance-based queries of a torus, while on a bounded space the same
    queries raise `ValueError` (`scipy.cdist` counts columns).  Every other length raises `ValueError` everywhere, and
    nothing is written. -/
theorem C10_exp_vector_lengths (argpart : List Int → Nat → List Nat) (c : ECfg) (cap : Nat) (ops : List EOp) (a : Aid)
    (p : Pos) :
    let s := erun c cap ops
    a ∈ s.active →
    (p.length = c.dims.length →
      agentSetV s a p = agentSet s a p ∧ agentIaddV s a p = agentIadd s a p ∧ (∀ i, rawWriteV s i p = rawWrite s i p) ∧
      (∀ sub, distancesOfV s p sub = distancesOf s p sub) ∧ (∀ sub, diffsOfV s p sub = diffsOf s p sub) ∧
      (∀ r, agentsInRadiusV s p r = .ok (agentsInRadius s p r)) ∧ (∀ k, kNearestV argpart s p k = kNearest argpart s p k)) ∧
    (∀ x, p = [x] → c.dims.length ≠ 1 →
      agentSetV s a p = agentSet s a (List.replicate c.dims.length x) ∧
      agentIaddV s a p = agentIadd s a (List.replicate c.dims.length x) ∧
      (∀ i, rawWriteV s i p = rawWrite s i (List.replicate c.dims.length x)) ∧
      (∀ sub, diffsOfV s p sub = diffsOf s (List.replicate c.dims.length x) sub) ∧
      inBoundsV s p = .ok (inBounds c.dims (List.replicate c.dims.length x)) ∧
      (c.torus = true → (∀ sub, distancesOfV s p sub = distancesOf s (List.replicate c.dims.length x) sub) ∧
        ∀ r, agentsInRadiusV s p r = .ok (agentsInRadius s (List.replicate c.dims.length x) r)) ∧
      (c.torus = false → distancesOfV s p none = .error .value ∧ (∀ r, agentsInRadiusV s p r = .error .value) ∧
        ∀ k, kNearestV argpart s p k = .error .value)) ∧
    (p.length ≠ c.dims.length → p.length ≠ 1 →
      agentSetV s a p = .error .value ∧ agentIaddV s a p = .error .value ∧
      (∀ i, i < s.active.length → rawWriteV s i p = .error .value) ∧
      distancesOfV s p none = .error .value ∧ diffsOfV s p none = .error .value ∧
      (∀ r, agentsInRadiusV s p r = .error .value) ∧ (∀ k, kNearestV argpart s p k = .error .value) ∧
      inBoundsV s p = .error .value ∧ torusCorrectV s p = .error .value) := by
  dsimp only
  have h := erun_refines c cap ops
  generalize erun c cap ops = s at h ⊢
  intro ha
  have hnd : s.nd = c.dims.length := by rw [ESpace.nd, h.cfg]
  have ht : s.cfg.torus = c.torus := by rw [h.cfg]
  obtain ⟨i0, hi0⟩ := (h.inv.mem_iff a).mp ha
  have hg := h.inv.not_gone hi0
  have hget : agentGet s a = .ok (s.buf i0) := by rw [agentGet_of_mem h.inv ha, getPos_of_idx h.inv hi0]
  rw [← hnd]
  refine ⟨fun hl => ?_, fun x hx hn1 => ?_, fun hl h1 => ?_⟩
  · have hb := bcast_of_length hl
    have hq := queryPoint_of_length (s := s) hl
    exact ⟨agentSetV_of_bcast hb, agentIaddV_of_bcast hb, fun i => rawWriteV_of_bcast hb, distancesOfV_of_query (hq true), diffsOfV_of_query (hq false),
      fun r => by rw [agentsInRadiusV, withPoint_none, hq], fun k => by rw [kNearestV, withPoint_none, hq]⟩
  · subst hx
    have hb := bcast_singleton (nd := s.nd) x hn1
    have hqb : ∀ vc, vc = false ∨ s.cfg.torus = true → queryPoint s vc [x] = .ok (List.replicate s.nd x) :=
      fun vc hv => by rw [queryPoint_bcast hv, hb]
    refine ⟨agentSetV_of_bcast hb, agentIaddV_of_bcast hb, fun i => rawWriteV_of_bcast hb, diffsOfV_of_query (hqb false (.inl rfl)),
      by simp only [inBoundsV, hb, Except.map, h.cfg], fun htor => ?_, fun htor => ?_⟩
    · have hq := hqb true (.inr (ht.trans htor))
      exact ⟨distancesOfV_of_query hq, fun r => by rw [agentsInRadiusV, withPoint_none, hq]⟩
    · have hq : queryPoint s true [x] = .error .value := by
        rw [queryPoint_cdist (ht.trans htor), if_neg (by simpa using Ne.symm hn1)]
      exact ⟨by rw [distancesOfV, withPoint_none, hq], fun r => by rw [agentsInRadiusV, withPoint_none, hq],
        fun k => by rw [kNearestV, withPoint_none, hq]⟩
  · have hb := bcast_error hl h1
    have hq : ∀ vc, queryPoint s vc p = .error .value := fun vc => by
      by_cases hv : (vc && !s.cfg.torus) = true
      · rw [queryPoint, if_pos hv, if_neg hl]
      · rw [queryPoint, if_neg hv]
        exact hb
    have hv : ∀ i, i < s.active.length → i < s.view := fun i hi => by
      rw [h.inv.view, h.inv.len]
      exact hi
    exact ⟨by simp only [agentSetV, hg, hb, Bool.false_eq_true, if_false], by simp only [agentIaddV, hget, hb],
      fun i hi => by simp only [rawWriteV, hv i hi, hb, if_true],
      by rw [distancesOfV, withPoint_none, hq], by rw [diffsOfV, withPoint_none, hq],
      fun r => by rw [agentsInRadiusV, withPoint_none, hq], fun k => by rw [kNearestV, withPoint_none, hq],
      by simp only [inBoundsV, hb, Except.map], by simp only [torusCorrectV, hb, Except.map]⟩

/-! ### references to `agent_positions` kept by the user -/

/-- Every history: the array `_agent_positions` is never shrunk, and it is replaced (by a strictly larger one) only by
    `_add_agent`, only when it is full.  So the number of rows names the array: a reference to `agent_positions` taken
    after `pre` still is a view of the space's array after `pre ++ post` iff the capacity is what it was — and then it was
    the same at every moment in between. -/
theorem C10_exp_capacity_names_the_array (c : ECfg) (cap : Nat) (pre post : List EOp) :
    (erun c cap pre).cap ≤ (erun c cap (pre ++ post)).cap ∧
    (∀ op, (erun c cap (pre ++ [op])).cap = (erun c cap pre).cap ∨
      ((erun c cap pre).cap < (erun c cap (pre ++ [op])).cap ∧ (∃ a, op = .new a) ∧ (erun c cap pre).n = (erun c cap pre).cap)) ∧
    ((erun c cap (pre ++ post)).cap = (erun c cap pre).cap →
      ∀ k, (erun c cap (pre ++ post.take k)).cap = (erun c cap pre).cap) := by
  have hmono : ∀ (a b : List EOp), (erun c cap a).cap ≤ (erun c cap (a ++ b)).cap := by
    intro a b
    rw [erun_append]
    exact efold_cap_mono b _
  refine ⟨hmono pre post, fun op => ?_, fun he k => ?_⟩
  · rw [erun_snoc]
    rcases estep_cap (erun c cap pre) op with h | ⟨h1, h2, h3⟩
    · exact Or.inl h
    · have := (erun_refines c cap pre).inv.cap
      exact Or.inr ⟨h1, h2, by omega⟩
  · have h1 := hmono pre (post.take k)
    have h2 := hmono (pre ++ post.take k) (post.drop k)
    rw [List.append_assoc, List.take_append_drop] at h2
    omega

/-- A write `v[i] = p` through a reference `v = space.agent_positions` the user took after `pre` and still holds after
    `pre ++ post`, for every pair of histories: beyond the length `v` had it is an `IndexError`; if the array has been
    re-allocated since, the write is lost — the space is exactly as it was; if not and row `i` is in use, it is a write
    through the current view (`C10_exp_raw_view_write`: it moves the agent that has row `i` *now*, which after removals
    need not be the agent `v[i]` showed when `v` was taken); if the row is no longer in use (agents were removed)
    nothing observable changes: membership, index maps and every agent's position are as before. -/
theorem C10_exp_kept_view_write (c : ECfg) (cap : Nat) (pre post : List EOp) (i : Nat) (p : Pos) :
    let v := holdView (erun c cap pre)
    let s := erun c cap (pre ++ post)
    v.len = (erun c cap pre).active.length ∧
    (v.len ≤ i → heldWrite s v i p = .error .index) ∧
    (i < v.len → s.cap ≠ (erun c cap pre).cap → heldWrite s v i p = .ok s) ∧
    (i < v.len → s.cap = (erun c cap pre).cap → i < s.active.length →
      heldWrite s v i p = rawWrite s i p ∧ heldWrite s v i p = .ok (erun c cap (pre ++ post ++ [.raw i p]))) ∧
    (i < v.len → s.cap = (erun c cap pre).cap → s.active.length ≤ i →
      ∃ s', heldWrite s v i p = .ok s' ∧ s'.active = s.active ∧ s'.a2i = s.a2i ∧ s'.n = s.n ∧ s'.cap = s.cap ∧
        s'.gone = s.gone ∧ rows s' = rows s ∧ ∀ a, agentGet s' a = agentGet s a) := by
  dsimp only
  have h0 := (erun_refines c cap pre).inv
  have h := (erun_refines c cap (pre ++ post)).inv
  rw [erun_snoc]
  generalize erun c cap (pre ++ post) = s at h ⊢
  generalize erun c cap pre = s0 at h0 ⊢
  have hlen : (holdView s0).len = s0.active.length := by rw [holdView, h0.view, h0.len]
  have hcapv : (holdView s0).cap = s0.cap := rfl
  refine ⟨hlen, fun hi => ?_, fun hi hc => ?_, fun hi hc hu => ?_, fun hi hc hu => ?_⟩
  · simp [heldWrite, Nat.not_lt.mpr hi]
  · simp [heldWrite, hi, hcapv, Ne.symm hc]
  · have hlt : i < s.view := by
      rw [h.view, h.len]
      exact hu
    have e : heldWrite s (holdView s0) i p = rawWrite s i p := by simp [heldWrite, rawWrite, hi, hcapv, hc, hlt]
    exact ⟨e, by rw [e, estep_raw, if_pos hlt, rawWrite, if_pos hlt]⟩
  · obtain ⟨hr, hg⟩ := write_free_row h hu p
    exact ⟨{ s with buf := upd s.buf i p }, by simp [heldWrite, hi, hcapv, hc], rfl, rfl, rfl, rfl, rfl, hr,
      fun a => by simp only [agentGet, hg]⟩

/-- What a kept reference shows.  While the array has not been re-allocated, row `j` of `v` is the position of the agent
    that is `j`-th in `space.agents` *now* (rows beyond the current number of agents are stale copies); once the array has been
    re-allocated, `v` shows for ever what the array held at that moment — nothing that happens in the space reaches it. -/
theorem C10_exp_kept_view_read (c : ECfg) (cap : Nat) (pre post : List EOp) (v : Held) :
    let h := hrun c cap (pre ++ post)
    h.sp = erun c cap (pre ++ post) ∧
    (v.cap = h.sp.cap → ∀ j a, j < v.len → h.sp.active[j]? = some a →
      ∃ q, (h.read v)[j]? = some q ∧ agentGet h.sp a = .ok q) ∧
    (v.cap = (erun c cap pre).cap → ∀ op rest, post = op :: rest → (erun c cap (pre ++ [op])).cap ≠ (erun c cap pre).cap →
      h.read v = (hrun c cap pre).read v) := by
  dsimp only
  have hsp : ∀ ops, (hrun c cap ops).sp = erun c cap ops := fun ops => hfold_sp ops _
  refine ⟨hsp _, fun hc j a hj ha => ?_, fun hc op rest hpost hgrow => ?_⟩
  · rw [hsp] at ha hc ⊢
    have hi := (erun_refines c cap (pre ++ post)).inv
    have hidx := (hi.idx a j).mpr ha
    refine ⟨(erun c cap (pre ++ post)).buf j, ?_, ?_⟩
    · simp [HSpace.read, hsp, hc, hj]
    · rw [agentGet_of_mem hi (List.mem_of_getElem? ha), getPos_of_idx hi hidx]
  · subst hpost
    have hsplit : hrun c cap (pre ++ op :: rest) = rest.foldl hstep (hstep (hrun c cap pre) op) := by
      simp only [hrun, List.foldl_append, List.foldl_cons]
    rw [hsplit]
    exact hread_after_realloc _ op rest v (by rw [hsp]; exact hc) (by rw [hsp, ← erun_snoc]; exact hgrow)

/-- Legacy, every history: `get_neighbors(p, r, include_center)` returns exactly the agents in the space
    whose squared distance to `p` is at most `r²` (those at distance 0 only if `include_center`), computed
    from their true positions — no matter whether the cache was built before, patched by moves, or is built
    by this call — and the call changes neither `space.agents` nor any position. -/
theorem C10_legacy_neighbors_exact (c : LCfg) (ops : List LOp) (p : P2) (r : Int) (incl : Bool) :
    (getNeighbors (lrun c ops) p r incl).2 = .ok (nbrSpec c (lspec c ops).1 (lspec c ops).2 p r incl) ∧
    (lrun c (ops ++ [.nbrs p r incl])).agents = (lrun c ops).agents ∧
    (lrun c (ops ++ [.nbrs p r incl])).pos = (lrun c ops).pos := by
  have h := lrun_refines c ops
  obtain ⟨s1, h1, _, _, h4, h5⟩ := getNeighbors_spec h.inv p r incl
  refine ⟨by rw [h1, h.cfg, h.keys, h.pos], ?_, ?_⟩
  · rw [lrun_snoc]
    show (getNeighbors (lrun c ops) p r incl).1.a2i.keys = _
    rw [h1]
    exact h5
  · rw [lrun_snoc]
    show (getNeighbors (lrun c ops) p r incl).1.pos = _
    rw [h1]
    exact h4

/-- Legacy: `agent.pos` is a plain attribute, and a user who assigns it directly (instead of calling `move_agent`) can
    make the space incoherent — for a while.  At every reachable state, for an agent of the space: membership and the other
    agents' `pos` are untouched and the agent reports `p`.  If no position cache exists, then for a point of the space the
    write is indistinguishable from `move_agent(a, p)`.  If the cache exists, `get_neighbors` goes on answering from it, that
    is for the position the agent *had* (the same answer as before the write) — until the next accepted `place_agent` or
    `remove_agent` of any agent throws the cache away: from then on the state is the one `move_agent(a, p)` followed by that
    call would have produced. -/
theorem C10_legacy_direct_pos_write (c : LCfg) (ops : List LOp) (a : Aid) (p : P2) :
    let s := lrun c ops
    let s' := lpoke s a p
    s'.agents = s.agents ∧ s'.pos a = some p ∧ (∀ b, b ≠ a → s'.pos b = s.pos b) ∧
    (s.pts = none → torusAdj c p = .ok p → s' = lrun c (ops ++ [.move a p])) ∧
    (∀ pts, s.pts = some pts → ∀ q r incl,
      (getNeighbors s' q r incl).2 = (getNeighbors s q r incl).2 ∧
      (getNeighbors s' q r incl).2 = .ok (nbrSpec c (lspec c ops).1 (lspec c ops).2 q r incl)) ∧
    (torusAdj c p = .ok p →
      (∀ b q s'', place s' b q = .ok s'' → s'' = lrun c (ops ++ [.move a p, .place b q])) ∧
      (∀ b s'', remove s' b = .ok s'' → s'' = lrun c (ops ++ [.move a p, .remove b]))) := by
  dsimp only
  have h := lrun_refines c ops
  have hnb := fun q r incl => (C10_legacy_neighbors_exact c ops q r incl).1
  simp only [lrun_append]
  generalize lrun c ops = s at h hnb ⊢
  have hmove : torusAdj c p = .ok p →
      (move s a p).1.cfg = s.cfg ∧ (move s a p).1.a2i = s.a2i ∧ (move s a p).1.pos = upd s.pos a (some p) := by
    intro hp
    obtain ⟨pts', r, hm, _⟩ := move_accepted h.inv a (h.cfg ▸ hp)
    rw [hm]
    exact ⟨rfl, rfl, rfl⟩
  refine ⟨rfl, by simp [lpoke, upd], fun b hb => by simp [lpoke, upd, hb], fun hn hp => ?_, fun pts hpts q r incl => ?_,
    fun hp => ⟨fun b q s'' hs => ?_, fun b s'' hs => ?_⟩⟩
  · show lpoke s a p = (move s a p).1
    simp [move, h.cfg, hp, lpoke, hn]
  · have e : (getNeighbors (lpoke s a p) q r incl).2 = (getNeighbors s q r incl).2 := by
      simp only [getNeighbors, ensureCache, lpoke, hpts]
      split <;> rfl
    exact ⟨e, by rw [e]; exact hnb q r incl⟩
  · obtain ⟨m1, m2, m3⟩ := hmove hp
    show s'' = (match place (move s a p).1 b q with | .ok t => t | .error _ => (move s a p).1)
    rw [← place_congr (s := lpoke s a p) m1.symm m2.symm m3.symm, hs]
  · obtain ⟨m1, m2, m3⟩ := hmove hp
    show s'' = (match remove (move s a p).1 b with | .ok t => t | .error _ => (move s a p).1)
    rw [← remove_congr (s := lpoke s a p) m1.symm m2.symm m3.symm, hs]

/-- … read as a set: an agent is returned iff it is in the space and within the radius. -/
theorem C10_legacy_neighbors_mem (c : LCfg) (ops : List LOp) (p : P2) (r : Int) (incl : Bool) (a : Aid) :
    a ∈ nbrSpec c (lspec c ops).1 (lspec c ops).2 p r incl ↔
      a ∈ (lrun c ops).agents ∧ ∃ q, (lrun c ops).pos a = some q ∧ ldist2 c q p ≤ r * r ∧
        (incl = true ∨ 0 < ldist2 c q p) := by
  rw [(C10_legacy_positions_all_histories c ops).1, (C10_legacy_positions_all_histories c ops).2]
  unfold nbrSpec
  rw [List.mem_filter]
  constructor
  · rintro ⟨h1, h2⟩
    refine ⟨h1, ?_⟩
    cases hq : (lspec c ops).2 a with
    | none => simp [hq] at h2
    | some q => simp only [hq] at h2; exact ⟨q, rfl, by simpa using h2⟩
  · rintro ⟨h1, q, hq, h2, h3⟩
    exact ⟨h1, by simp only [hq]; simpa using ⟨h2, h3⟩⟩

/-- Legacy: two points of the space are at distance 0 iff they are the same point (bounded or torus: the upper
    edge is not part of the space, so no point has a second image inside it). -/
theorem C10_legacy_zero_distance_iff_same_point (c : LCfg) (hw : c.WF) (p q : P2)
    (hp : oob c p = false) (hq : oob c q = false) : ldist2 c p q = 0 ↔ p = q := by
  simp only [oob, Bool.or_eq_false_iff, decide_eq_false_iff_not] at hp hq
  obtain ⟨hw1, hw2⟩ := hw
  have hx : axisDist c.torus c.width p.1 q.1 = 0 ↔ p.1 = q.1 :=
    axisDist_eq_zero_of_lt (by unfold LCfg.width; omega) (by unfold LCfg.width; have := iabs_cases (p.1 - q.1); omega)
  have hy : axisDist c.torus c.height p.2 q.2 = 0 ↔ p.2 = q.2 :=
    axisDist_eq_zero_of_lt (by unfold LCfg.height; omega) (by unfold LCfg.height; have := iabs_cases (p.2 - q.2); omega)
  have nx := sq_nonneg (axisDist c.torus c.width p.1 q.1)
  have ny := sq_nonneg (axisDist c.torus c.height p.2 q.2)
  unfold ldist2
  constructor
  · intro h
    exact Prod.ext (hx.mp (sq_eq_zero (by omega))) (hy.mp (sq_eq_zero (by omega)))
  · rintro rfl
    rw [hx.mpr rfl, hy.mpr rfl]
    rfl

/-- Legacy, `include_center = False`, every history, query point inside the space: the agents returned are exactly
    those within the radius whose position is *not* the query point — every agent sitting exactly on the point is
    left out, however many coincide there (and nobody else: distance 0 means same point). -/
theorem C10_legacy_exclude_center (c : LCfg) (hw : c.WF) (ops : List LOp) (p : P2) (hp : oob c p = false)
    (r : Int) (a : Aid) :
    a ∈ nbrSpec c (lspec c ops).1 (lspec c ops).2 p r false ↔
      a ∈ (lrun c ops).agents ∧ ∃ q, (lrun c ops).pos a = some q ∧ q ≠ p ∧ ldist2 c q p ≤ r * r := by
  rw [C10_legacy_neighbors_mem]
  constructor
  · rintro ⟨h1, q, hq, h2, h3⟩
    refine ⟨h1, q, hq, ?_, h2⟩
    rintro rfl
    obtain ⟨q', hq', hin⟩ := C10_legacy_positions_inside c hw ops a h1
    rw [hq] at hq'
    cases hq'
    have := (C10_legacy_zero_distance_iff_same_point c hw q q hin hin).mpr rfl
    rcases h3 with h3 | h3
    · cases h3
    · omega
  · rintro ⟨h1, q, hq, hne, h2⟩
    refine ⟨h1, q, hq, h2, Or.inr ?_⟩
    obtain ⟨q', hq', hin⟩ := C10_legacy_positions_inside c hw ops a h1
    rw [hq] at hq'
    cases hq'
    have hnn : 0 ≤ ldist2 c q p := by
      rw [ldist2_eq_dist2Aux]
      exact dist2Aux_nonneg ..
    have hz : ldist2 c q p ≠ 0 := fun h0 => hne ((C10_legacy_zero_distance_iff_same_point c hw q p hin hp).mp h0)
    omega

/-- Legacy: the radius only enters squared — a negative radius selects the same agents as its absolute value.
    (The experimental space differs: `C10_exp_negative_radius`.) -/
theorem C10_legacy_negative_radius (c : LCfg) (ops : List LOp) (p : P2) (r : Int) (incl : Bool) :
    (getNeighbors (lrun c ops) p (-r) incl).2 = (getNeighbors (lrun c ops) p r incl).2 := by
  rw [(C10_legacy_neighbors_exact c ops p (-r) incl).1, (C10_legacy_neighbors_exact c ops p r incl).1]
  unfold nbrSpec
  rw [Int.neg_mul_neg]

/-- Legacy `move_agent` of an agent that is *not in the space* (never placed, or removed), every history: a point
    the assignment rule rejects is rejected as usual; otherwise the space itself is not touched at all — members,
    index maps, cache, every member's position, hence every query answer — only the foreign agent object's own
    `pos` attribute is written, and the call raises `KeyError` exactly when the position cache happens to exist
    (after a `get_neighbors` with no placement / removal since), else returns normally.  The agent does not
    become a member either way.  (Not one of the rejections C18 lists; the write to the outsider's attribute is
    the only effect and is the same whether or not the call raises.) -/
theorem C10_legacy_move_foreign_agent (c : LCfg) (ops : List LOp) (a : Aid) (p : P2) :
    let s := lrun c ops
    a ∉ s.agents →
    (∀ e, torusAdj c p = .error e → move s a p = (s, .error e)) ∧
    (∀ p', torusAdj c p = .ok p' →
      move s a p = ({ s with pos := upd s.pos a (some p') }, if s.pts.isSome then .error .key else .ok ()) ∧
      (lrun c (ops ++ [.move a p])).agents = s.agents ∧
      (∀ b, b ≠ a → (lrun c (ops ++ [.move a p])).pos b = s.pos b) ∧
      ∀ q r incl, (getNeighbors (lrun c (ops ++ [.move a p])) q r incl).2 = (getNeighbors s q r incl).2) := by
  dsimp only
  intro ha
  have h := lrun_refines c ops
  refine ⟨fun e he => by simp [move, h.cfg, he], fun p' hp => ?_⟩
  -- with a cache, the dict is the enumeration of the members: the lookup of `a` fails
  have hm : move (lrun c ops) a p = ({ lrun c ops with pos := upd (lrun c ops).pos a (some p') },
      if (lrun c ops).pts.isSome then .error .key else .ok ()) := by
    cases hpts : (lrun c ops).pts with
    | none => simp [move, h.cfg, hp, hpts]
    | some pts =>
      have hg : (lrun c ops).a2i.get? a = none := by
        rw [(h.inv.cache pts hpts).2.1]
        exact enumDict_get_none _ _ ha
      simp [move, h.cfg, hp, hpts, hg]
  have hrun : lrun c (ops ++ [LOp.move a p]) = { lrun c ops with pos := upd (lrun c ops).pos a (some p') } := by
    rw [lrun_snoc]
    show (move (lrun c ops) a p).1 = _
    rw [hm]
  refine ⟨hm, by rw [hrun]; rfl, fun b hb => by rw [hrun]; simp [upd, hb], fun q r incl => ?_⟩
  rw [(C10_legacy_neighbors_exact c (ops ++ [LOp.move a p]) q r incl).1, (C10_legacy_neighbors_exact c ops q r incl).1,
    lspec_snoc]
  simp only [lspecStep, hp]
  unfold nbrSpec
  congr 1
  apply List.filter_congr
  intro b hb
  have hba : b ≠ a := by
    rintro rfl
    exact ha (by rw [(C10_legacy_positions_all_histories c ops).1]; exact hb)
  simp only [upd_other _ _ hba]

/-- Experimental, every history: `get_agents_in_radius(pt, r)` returns exactly the pairs (agent, squared
    distance) of the agents in the space whose distance from `pt` to their true position is at most `r`,
    each agent once. -/
theorem C10_exp_radius_exact (c : ECfg) (cap : Nat) (ops : List EOp) (pt : Pos) (r : Int) :
    let s := erun c cap ops
    (∀ a d, (a, d) ∈ agentsInRadius s pt r ↔
      a ∈ s.active ∧ ∃ q, getPos s a = .ok q ∧ d = edist2 c pt q ∧ 0 ≤ r ∧ d ≤ r * r) ∧
    ((agentsInRadius s pt r).map (·.1)).Nodup := by
  have h := erun_refines c cap ops
  refine ⟨fun a d => ?_, ?_⟩
  · unfold agentsInRadius
    rw [List.mem_filter, mem_zip_calcD2 h.inv, h.cfg]
    constructor
    · rintro ⟨⟨h1, q, h2, h3⟩, h4⟩
      exact ⟨h1, q, h2, h3, by simpa using h4⟩
    · rintro ⟨h1, q, h2, h3, h4⟩
      exact ⟨⟨h1, q, h2, h3⟩, by simpa using h4⟩
  · have : ((agentsInRadius (erun c cap ops) pt r).map (·.1)).Sublist (erun c cap ops).active := by
      rw [← zip_calcD2_fst h.inv pt]
      exact (List.filter_sublist).map _
    exact h.inv.nodup.sublist this

/-- Experimental: `calculate_distances(pt)` lists the agents of the space in the order of `space.agents`, each once, paired
    with the distance to its true position. -/
theorem C10_exp_distances_exact (c : ECfg) (cap : Nat) (ops : List EOp) (pt : Pos) (a : Aid) (d : Int) :
    let s := erun c cap ops
    (∃ l, distancesOf s pt none = .ok l ∧ l.map (·.1) = s.active ∧ ((a, d) ∈ l ↔
      a ∈ s.active ∧ ∃ q, getPos s a = .ok q ∧ d = edist2 c pt q)) := by
  have h := erun_refines c cap ops
  exact ⟨_, rfl, zip_calcD2_fst h.inv pt, by rw [mem_zip_calcD2 h.inv, h.cfg]⟩

/-- Experimental: `calculate_distances(pt, agents=sub)` and `calculate_difference_vector(pt, agents=sub)`
    for any list `sub` of agents of the space (repetitions allowed) answer for exactly those agents, in
    that order, from their true positions. -/
theorem C10_exp_subset_queries_exact (c : ECfg) (cap : Nat) (ops : List EOp) (pt : Pos) (sub : List Aid) :
    let s := erun c cap ops
    (∀ a ∈ sub, a ∈ s.active) →
    (∃ l, distancesOf s pt (some sub) = .ok l ∧ l.map (·.1) = sub ∧
      ∀ ad ∈ l, ∃ q, getPos s ad.1 = .ok q ∧ ad.2 = edist2 c pt q) ∧
    (∃ l, diffsOf s pt (some sub) = .ok l ∧ l.map (·.1) = sub ∧
      ∀ av ∈ l, ∃ q, getPos s av.1 = .ok q ∧ av.2 = ediff c pt q) := by
  dsimp only
  intro hsub
  have h := erun_refines c cap ops
  obtain ⟨l, h1, h2, h3⟩ := rowsOf_spec h.inv sub hsub
  -- both answers are the selected rows under a function of the position
  have key : ∀ {β : Type} (f : Pos → β), (l.map fun aq => (aq.1, f aq.2)).map (·.1) = sub ∧
      ∀ ab ∈ l.map (fun aq => (aq.1, f aq.2)), ∃ q, getPos (erun c cap ops) ab.1 = .ok q ∧ ab.2 = f q := by
    intro β f
    refine ⟨by rw [List.map_map]; exact h2, fun ab hab => ?_⟩
    obtain ⟨aq, haq, rfl⟩ := List.mem_map.mp hab
    exact ⟨aq.2, h3 aq haq, rfl⟩
  exact ⟨⟨_, by simp [distancesOf, h1, Except.map, h.cfg], key (edist2 c pt)⟩,
    ⟨_, by simp [diffsOf, h1, Except.map, h.cfg], key (ediff c pt)⟩⟩

/-- Experimental: `agent.get_neighbors_in_radius(r)` (`r ≥ 0`) returns exactly the *other* agents within
    `r` of the agent's own position, with their squared distances. -/
theorem C10_exp_neighbors_in_radius (c : ECfg) (hw : c.WF) (cap : Nat) (ops : List EOp) (a : Aid) (p : Pos)
    (r : Int) :
    let s := erun c cap ops
    a ∈ s.active → getPos s a = .ok p → 0 ≤ r →
    ∃ res, neighborsInRadius s a r = .ok res ∧
      ∀ b d, (b, d) ∈ res ↔
        b ≠ a ∧ b ∈ s.active ∧ ∃ q, getPos s b = .ok q ∧ d = edist2 c p q ∧ d ≤ r * r := by
  intro s ha hp hr
  have h := erun_refines c cap ops
  have hrad := (C10_exp_radius_exact c cap ops p r).1
  have hself : (a, edist2 c p p) ∈ agentsInRadius s p r := by
    rw [hrad]
    refine ⟨ha, p, hp, rfl, hr, ?_⟩
    have h0 : edist2 c p p = 0 := dist2Aux_self _ _ _ (fun d hd => by have := hw d hd; omega)
    rw [h0]
    exact Int.mul_nonneg hr hr
  have hne : (agentsInRadius s p r).isEmpty = false := by
    cases hl : agentsInRadius s p r with
    | nil =>
      rw [hl] at hself
      cases hself
    | cons x xs => rfl
  refine ⟨_, by simp only [neighborsInRadius, hp, hne]; rfl, ?_⟩
  intro b d
  rw [List.mem_filter, hrad]
  constructor
  · rintro ⟨⟨h1, q, h2, h3, _, h5⟩, h6⟩
    exact ⟨by simpa using h6, h1, q, h2, h3, h5⟩
  · rintro ⟨h1, h2, q, h3, h4, h5⟩
    exact ⟨⟨h2, q, h3, h4, hr, h5⟩, by simpa using h1⟩

/-! ## k nearest -/

/-- Experimental, every history, every `argpartition` meeting numpy's documented post-condition, every
    `1 ≤ k ≤ n`: `get_k_nearest_agents(pt, k)` returns `k` pairwise distinct agents of the space, each with
    the squared distance to its true position, and no agent left out is nearer than a returned one. -/
theorem C10_exp_k_nearest (argpart : List Int → Nat → List Nat) (hap : ArgPartSpec argpart)
    (c : ECfg) (cap : Nat) (ops : List EOp) (pt : Pos) (k : Nat) :
    let s := erun c cap ops
    1 ≤ k → k ≤ s.active.length →
    ∃ res, kNearest argpart s pt k = .ok res ∧ res.length = k ∧ (res.map (·.1)).Nodup ∧
      (∀ ad ∈ res, ad.1 ∈ s.active ∧ ∃ q, getPos s ad.1 = .ok q ∧ ad.2 = edist2 c pt q) ∧
      (∀ ad ∈ res, ∀ b ∈ s.active, b ∉ res.map (·.1) →
        ∀ q, getPos s b = .ok q → ad.2 ≤ edist2 c pt q) := by
  intro s hk hkn
  have h := erun_refines c cap ops
  obtain ⟨res, h1, h2, h3, h4, h5⟩ := kNearest_spec hap h.inv pt hk (by rw [h.inv.len]; exact hkn)
  refine ⟨res, h1, h2, h3, ?_, ?_⟩
  · intro ad had
    obtain ⟨hq1, q, hq2, hq3⟩ := (mem_zip_calcD2 h.inv pt ad.1 ad.2).mp (h4 ad had)
    exact ⟨hq1, q, hq2, by rw [← h.cfg]; exact hq3⟩
  · intro ad had b hb hout q hq
    have := h5 ad had (b, edist2 s.cfg pt q) ((mem_zip_calcD2 h.inv pt b _).mpr ⟨hb, q, hq, rfl⟩) hout
    rw [← h.cfg]
    exact this

/-- Experimental `agent.get_nearest_neighbors(k)` with *no assumption about coincident agents*, every history, every
    admissible `argpartition`, `k + 1 ≤ n`: the answer consists of pairwise distinct *other* agents with their
    correct distances, none farther than an other agent left out — and it has `k` entries, except in one case:
    when the agent itself was not among the `k + 1` nearest that numpy picked (possible only if at least `k + 1`
    other agents sit exactly on the agent's position) the answer has `k + 1` entries, all at distance 0. -/
theorem C10_exp_nearest_neighbors_ties (argpart : List Int → Nat → List Nat) (hap : ArgPartSpec argpart)
    (c : ECfg) (hw : c.WF) (cap : Nat) (ops : List EOp) (a : Aid) (p : Pos) (k : Nat) :
    let s := erun c cap ops
    a ∈ s.active → getPos s a = .ok p → k + 1 ≤ s.active.length →
    ∃ res, nearestNeighbors argpart s a k = .ok res ∧ (res.map (·.1)).Nodup ∧ a ∉ res.map (·.1) ∧
      (∀ ad ∈ res, ad.1 ∈ s.active ∧ ∃ q, getPos s ad.1 = .ok q ∧ ad.2 = edist2 c p q) ∧
      (∀ ad ∈ res, ∀ b ∈ s.active, b ≠ a → b ∉ res.map (·.1) →
        ∀ q, getPos s b = .ok q → ad.2 ≤ edist2 c p q) ∧
      (res.length = k ∨ (res.length = k + 1 ∧ ∀ ad ∈ res, ad.2 = 0)) := by
  dsimp only
  intro ha hp hk
  obtain ⟨full, h1, h2, h3, h4, h5⟩ := C10_exp_k_nearest argpart hap c cap ops p (k + 1) (by omega) hk
  have h0 : edist2 c p p = 0 := dist2Aux_self _ _ _ (fun d hd => by have := hw d hd; omega)
  have hmemf : ∀ ad, ad ∈ full.filter (fun ad => ad.1 ≠ a) ↔ ad ∈ full ∧ ad.1 ≠ a := by
    intro ad
    rw [List.mem_filter]
    simp
  refine ⟨full.filter (fun ad => ad.1 ≠ a), by simp only [nearestNeighbors, hp, h1], ?_, ?_, ?_, ?_, ?_⟩
  · exact h3.sublist ((List.filter_sublist).map _)
  · intro hm
    obtain ⟨ad, had, e⟩ := List.mem_map.mp hm
    exact ((hmemf ad).mp had).2 e
  · intro ad had
    exact h4 ad ((hmemf ad).mp had).1
  · intro ad had b hb hba hout q hq
    apply h5 ad ((hmemf ad).mp had).1 b hb _ q hq
    intro hm
    obtain ⟨be, hbe, e⟩ := List.mem_map.mp hm
    exact hout (List.mem_map.mpr ⟨be, (hmemf be).mpr ⟨hbe, by rw [e]; exact hba⟩, e⟩)
  · by_cases hain : a ∈ full.map (·.1)
    · left
      have := length_filter_ne_of_nodup full a h3 hain
      omega
    · right
      have hall : full.filter (fun ad => ad.1 ≠ a) = full := by
        rw [List.filter_eq_self]
        intro ad had
        have : ad.1 ≠ a := by
          rintro e
          exact hain (List.mem_map.mpr ⟨ad, had, e⟩)
        simpa using this
      rw [hall]
      refine ⟨h2, fun ad had => ?_⟩
      have hle := h5 ad had a ha hain p hp
      obtain ⟨_, q, _, hd⟩ := h4 ad had
      have hnn : 0 ≤ ad.2 := by
        rw [hd]
        exact dist2Aux_nonneg _ _ _ _
      rw [h0] at hle
      omega

/-- Experimental: `agent.get_nearest_neighbors(k)` for `k + 1 ≤ n`, when no other agent sits exactly on
    the agent's own position: returns `k` pairwise distinct *other* agents, each with the squared distance
    from the agent to its true position, and no other agent left out is nearer than a returned one. -/
theorem C10_exp_nearest_neighbors (argpart : List Int → Nat → List Nat) (hap : ArgPartSpec argpart)
    (c : ECfg) (hw : c.WF) (cap : Nat) (ops : List EOp) (a : Aid) (p : Pos) (k : Nat) :
    let s := erun c cap ops
    a ∈ s.active → getPos s a = .ok p → k + 1 ≤ s.active.length →
    (∀ b ∈ s.active, b ≠ a → ∀ q, getPos s b = .ok q → 0 < edist2 c p q) →
    ∃ res, nearestNeighbors argpart s a k = .ok res ∧ res.length = k ∧ (res.map (·.1)).Nodup ∧
      a ∉ res.map (·.1) ∧
      (∀ ad ∈ res, ad.1 ∈ s.active ∧ ∃ q, getPos s ad.1 = .ok q ∧ ad.2 = edist2 c p q) ∧
      (∀ ad ∈ res, ∀ b ∈ s.active, b ≠ a → b ∉ res.map (·.1) →
        ∀ q, getPos s b = .ok q → ad.2 ≤ edist2 c p q) := by
  dsimp only
  intro ha hp hk hdist
  obtain ⟨res, h1, h2, h3, h4, h5, h6⟩ := C10_exp_nearest_neighbors_ties argpart hap c hw cap ops a p k ha hp hk
  refine ⟨res, h1, ?_, h2, h3, h4, h5⟩
  rcases h6 with h6 | ⟨h6, hz⟩
  · exact h6
  · -- `k + 1` entries, all at distance 0, cannot be: every other agent is at a positive distance
    cases res with
    | nil => simp at h6
    | cons ad rest =>
      obtain ⟨hm, q, hq, hd⟩ := h4 ad (by simp)
      have := hdist ad.1 hm (fun e => h3 (by simp [e])) q hq
      have := hz ad (by simp)
      omega

/-- Experimental, negative radius, every history: `get_agents_in_radius` returns nothing (no distance is below a
    negative number), and `agent.get_neighbors_in_radius` raises `IndexError` (its mask over the empty answer is a
    float array) — the only way the latter can raise for an agent of the space (`C10_exp_neighbors_in_radius`). -/
theorem C10_exp_negative_radius (c : ECfg) (cap : Nat) (ops : List EOp) (pt : Pos) (a : Aid) (r : Int) (hr : r < 0) :
    let s := erun c cap ops
    agentsInRadius s pt r = [] ∧ (a ∈ s.active → agentNir s a r = .error .index) := by
  intro s
  have hnil : ∀ pt, agentsInRadius s pt r = [] := by
    intro pt
    unfold agentsInRadius
    rw [List.filter_eq_nil_iff]
    intro ad _
    have : ¬ (0 ≤ r) := by omega
    simp [this]
  refine ⟨hnil pt, fun ha => ?_⟩
  have h := erun_refines c cap ops
  obtain ⟨i, hi⟩ := (h.inv.mem_iff a).mp ha
  have hg : getPos s a = .ok (s.buf i) := getPos_of_idx h.inv hi
  have hng : s.gone a = false := h.inv.not_gone hi
  simp [agentNir, hng, neighborsInRadius, hg, hnil]

/-- `k = 0` returns nothing; `k` larger than the number of agents is rejected (`ValueError`). -/
theorem C10_exp_k_nearest_range (argpart : List Int → Nat → List Nat) (c : ECfg) (cap : Nat)
    (ops : List EOp) (pt : Pos) (k : Nat) :
    let s := erun c cap ops
    (k = 0 → kNearest argpart s pt k = .ok []) ∧
    (s.active.length < k → kNearest argpart s pt k = .error .value) := by
  intro s
  have h := (erun_refines c cap ops).inv
  refine ⟨fun hk => by simp [kNearest, hk], fun hk => ?_⟩
  have : (calcD2 s pt).length < k := by
    rw [calcD2_length h, h.len]
    exact hk
  have hk0 : k ≠ 0 := by omega
  simp [kNearest, hk0, this]

/-- The assumption on `argpartition` is satisfiable: the complete stable sort that the driver executes
    in the correspondence check meets it. -/
theorem C10_argsortPart_spec : ArgPartSpec argsortPart := argsortPart_spec

/-! ## distances and headings -/

/-- On a torus of circumference `s` the per-axis separation every distance computation uses is, for ANY two coordinates
    (inside the bounds or not: after repair CS3 the separation is reduced modulo `s` first), the distance to the nearest
    periodic image: it is below `|a - b + k·s|` for every integer `k` and equals it for some `k`. -/
theorem C10_torus_axis_is_nearest_image (s a b : Int) (hs : 0 < s) :
    (∀ k : Int, axisDist true s a b ≤ iabs (a - b + k * s)) ∧ ∃ k : Int, axisDist true s a b = iabs (a - b + k * s) :=
  ⟨axisDist_torus_le_image s a b hs, axisDist_torus_attained s a b hs⟩

/-- without a torus the per-axis separation is `|a - b|`: the distance is Euclidean -/
theorem C10_flat_axis_is_abs (s a b : Int) : axisDist false s a b = iabs (a - b) := axisDist_flat s a b

/-- Heading / difference vector along one axis of a torus of circumference `s` (legacy `get_heading` and
    experimental `calculate_difference_vector` compute every component this way), for coordinates at most `s` apart:
    it is the direct difference `b - a` while that is shorter than half the circumference and the image through the
    edge `b - a ∓ s` when it is longer.  On the tie — `b` exactly half-way round, `|b - a| = s/2`, both images
    equally long — the code takes the image through the edge, which is `a - b`: the heading then points *away* from
    `b`'s direct position (`heading = -(b - a)`), and swapping the two points flips it. -/
theorem C10_torus_heading_cases (s a b : Int) (hs : 0 < s) (hd : iabs (b - a) ≤ s) :
    (2 * iabs (b - a) < s → axisHeading true s a b = b - a) ∧
    (2 * iabs (b - a) = s → axisHeading true s a b = a - b ∧ axisHeading true s b a = b - a) ∧
    (s < 2 * iabs (b - a) → axisHeading true s a b = b - a - sgn (b - a) * s) := by
  have h1 := axisHeading_torus_cases s a b hs hd
  have h2 := axisHeading_torus_cases s b a hs (by rw [iabs_sub_comm]; exact hd)
  refine ⟨h1.1, fun h => ⟨h1.2.1 h, h2.2.1 (by rw [iabs_sub_comm]; exact h)⟩, h1.2.2⟩

/-- … for ANY two coordinates (tie included, inside the bounds or not) following the heading from `a` arrives at a periodic
    image of `b`, and no periodic image of `b` is nearer than the heading is long. -/
theorem C10_torus_heading_reaches_target (s a b : Int) (hs : 0 < s) :
    (∃ k : Int, a + axisHeading true s a b = b + k * s) ∧
    ∀ k : Int, iabs (axisHeading true s a b) ≤ iabs (a - b + k * s) := by
  refine ⟨axisHeading_reaches s a b, fun k => ?_⟩
  rw [iabs_axisHeading true s a b hs]
  exact axisDist_torus_le_image s a b hs k

/-- without a torus the heading is the plain difference -/
theorem C10_flat_heading_is_difference (s a b : Int) : axisHeading false s a b = b - a := axisHeading_flat s a b

/-- The per-axis separation is 0 for equal coordinates and, on a torus, for coordinates a whole number of sizes apart,
    nothing else.  The experimental space keeps the upper edge inside its bounds, so on an experimental torus the points `min`
    and `max` of an axis are distinct stored positions at distance 0 (example below); the legacy space excludes the upper
    edge (`C10_legacy_zero_distance_iff_same_point`). -/
theorem C10_axis_zero_distance_iff (t : Bool) (s a b : Int) (hs : 0 < s) :
    axisDist t s a b = 0 ↔ a = b ∨ (t = true ∧ ∃ k : Int, a - b = k * s) := by
  rw [axisDist_eq_zero_iff t s a b hs, iabs_emod_eq_zero_iff]

/-- Legacy `get_distance` is symmetric. -/
theorem C10_legacy_distance_symmetric (c : LCfg) (p q : P2) : ldist2 c p q = ldist2 c q p := by
  simp [ldist2, axisDist_comm c.torus _ p.1 q.1, axisDist_comm c.torus _ p.2 q.2]

/-- Legacy `get_heading(p, q)` has the length of `get_distance(p, q)` (torus or not). -/
theorem C10_legacy_heading_length (c : LCfg) (hw : c.WF) (p q : P2) :
    sq (lheading c p q).1 + sq (lheading c p q).2 = ldist2 c p q := by
  unfold lheading ldist2
  rw [axisHeading_sq c.torus _ p.1 q.1 (by have := hw.1; unfold LCfg.width; omega),
    axisHeading_sq c.torus _ p.2 q.2 (by have := hw.2; unfold LCfg.height; omega)]

/-- Experimental `calculate_distances` is symmetric in its two points. -/
theorem C10_exp_distance_symmetric (c : ECfg) (p q : Pos) : edist2 c p q = edist2 c q p :=
  dist2Aux_comm _ _ _ _

/-- Experimental `calculate_difference_vector` has the length of `calculate_distances` (any number of
    dimensions, torus or not). -/
theorem C10_exp_difference_length (c : ECfg) (hw : c.WF) (p q : Pos) :
    norm2 (ediff c p q) = edist2 c p q :=
  diffAux_norm2 _ _ _ _ (fun d hd => by have := hw d hd; omega)

/-- … and so every row of `calculate_difference_vector(pt)` has the squared length of the corresponding
    entry of `calculate_distances(pt)`. -/
theorem C10_exp_difference_rows_length (c : ECfg) (hw : c.WF) (cap : Nat) (ops : List EOp) (pt : Pos) :
    let s := erun c cap ops
    ∃ lv ld, diffsOf s pt none = .ok lv ∧ distancesOf s pt none = .ok ld ∧
      lv.map (·.1) = ld.map (·.1) ∧ lv.map (fun av => norm2 av.2) = ld.map (·.2) := by
  intro s
  have h := erun_refines c cap ops
  refine ⟨_, _, rfl, rfl, ?_, ?_⟩
  · simp only [calcD2, List.zip_map_right, List.map_map]
    apply List.map_congr_left
    intro x _
    rfl
  · simp only [calcD2, List.zip_map_right, List.map_map]
    apply List.map_congr_left
    intro x _
    simp only [Function.comp, Prod.map, id]
    rw [h.cfg]
    exact C10_exp_difference_length c hw pt x.2

/-! ## the distances of the queries are the (toroidal) Euclidean distances of the property

`MetricDist2 dims torus p q d` (Proofs/ContMetric.lean) says, without any function of the model: `d` is the squared Euclidean
distance of `p` and `q` (bounded space), or the least squared Euclidean distance from `p` to a periodic image of `q`
(torus: no image `q + (k_1 size_1, …, k_n size_n)` is nearer, one is exactly that far). -/

/-- Experimental, ALL points `p`, `q` with one coordinate per axis (inside the bounds or not — after repair CS3): the number
    `calculate_distances` computes is the distance of the property, and no other number is. -/
theorem C10_exp_distance_is_metric (c : ECfg) (hw : c.WF) (p q : Pos) (hp : p.length = c.dims.length)
    (hq : q.length = c.dims.length) (d : Int) : MetricDist2 c.dims c.torus p q d ↔ d = edist2 c p q :=
  dist2Aux_metric c.dims hw c.torus p q hp hq d

/-- Legacy, ALL points (after repair CS3): `get_distance` and the row computation of `get_neighbors` (the same formula at two
    places of the code; the model has one function for both, the correspondence check compares each with it) give the
    distance of the property. -/
theorem C10_legacy_distance_is_metric (c : LCfg) (hw : c.WF) (p q : P2) (d : Int) :
    MetricDist2 c.dims c.torus [p.1, p.2] [q.1, q.2] d ↔ d = ldist2 c p q := by
  rw [ldist2_eq_dist2Aux]
  refine dist2Aux_metric c.dims ?_ c.torus _ _ rfl rfl d
  intro x hx
  simp only [LCfg.dims, List.mem_cons, List.not_mem_nil, or_false] at hx
  rcases hx with rfl | rfl
  · exact hw.1
  · exact hw.2

/-- Legacy, every history, EVERY query point and radius: `get_neighbors(p, r, include_center)` does not raise and returns
    exactly the agents of the space whose (toroidal) Euclidean distance to `p` — in the sense of `MetricDist2`, not of the
    model's own distance function — is at most `|r|` (those at distance 0 only with `include_center`). -/
theorem C10_legacy_neighbors_metric (c : LCfg) (hw : c.WF) (ops : List LOp) (p : P2) (r : Int) (incl : Bool) :
    ∃ res, (getNeighbors (lrun c ops) p r incl).2 = .ok res ∧
      ∀ a, a ∈ res ↔ a ∈ (lrun c ops).agents ∧ ∃ q d, (lrun c ops).pos a = some q ∧
        MetricDist2 c.dims c.torus [q.1, q.2] [p.1, p.2] d ∧ d ≤ r * r ∧ (incl = true ∨ 0 < d) := by
  refine ⟨_, (C10_legacy_neighbors_exact c ops p r incl).1, fun a => ?_⟩
  rw [C10_legacy_neighbors_mem]
  constructor
  · rintro ⟨h1, q, hq, h2, h3⟩
    exact ⟨h1, q, _, hq, (C10_legacy_distance_is_metric c hw q p _).mpr rfl, h2, h3⟩
  · rintro ⟨h1, q, d, hq, hm, h2, h3⟩
    have := (C10_legacy_distance_is_metric c hw q p d).mp hm
    subst this
    exact ⟨h1, q, hq, h2, h3⟩

/-- Experimental, every history whose vectors have one coordinate per axis, every initial capacity, EVERY query point with
    one coordinate per axis and every radius: an agent whose last assigned position is `q` is returned by
    `get_agents_in_radius(pt, r)` with the number `d` iff `d` is the (toroidal) Euclidean distance of the property between
    `pt` and `q` and `0 ≤ r`, `d ≤ r²`. -/
theorem C10_exp_radius_metric (c : ECfg) (hw : c.WF) (cap : Nat) (ops : List EOp) (hwf : WfOps c ops) (pt : Pos)
    (hpt : pt.length = c.dims.length) (r : Int) (a : Aid) (q : Pos) (hq : (espec c ops).pos a = some q) (d : Int) :
    (a, d) ∈ agentsInRadius (erun c cap ops) pt r ↔ MetricDist2 c.dims c.torus pt q d ∧ 0 ≤ r ∧ d ≤ r * r := by
  have h := erun_refines c cap ops
  have hget := h.pos a q hq
  have hlen := C10_exp_positions_have_dimension c ops hwf a q hq
  have hmem : a ∈ (erun c cap ops).active := h.active ▸ h.mem_of_pos hq
  rw [(C10_exp_radius_exact c cap ops pt r).1 a d, C10_exp_distance_is_metric c hw pt q hpt hlen d]
  constructor
  · rintro ⟨_, q', h1, h2, h3, h4⟩
    rw [hget] at h1
    cases h1
    exact ⟨h2, h3, h4⟩
  · rintro ⟨h2, h3, h4⟩
    exact ⟨hmem, q, hget, h2, h3, h4⟩

/-- Experimental k-nearest in the same terms: in a history whose vectors have one coordinate per axis and in which every
    agent of the space has been assigned a position, for every query point with one coordinate per axis,
    `get_k_nearest_agents(pt, k)` (`1 ≤ k ≤ n`, any admissible `argpartition`) returns `k` distinct agents, each with the
    (toroidal) Euclidean distance of the property to its last assigned position, and no agent left out is nearer. -/
theorem C10_exp_k_nearest_metric (argpart : List Int → Nat → List Nat) (hap : ArgPartSpec argpart)
    (c : ECfg) (hw : c.WF) (cap : Nat) (ops : List EOp) (hwf : WfOps c ops)
    (hall : ∀ a ∈ (espec c ops).members, (espec c ops).pos a ≠ none)
    (pt : Pos) (hpt : pt.length = c.dims.length) (k : Nat) :
    let s := erun c cap ops
    1 ≤ k → k ≤ s.active.length →
    ∃ res, kNearest argpart s pt k = .ok res ∧ res.length = k ∧ (res.map (·.1)).Nodup ∧
      (∀ ad ∈ res, ∃ q, (espec c ops).pos ad.1 = some q ∧ MetricDist2 c.dims c.torus pt q ad.2) ∧
      (∀ ad ∈ res, ∀ b ∈ (espec c ops).members, b ∉ res.map (·.1) →
        ∀ q e, (espec c ops).pos b = some q → MetricDist2 c.dims c.torus pt q e → ad.2 ≤ e) := by
  intro s hk hkn
  have h := erun_refines c cap ops
  obtain ⟨res, h1, h2, h3, h4, h5⟩ := C10_exp_k_nearest argpart hap c cap ops pt k hk hkn
  have hpos : ∀ b ∈ s.active, ∃ q, (espec c ops).pos b = some q ∧ getPos s b = .ok q ∧ q.length = c.dims.length := by
    intro b hb
    have hb' : b ∈ (espec c ops).members := by
      rw [← h.active]
      exact hb
    cases hq : (espec c ops).pos b with
    | none => exact absurd hq (hall b hb')
    | some q => exact ⟨q, rfl, h.pos b q hq, C10_exp_positions_have_dimension c ops hwf b q hq⟩
  refine ⟨res, h1, h2, h3, ?_, ?_⟩
  · intro ad had
    obtain ⟨hm, q', hq', hd⟩ := h4 ad had
    obtain ⟨q, e1, e2, e3⟩ := hpos ad.1 hm
    have hqq : q = q' := by
      rw [e2] at hq'
      exact Except.ok.inj hq'
    subst hqq
    exact ⟨q, e1, (C10_exp_distance_is_metric c hw pt q hpt e3 _).mpr hd⟩
  · intro ad had b hb hout q e hq hm
    have hb' : b ∈ s.active := by
      rw [h.active]
      exact hb
    have hlen := C10_exp_positions_have_dimension c ops hwf b q hq
    have := (C10_exp_distance_is_metric c hw pt q hpt hlen e).mp hm
    subst this
    exact h5 ad had b hb' hout q (h.pos b q hq)

/-- Experimental `agent.get_neighbors_in_radius(r)` (`r ≥ 0`) in the same terms: for an agent whose last assigned position is `p`,
    in a history whose vectors have one coordinate per axis, the call does not raise, and another agent `b` whose last assigned
    position is `q` is returned with the number `d` iff `d` is the (toroidal) Euclidean distance of the property between `p` and
    `q` and `d ≤ r²`; the agent itself is never returned. -/
theorem C10_exp_neighbors_in_radius_metric (c : ECfg) (hw : c.WF) (cap : Nat) (ops : List EOp) (hwf : WfOps c ops)
    (a : Aid) (p : Pos) (hp : (espec c ops).pos a = some p) (r : Int) (hr : 0 ≤ r) :
    ∃ res, neighborsInRadius (erun c cap ops) a r = .ok res ∧ (∀ d, (a, d) ∉ res) ∧
      ∀ b q, (espec c ops).pos b = some q → b ≠ a → ∀ d,
        ((b, d) ∈ res ↔ MetricDist2 c.dims c.torus p q d ∧ d ≤ r * r) := by
  have h := erun_refines c cap ops
  have hget : ∀ b q, (espec c ops).pos b = some q → getPos (erun c cap ops) b = .ok q ∧ b ∈ (erun c cap ops).active :=
    fun b q hq => ⟨h.pos b q hq, h.active ▸ h.mem_of_pos hq⟩
  obtain ⟨hpa, hma⟩ := hget a p hp
  obtain ⟨res, h1, h2⟩ := C10_exp_neighbors_in_radius c hw cap ops a p r hma hpa hr
  refine ⟨res, h1, fun d hd => ((h2 a d).mp hd).1 rfl, fun b q hq hba d => ?_⟩
  obtain ⟨hpb, hmb⟩ := hget b q hq
  have hlp := C10_exp_positions_have_dimension c ops hwf a p hp
  have hlq := C10_exp_positions_have_dimension c ops hwf b q hq
  rw [h2 b d, C10_exp_distance_is_metric c hw p q hlp hlq d]
  constructor
  · rintro ⟨_, _, q', e1, e2, e3⟩
    have : q = q' := by
      rw [hpb] at e1
      exact Except.ok.inj e1
    subst this
    exact ⟨e2, e3⟩
  · rintro ⟨e2, e3⟩
    exact ⟨hba, hmb, q, hpb, e2, e3⟩

/-- Legacy `get_heading(p, q)` for ANY two points: following it from `p` arrives at `q` (bounded space) or at a periodic image of
    `q` (torus), and its squared length is the (toroidal) Euclidean distance of the property — it is a shortest vector from `p`
    to an image of `q`. -/
theorem C10_legacy_heading_metric (c : LCfg) (hw : c.WF) (p q : P2) :
    (c.torus = false → (p.1 + (lheading c p q).1, p.2 + (lheading c p q).2) = q) ∧
    (c.torus = true → ∃ kx ky : Int,
      (p.1 + (lheading c p q).1, p.2 + (lheading c p q).2) = (q.1 + kx * c.width, q.2 + ky * c.height)) ∧
    MetricDist2 c.dims c.torus [p.1, p.2] [q.1, q.2] (sq (lheading c p q).1 + sq (lheading c p q).2) := by
  refine ⟨fun ht => ?_, fun ht => ?_, ?_⟩
  · simp only [lheading, ht, axisHeading_flat]
    apply Prod.ext <;> simp <;> omega
  · obtain ⟨kx, hx⟩ := axisHeading_reaches c.width p.1 q.1
    obtain ⟨ky, hy⟩ := axisHeading_reaches c.height p.2 q.2
    exact ⟨kx, ky, by simp only [lheading, ht, hx, hy]⟩
  · rw [C10_legacy_distance_is_metric c hw p q]
    exact C10_legacy_heading_length c hw p q

/-- Experimental `calculate_difference_vector`: for ANY two points with one coordinate per axis the squared length of the
    difference vector is the (toroidal) Euclidean distance of the property. -/
theorem C10_exp_difference_metric (c : ECfg) (hw : c.WF) (p q : Pos) (hp : p.length = c.dims.length)
    (hq : q.length = c.dims.length) : MetricDist2 c.dims c.torus p q (norm2 (ediff c p q)) := by
  rw [C10_exp_distance_is_metric c hw p q hp hq]
  exact C10_exp_difference_length c hw p q

/-- Experimental `calculate_difference_vector(point, agents)`, direction and arrival (the sign convention is the code's,
    `positions - point`: the vector points FROM the point TO the agent).  For ANY point `p` and position `q` with one
    coordinate per axis the result has one coordinate per axis and, axis by axis, `p[i] + diff[i] = q[i]` in a bounded space
    and `p[i] + diff[i] = q[i] + k·size_i` for an integer `k` on a torus: following the vector from the point arrives at the
    agent / at a periodic image of the agent.  With `C10_exp_difference_metric` (its length is the least distance to any
    image) it is a shortest such vector; the negated vector does not satisfy this (example below). -/
theorem C10_exp_difference_reaches (c : ECfg) (p q : Pos) (hp : p.length = c.dims.length) (hq : q.length = c.dims.length) :
    (ediff c p q).length = c.dims.length ∧
    ∀ i, i < c.dims.length → ∃ x y h d, p[i]? = some x ∧ q[i]? = some y ∧ (ediff c p q)[i]? = some h ∧ c.dims[i]? = some d ∧
      (c.torus = false → x + h = y) ∧ (c.torus = true → ∃ k : Int, x + h = y + k * (d.2 - d.1)) :=
  diffAux_reaches c.torus c.dims p q hp hq

/-- Experimental, every history: `calculate_difference_vector(pt)` lists the agents of the space in the order of `space.agents`,
    each once, paired with the difference vector from `pt` to its true position (to which `C10_exp_difference_reaches` and
    `C10_exp_difference_metric` apply). -/
theorem C10_exp_differences_exact (c : ECfg) (cap : Nat) (ops : List EOp) (pt : Pos) (a : Aid) (v : Pos) :
    let s := erun c cap ops
    (∃ l, diffsOf s pt none = .ok l ∧ l.map (·.1) = s.active ∧ ((a, v) ∈ l ↔
      a ∈ s.active ∧ ∃ q, getPos s a = .ok q ∧ v = ediff c pt q)) := by
  have h := erun_refines c cap ops
  exact ⟨_, rfl, zip_rows_map_fst h.inv _, by rw [mem_zip_rows_map h.inv, h.cfg]⟩

/-- Experimental, any number of dimensions: two points with one coordinate per axis are at distance 0 exactly when on every
    axis their coordinates are equal or — on a torus — a whole number of sizes apart (periodic images of each other); the
    n-D counterpart of `C10_legacy_zero_distance_iff_same_point`.  Since both edges of an axis are inside an experimental
    space, `min` and `max` are distinct stored coordinates at distance 0 on a torus (example below). -/
theorem C10_exp_zero_distance_iff (c : ECfg) (hw : c.WF) (p q : Pos) (hp : p.length = c.dims.length)
    (hq : q.length = c.dims.length) :
    edist2 c p q = 0 ↔
      ∀ (i : Nat) (x y : Int) (d : Int × Int), p[i]? = some x → q[i]? = some y → c.dims[i]? = some d →
        x = y ∨ (c.torus = true ∧ ∃ k : Int, x - y = k * (d.2 - d.1)) :=
  dist2Aux_eq_zero_iff c.torus c.dims hw p q hp hq

/-! ### histories with vectors of any length reduce to histories with vectors of the right length -/

/-- Every history of calls with vectors of ANY length leaves the space exactly as the history does in which each vector is
    replaced by what numpy broadcasts it to and the calls numpy rejects are dropped — and that history is well-formed
    (`WfOps`).  So the theorems with a `WfOps` hypothesis cover every history the code can run (on spaces with `nd ≥ 2`; on a
    1-D space numpy broadcasts the other way round: not modelled). -/
theorem C10_exp_history_vectors_normalise (c : ECfg) (cap : Nat) (ops : List EOp) :
    erunV c cap ops = erun c cap (ops.filterMap (normOp c.dims.length)) ∧
    WfOps c (ops.filterMap (normOp c.dims.length)) := by
  constructor
  · exact foldl_estepV ops (einit c cap)
  · intro op hop v hv
    obtain ⟨o, _, ho⟩ := List.mem_filterMap.mp hop
    exact normOp_vec ho hv

/-! ## non-vacuity: concrete histories (torus with negative origin; capacity 0 with growth and compaction) -/
section Examples

def exL : LCfg := { xmin := -320, xmax := 320, ymin := 0, ymax := 640, torus := true }
def exOps : List LOp :=
  [.place 1 (0, 64), .place 2 (700, 64), .nbrs (0, 64) 64 true, .move 1 (-330, 700), .place 3 (9999, 0) ,
   .remove 2, .move 3 (0, 0)]
example : exL.WF := ⟨by decide +kernel, by decide +kernel⟩
example : (lrun exL exOps).agents = [1, 3] := by decide +kernel
example : (lrun exL exOps).pos 1 = some (310, 60) := by decide +kernel
example : (getNeighbors (lrun exL (exOps.take 4)) (-310, 50) 64 true).2 = .ok [1] := by rfl
example : (getNeighbors (lrun exL (exOps.take 4)) (-310, 50) 300 true).2 = .ok [1, 2] := by rfl
example : ((lrun exL (exOps.take 4)).pts) = some [(310, 60), (60, 64)] := by decide +kernel

def exE : ECfg := { dims := [(-64, 64), (0, 128), (0, 64)], torus := false }
def exEOps : List EOp :=
  [.new 1, .set 1 [0, 0, 0], .new 2, .set 2 [64, 128, 64], .new 3, .set 3 [10, 10, 10], .set 3 [65, 0, 0],
   .remove 1, .new 4, .set 4 [-64, 1, 2]]
example : exE.WF := by
  intro d hd
  simp [exE] at hd
  rcases hd with rfl | rfl | rfl <;> decide +kernel
example : (erun exE 0 exEOps).active = [2, 3, 4] := by decide +kernel
example : ((erun exE 0 exEOps).n, (erun exE 0 exEOps).cap) = (3, 3) := by decide +kernel
example : getPos (erun exE 0 exEOps) 3 = .ok [10, 10, 10] := by rfl
example : (espec exE exEOps).pos 3 = some [10, 10, 10] := by decide +kernel
example : agentsInRadius (erun exE 0 exEOps) [0, 0, 0] 65 = [(3, 300), (4, 4101)] := by decide +kernel
/-- one admissible `argpartition` answer for the three distances `[24576, 300, 4101]` and `kth = 1` -/
example : kNearest (fun _ _ => [1, 2, 0]) (erun exE 0 exEOps) [0, 0, 0] 2 = .ok [(3, 300), (4, 4101)] := by
  rfl

/-! any number of dimensions: a 1-D torus and a 5-D bounded space (the theorems above never mention the dimension) -/
def exE1 : ECfg := { dims := [(-64, 64)], torus := true }
def exE5 : ECfg := { dims := [(0, 64), (0, 64), (-64, 0), (0, 128), (10, 20)], torus := false }
example : getPos (erun exE1 1 [.new 1, .set 1 [70], .new 2, .set 2 [-60]]) 1 = .ok [-58] := by rfl
example : agentsInRadius (erun exE1 1 [.new 1, .set 1 [70], .new 2, .set 2 [-60]]) [60] 10 = [(1, 100), (2, 64)] := by
  decide +kernel
example : (erun exE5 0 [.new 1, .set 1 [1, 2, -3, 4, 15], .new 2, .set 2 [0, 0, 0, 0, 21]]).active = [1, 2] := by decide +kernel
example : getPos (erun exE5 0 [.new 1, .set 1 [1, 2, -3, 4, 15], .new 2, .set 2 [0, 0, 0, 0, 21]]) 1 = .ok [1, 2, -3, 4, 15] := by rfl
example : setPos (erun exE5 0 [.new 1, .set 1 [1, 2, -3, 4, 15], .new 2]) 2 [0, 0, 0, 0, 21] = .error .oob := by rfl
example : calcD2 (erun exE5 0 [.new 1, .set 1 [1, 2, -3, 4, 15], .new 2, .set 2 [0, 0, 0, 0, 20]]) [0, 0, 0, 0, 10] = [55, 100] := by
  decide +kernel

/-! edge cases: the half-size tie of the heading, the two edges of an experimental torus, a foreign `move_agent` -/
example : lheading exL (0, 0) (320, 100) = (-320, 100) := by decide +kernel          -- tie on x: through the edge
example : lheading exL (320 - 1, 0) (-1, 0) = (320, 0) := by decide +kernel           -- … and the reverse direction
example : ldist2 exL (0, 0) (320, 0) = 320 * 320 := by decide +kernel
example : edist2 exE1 [-64] [64] = 0 := by decide +kernel
example : inBounds exE1.dims [-64] = true ∧ inBounds exE1.dims [64] = true := by decide +kernel
example : (move (lrun exL (exOps.take 3)) 9 (5, 5)).2 = .error .key := by rfl
example : (move (lrun exL (exOps.take 3)) 9 (5, 5)).1.pos 9 = some (5, 5) ∧
    (move (lrun exL (exOps.take 3)) 9 (5, 5)).1.agents = [1, 2] := by decide +kernel
example : (move (lrun exL (exOps.take 2)) 9 (5, 5)).2 = .ok () := by rfl
/-- five agents on one spot: with this admissible `argpartition` answer agent 3 gets two neighbours for `k = 1` -/
example : nearestNeighbors (fun _ _ => [0, 1, 2, 3, 4])
    (erun exE1 0 [.new 1, .set 1 [0], .new 2, .set 2 [0], .new 3, .set 3 [0], .new 4, .set 4 [0], .new 5, .set 5 [0]]) 3 1 =
    .ok [(1, 0), (2, 0)] := by rfl

/-- a raw write can put an agent outside a bounded space: what `C10_exp_positions_inside` excludes for the agent API -/
example : (rawWrite (erun exE 0 exEOps) 1 [999, 0, 0]).toOption.map (fun s => agentGet s 3) = some (.ok [999, 0, 0]) := by
  rfl
example : inBounds exE.dims [999, 0, 0] = false := by decide +kernel
/-- … and a history with writes through the view: the bookkeeping follows them, the queries answer for the written rows -/
def exERaw : List EOp := exEOps ++ [.raw 1 [999, 0, 0], .raw 7 [0, 0, 0], .raw 0 [1, 1, 1], .remove 2, .new 5, .set 5 [0, 0, 0]]
example : (erun exE 0 exERaw).active = [3, 4, 5] := by decide +kernel
example : (espec exE exERaw).pos 3 = some [999, 0, 0] := by decide +kernel
example : agentGet (erun exE 0 exERaw) 3 = .ok [999, 0, 0] := by rfl
example : agentsInRadius (erun exE 0 exERaw) [990, 0, 0] 10 = [(3, 81)] := by decide +kernel
/-- the hypothesis of `C10_exp_positions_inside` holds of a history with an in-bounds write through the view -/
example : ∀ i p, EOp.raw i p ∈ exEOps ++ [.raw 1 [64, 0, 0]] → inBounds exE.dims p = true := by
  intro i p h
  simp [exEOps] at h
  obtain ⟨_, rfl⟩ := h
  decide +kernel
/-! legacy, `agent.pos` written directly while the cache is live: `get_neighbors` still answers for the old position `(64, 64)`;
after the next placement the state is the one `move_agent` would have given -/
def exLd : LCfg := { xmin := 0, xmax := 640, ymin := 0, ymax := 640, torus := false }
def exLdOps : List LOp := [.place 1 (64, 64), .place 2 (320, 320), .nbrs (0, 0) 100 true]
example : (lrun exLd exLdOps).pts = some [(64, 64), (320, 320)] := by decide +kernel
example : (getNeighbors (lpoke (lrun exLd exLdOps) 1 (600, 600)) (64, 64) 10 true).2 = .ok [1] := by rfl
example : (getNeighbors (lpoke (lrun exLd exLdOps) 1 (600, 600)) (600, 600) 10 true).2 = .ok [] := by rfl
example : (lpoke (lrun exLd exLdOps) 1 (600, 600)).pos 1 = some (600, 600) := by decide +kernel
example : (getNeighbors (lstep (lpoke (lrun exLd exLdOps) 1 (600, 600)) (.place 3 (1, 1))) (600, 600) 10 true).2 = .ok [1] := by
  rfl

/-! vectors of the wrong length: `[5]` is taken for `(5, 5, 5)`; two coordinates in a 3-D space are a `ValueError`; the
distances of a bounded space refuse `[5]` while its difference vectors, and the distances of a torus, broadcast it -/
def exT : ECfg := { dims := [(0, 64), (0, 64)], torus := true }
example : (agentSetV (erun exE 0 exEOps) 3 [5]).toOption.map (fun s => agentGet s 3) = some (.ok [5, 5, 5]) := by rfl
example : (agentSetV (erun exE 0 exEOps) 3 [5, 5]).toOption.map (fun s => agentGet s 3) = none := by rfl
example : distancesOfV (erun exE 0 exEOps) [5] none = .error .value := by rfl
example : (diffsOfV (erun exE 0 exEOps) [0] none).toOption.map (·.length) = some 3 := by rfl
example : distancesOfV (erun exT 0 [.new 1, .set 1 [1, 2]]) [0] none = .ok [(1, 5)] := by rfl
example : distancesOfV (erun exT 0 [.new 1, .set 1 [1, 2]]) [0, 0, 0] none = .error .value := by rfl

/-! references to `agent_positions` kept by the user: a 1-D space of capacity 1; the reference is taken with one agent in the
space (`⟨1, 1⟩`: one row, length 1), the second agent re-allocates the array -/
def exK : ECfg := { dims := [(0, 64)], torus := false }
def exKpre : List EOp := [.new 1, .set 1 [5]]
example : holdView (erun exK 1 exKpre) = ⟨1, 1⟩ := by decide +kernel
example : (hrun exK 1 (exKpre ++ [.set 1 [7]])).read ⟨1, 1⟩ = [[7]] := by rfl
example : (erun exK 1 (exKpre ++ [.new 2])).cap = 2 := by decide +kernel
example : (hrun exK 1 (exKpre ++ [.new 2, .set 2 [9], .set 1 [8]])).read ⟨1, 1⟩ = [[5]] := by rfl
example : (heldWrite (erun exK 1 (exKpre ++ [.new 2])) ⟨1, 1⟩ 0 [3]).toOption.map (fun s => agentGet s 1) = some (.ok [5]) := by
  rfl
example : (heldWrite (erun exK 1 exKpre) ⟨1, 1⟩ 0 [3]).toOption.map (fun s => agentGet s 1) = some (.ok [3]) := by rfl
/-- capacity 5, reference taken with agents 1 and 2; after `1.remove()` row 0 is agent 2's: `v[0] = 9` moves agent 2, and
    `v[1] = 9` (a row no agent has any more) moves nobody -/
def exKrm : List EOp := [.new 1, .set 1 [5], .new 2, .set 2 [6], .remove 1]
example : holdView (erun exK 5 (exKrm.take 4)) = ⟨5, 2⟩ := by decide +kernel
example : (heldWrite (erun exK 5 exKrm) ⟨5, 2⟩ 0 [9]).toOption.map (fun s => agentGet s 2) = some (.ok [9]) := by rfl
example : (heldWrite (erun exK 5 exKrm) ⟨5, 2⟩ 1 [9]).toOption.map (fun s => agentGet s 2) = some (.ok [6]) := by rfl
example : (hrun exK 5 exKrm).read ⟨5, 2⟩ = [[6], [6]] := by rfl
/-! repair CS3: a query point outside the bounds of a torus stands for its periodic image.  Torus `[0,640)²` (10 x 10 units), an
agent at the origin, query point 25 units out: the toroidal distance is 5 units (before the repair the code said 15) -/
def exTorL : LCfg := { xmin := 0, xmax := 640, ymin := 0, ymax := 640, torus := true }
example : ldist2 exTorL (0, 0) (1600, 0) = 320 * 320 := by decide +kernel
example : (getNeighbors (lrun exTorL [.place 1 (0, 0)]) (1600, 0) 320 true).2 = .ok [1] := by rfl
example : lheading exTorL (0, 0) (1600, 0) = (-320, 0) := by decide +kernel
example : lheading exTorL (0, 0) (1536, 0) = (256, 0) := by decide +kernel
def exTorE : ECfg := { dims := [(0, 640), (0, 640)], torus := true }
example : agentsInRadius (erun exTorE 0 [.new 1, .set 1 [0, 0]]) [1600, 0] 320 = [(1, 320 * 320)] := by decide +kernel
example : ediff exTorE [1600, 0] [0, 0] = [320, 0] := by decide +kernel
/-- the hypotheses of `C10_exp_distance_is_metric` / `C10_exp_radius_metric` are met by that point, and the distance is attained
    by the image two sizes away -/
example : exTorE.WF := by intro d hd; simp [exTorE] at hd; rcases hd with rfl | rfl <;> decide +kernel
example : imgDist2 exTorE.dims [-2, 0] [1600, 0] [0, 0] = edist2 exTorE [1600, 0] [0, 0] := by decide +kernel
example : WfOps exTorE [.new 1, .set 1 [0, 0]] := by
  intro op hop v hv
  simp at hop
  rcases hop with rfl | rfl <;> simp [EOp.vec] at hv
  subst hv
  rfl
example : (espec exTorE [.new 1, .set 1 [0, 0]]).pos 1 = some [0, 0] := by decide +kernel
/-! a torus k-nearest through the edge; `get_nearest_neighbors` with a coincident agent; legacy query → move → query -/
example : kNearest (fun _ _ => [0, 1, 2]) (erun exTorE 0 [.new 1, .set 1 [10, 10], .new 2, .set 2 [630, 630], .new 3, .set 3 [320, 320]]) [0, 0] 2 =
    .ok [(1, 200), (2, 200)] := by rfl
example : nearestNeighbors (fun _ _ => [0, 1, 2]) (erun exTorE 0 [.new 1, .set 1 [10, 10], .new 2, .set 2 [10, 10], .new 3, .set 3 [320, 320]]) 2 1 =
    .ok [(1, 0)] := by rfl
example : (getNeighbors (lrun exTorL [.place 1 (0, 0), .place 2 (64, 0), .nbrs (0, 0) 64 true, .move 2 (600, 0)]) (0, 0) 64 true).2 = .ok [1, 2] := by
  rfl
example : (getNeighbors (lrun exTorL [.place 1 (0, 0), .place 2 (64, 0), .nbrs (0, 0) 64 true, .move 2 (320, 0)]) (0, 0) 64 true).2 = .ok [1] := by
  rfl
/-! the closed form of "last assigned" and the fresh agent: agent 1 is assigned, then removed agents' rows are compacted around it;
in the second history the new agent 2 reads the stale row of the removed agent 1 -/
example : agentGet (erun exE 0 ([.new 1, .new 2] ++ [EOp.set 2 [1, 2, 3]] ++ [.new 3, .remove 1, .new 4, .set 4 [0, 0, 0]])) 2 = .ok [1, 2, 3] := by
  rfl
example : getPos (erun exE 0 [.new 1, .set 1 [1, 2, 3], .remove 1, .new 2]) 2 = .ok [1, 2, 3] := by rfl
example : (espec exE [.new 1, .set 1 [1, 2, 3], .remove 1, .new 2]).pos 2 = none := by decide +kernel
example : (lrun exL ([.place 1 (0, 0), .place 2 (5, 5)] ++ [LOp.move 2 (700, 64)] ++ [.nbrs (0, 0) 64 true, .remove 1, .place 3 (1, 1)])).pos 2 =
    some (60, 64) := by decide +kernel
/-! vectors of any length: the history with a broadcast `[5]` and a rejected `[5, 5]` is the well-formed history with `[5, 5, 5]` -/
example : [EOp.new 1, .set 1 [5], .set 1 [6, 6], .iadd 1 [1]].filterMap (normOp 3) = [.new 1, .set 1 [5, 5, 5], .iadd 1 [1, 1, 1]] := by
  decide +kernel
example : agentGet (erunV exE 0 [.new 1, .set 1 [5], .set 1 [6, 6], .iadd 1 [1]]) 1 = .ok [6, 6, 6] := by rfl
/-! direction of the difference vector: from the point to the agent (`positions - point`); the negated vector would arrive at
    `[-10, -20, -30]`; on the torus the vector to `[630, 0]` from `[0, 0]` goes back through the edge -/
example : ediff exE [0, 0, 0] [10, 20, 30] = [10, 20, 30] := by decide +kernel
example : ediff exE [10, 20, 30] [0, 0, 0] = [-10, -20, -30] := by decide +kernel
example : ediff exTorE [0, 0] [630, 0] = [-10, 0] := by decide +kernel
example : edist2 exTorE [0, 5] [640, 5] = 0 ∧ edist2 exTorE [0, 5] [639, 5] = 1 := by decide +kernel
/-! the wrapped value: `[700, -10]` on the torus `[0,640]²` is stored as `[60, 630]` -/
example : eassign exTorE [700, -10] = some [60, 630] := by decide +kernel
end Examples

end Mesa.Cont
