import MesaModel.Proofs.Batch
/-!
# C13 — batch_run covers the whole design once and reports consistent rows

Property theorems only (helper lemmas: `Proofs/Batch.lean`, `Proofs/Collect.lean`; models:
`Model/Batch.lean` on top of `Model/Collect.lean`).

`κ` is the (opaque) type of parameter values.  A model class `cls : Kwargs κ → Prog` maps the
constructor's keyword arguments to reporter dictionaries, tables, a constructor body and a step body
(arbitrary histories of DataCollector ops: collect at construction and/or inside step, agents created
and removed, early stop).  "By hand" is `Collect.run` on `histOf p k` = constructor body followed by `k`
times (`steps += 1`, step body); `storedSnaps` are the model snapshots at its storing collects.
-/
namespace Mesa.Batch
open Mesa.Collect

/-- `_make_model_kwargs`: a string or a non-iterable is a single value, everything else is iterated; an
    empty list / tuple / set is rejected; otherwise the result is the cartesian product — as many dicts as
    the product of the numbers of values, a dict is in it iff it picks for every parameter, in order, one
    of that parameter's values, and no dict occurs twice when no parameter lists a value twice. -/
theorem C13_kwargs_product (params : List (Nat × PVal κ)) :
    ((∃ p ∈ params, p.2 = .sized []) → makeKwargs params = .error .value) ∧
    ((∀ p ∈ params, p.2 ≠ .sized []) →
      ∃ kws, makeKwargs params = .ok kws ∧
        kws.length = prodLen (params.map fun p => (p.1, p.2.valuesT)) ∧
        (∀ kw, kw ∈ kws ↔ Chooses kw (params.map fun p => (p.1, p.2.valuesT))) ∧
        ((∀ p ∈ params, p.2.valuesT.Nodup) → kws.Nodup)) := by
  refine ⟨fun h => by simp [makeKwargs, paramLists_err params h], fun h => ?_⟩
  refine ⟨_, by simp only [makeKwargs, paramLists_ok params h], product_length _, mem_product _, ?_⟩
  intro hn
  apply product_nodup
  intro p hp
  obtain ⟨q, hq, rfl⟩ := List.mem_map.mp hp
  exact hn q hq

/-- Strings and non-iterables are single values: a parameter dict of such values yields exactly one run
    configuration, the dict itself. -/
theorem C13_single_values (params : List (Nat × PVal κ))
    (h : ∀ p ∈ params, (∃ v, p.2 = .str v) ∨ (∃ v, p.2 = .scalar v)) :
    ∃ kw, makeKwargs params = .ok [kw] ∧ kw.map (·.1) = params.map (·.1) ∧
      ∀ e ∈ kw, ∃ p ∈ params, p.1 = e.1 ∧ (p.2 = .str e.2 ∨ p.2 = .scalar e.2) := by
  induction params with
  | nil => exact ⟨[], rfl, rfl, by simp⟩
  | cons x xs ih =>
    obtain ⟨n, pv⟩ := x
    obtain ⟨kw, hk, hn, hv⟩ := ih (fun p hp => h p (by simp [hp]))
    obtain ⟨ls, hls, hprod⟩ : ∃ ls, paramLists xs = .ok ls ∧ product ls = [kw] := by
      unfold makeKwargs at hk
      split at hk
      · cases hk
      · exact ⟨_, ‹_›, Except.ok.inj hk⟩
    obtain ⟨v, hpv⟩ : ∃ v, pv = .str v ∨ pv = .scalar v :=
      (h (n, pv) (by simp)).elim (fun ⟨v, hv⟩ => ⟨v, .inl hv⟩) fun ⟨v, hv⟩ => ⟨v, .inr hv⟩
    have hval : pv.values = .ok [v] := by
      rcases hpv with rfl | rfl <;> rfl
    refine ⟨(n, v) :: kw, ?_, by simp [hn], ?_⟩
    · simp [makeKwargs, paramLists, hval, hls, product, hprod]
    · intro e he
      rcases List.mem_cons.mp he with rfl | he
      · exact ⟨(n, pv), by simp, rfl, hpv⟩
      · obtain ⟨p, hp, h1, h2⟩ := hv e he
        exact ⟨p, by simp [hp], h1, h2⟩

/-- The work list: every kwargs dict once per iteration (iterations outermost), labelled with the distinct
    RunIds `0, 1, …, iterations * |kwargs| - 1` in that order. -/
theorem C13_run_list (kws : List (Kwargs κ)) (iterations : Nat) :
    (runList kws iterations).map (·.runId) = List.range (iterations * kws.length) ∧
    (runList kws iterations).map (fun r => (r.iteration, r.kwargs)) =
      (List.range iterations).flatMap (fun it => kws.map fun kw => (it, kw)) ∧
    ((runList kws iterations).map (·.runId)).Nodup := by
  have hlen : ((List.range iterations).flatMap fun it => kws.map fun kw => (it, kw)).length =
      iterations * kws.length := by
    rw [length_flatMap_const _ _ kws.length (by simp)]
    simp
  have h1 : (runList kws iterations).map (·.runId) = List.range (iterations * kws.length) := by
    rw [runList, number_runIds, hlen, List.range_eq_range']
  exact ⟨h1, number_pairs _ _, h1 ▸ List.nodup_range⟩

/-- Parallel execution hands the runs' row lists back in an arbitrary order (any `number_processes`, any
    worker completion order): for every permutation of the work list the result is a permutation of the
    serial result — the same multiset of rows — and `batch_run` never fails for a period ≠ 0. -/
theorem C13_parallel_perm_serial (cls : Kwargs κ → Prog) (maxSteps : Nat) (period : Int) (hp : period ≠ 0)
    (runs order : List (Run κ)) (h : order.Perm runs) :
    ∃ r₁ r₂, batchOrder cls maxSteps period order = .ok r₁ ∧ batchOrder cls maxSteps period runs = .ok r₂ ∧
      r₁.Perm r₂ :=
  ⟨_, _, batchOrder_total cls maxSteps period hp order, batchOrder_total cls maxSteps period hp runs,
    List.Perm.flatMap_right _ h⟩

/-- Each model is stepped until it stops or has taken `max_steps` steps, and what `batch_run` then reads is
    the state of the same model constructed and stepped by hand (`hand p k` = the history `init ++ k × (step :: body)`
    run on a fresh model) exactly `k = stepsTaken p max_steps ≤ max_steps` times — and `k` is pinned: at every
    `j < k` the hand-stepped model was still running and below `max_steps` (no step is skipped, the loop does not
    run on after a stop), at `k` it has stopped or reached `max_steps`, and `k` is the only number with these two
    properties.  (`step ∉ body`: the user's step does not call the wrapped `step` again.) -/
theorem C13_steps_taken (p : Prog) (maxSteps : Nat) :
    ((runModel p maxSteps).running = false ∨ maxSteps ≤ (runModel p maxSteps).steps) ∧
    (Op.step ∉ p.body → (runModel p maxSteps).steps ≤ max maxSteps (construct p).steps) ∧
    (Op.step ∉ p.body → Op.step ∉ p.init → (runModel p maxSteps).steps ≤ maxSteps) ∧
    ∃ k ≤ maxSteps, k = stepsTaken p maxSteps ∧
      runModel p maxSteps = run p.cfg (Collect.init p.cfg p.tables) (histOf p k) ∧
      (∀ j < k, (hand p j).running = true ∧ (hand p j).steps < maxSteps) ∧
      ((hand p k).running = false ∨ maxSteps ≤ (hand p k).steps) ∧
      ∀ k', (∀ j < k', (hand p j).running = true ∧ (hand p j).steps < maxSteps) →
        ((hand p k').running = false ∨ maxSteps ≤ (hand p k').steps) → k' = k := by
  obtain ⟨hk, he, hmin, hstop⟩ := runModel_eq_hand p maxSteps
  refine ⟨he ▸ goOn_eq_false.mp hstop, runModel_steps_le p maxSteps, fun hb hi => ?_, _, hk, rfl, he,
    fun j hj => goOn_eq_true.mp (hmin j hj), goOn_eq_false.mp hstop, fun k' hmin' hstop' => ?_⟩
  · have := runModel_steps_le p maxSteps hb
    rw [construct_steps p hi] at this
    simpa using this
  · -- the loop condition holds before `k` and `k'` and fails at both: neither can lie before the other
    have hstop'' : goOn maxSteps (hand p k') = false := goOn_eq_false.mpr hstop'
    exact Nat.le_antisymm
      (Nat.le_of_not_lt fun h => nomatch (goOn_eq_true.mpr (hmin' _ h)).symm.trans hstop)
      (Nat.le_of_not_lt fun h => nomatch (hmin _ h).symm.trans hstop'')

/-- **Exactly these rows.**  For a run whose reporters never raise (`Total`) and a period ≠ 0, `_model_run_func`
    returns — no row more, no row less, in this order — for each position `i` that `picks` selects among the stored
    collections `snaps` of the model stepped by hand `stepsTaken` times (`C13_steps_taken`; the positions are
    characterised by `C13_reported_collections`): one row per agent row recorded under that collection's step
    (`rowsOfSnap`: RunId, iteration, Step = the collection's step, the kwargs, the model reporters evaluated on the
    collection's snapshot, AgentID and agent values), or a single row without agent part when nothing is recorded.
    (`rowsSpec`, which `C13_batch_run_exact` concatenates, is by definition this list.) -/
theorem C13_run_rows_exact (cls : Kwargs κ → Prog) (maxSteps : Nat) (period : Int) (hp : period ≠ 0) (r : Run κ)
    (hT : Total (cls r.kwargs).cfg) :
    let p := cls r.kwargs
    let snaps := storedSnaps p.cfg (Collect.init p.cfg p.tables) (histOf p (stepsTaken p maxSteps))
    ∃ ps, picks snaps.length period = .ok ps ∧
      runRows cls maxSteps period r = .ok (ps.flatMap fun i => match snaps[i]? with
        | some sn => rowsOfSnap p.cfg snaps r sn
        | none => []) ∧
      (∀ i ∈ ps, ∃ sn, snaps[i]? = some sn ∧ rowsOfSnap p.cfg snaps r sn ≠ []) := by
  intro p snaps
  obtain ⟨ps, hps, hmem, _⟩ := picks_spec snaps.length period hp
  have hr := runRows_eq_rowsSpec cls maxSteps period hp r hT
  refine ⟨ps, hps, ?_, ?_⟩
  · exact hr.trans (congrArg Except.ok (rowsSpec_of_picks cls maxSteps period r hps))
  · intro i hi
    have hlt := ((hmem i).mp hi).1
    exact ⟨snaps[i], List.getElem?_eq_getElem hlt, rowsOfColl_ne_nil _ _ _ _⟩

/-- Every row of a run repeats the run's id, iteration and parameters, and its Step label, model-level
    values and agent-level values all come from one collection `sn` of the model stepped by hand: the label
    is the step at which `sn` was taken, the model values are the model reporters evaluated on `sn`, and the
    agent part — for a model that collects at most once per step value (C13's quantifier: at construction
    and/or inside step) — is the id and the reporter values of an agent registered in `sn`.  `Total`: the
    reporters never raise (C13's quantifier); the last example of this file shows what a collect that raised
    and was swallowed by the model does to the rows. -/
theorem C13_rows_from_one_collection (cls : Kwargs κ → Prog) (maxSteps : Nat) (period : Int) (r : Run κ)
    (hT : Total (cls r.kwargs).cfg) (rows : List (BRow κ)) (h : runRows cls maxSteps period r = .ok rows) :
    ∃ k ≤ maxSteps,
      let p := cls r.kwargs
      let snaps := storedSnaps p.cfg (Collect.init p.cfg p.tables) (histOf p k)
      runModel p maxSteps = run p.cfg (Collect.init p.cfg p.tables) (histOf p k) ∧
      ∀ row ∈ rows, row.runId = r.runId ∧ row.iteration = r.iteration ∧ row.kwargs = r.kwargs ∧
        ∃ sn ∈ snaps, row.step = sn.steps ∧ row.model = p.cfg.mreps.map (fun m => m.eval sn) ∧
          ((snaps.map (·.steps)).Nodup → ∀ id vals, row.agent = some (id, vals) →
            ∃ ag ∈ sn.agents, id = ag.id ∧ vals = p.cfg.areps.map fun a => a.eval sn ag) := by
  obtain ⟨hp, rfl⟩ := eq_rowsSpec_of_runRows hT h
  refine ⟨_, (runModel_eq_hand (cls r.kwargs) maxSteps).1, runModel_eq_run _ _, fun row hrow => ?_⟩
  obtain ⟨sn, hmem, hrow⟩ := mem_rowsSpec hrow
  obtain ⟨h1, h2, h3, h4, h5, h6⟩ := mem_rowsOfColl hrow
  refine ⟨h1, h2, h3, sn, hmem, h4, h5, fun hnd id vals e => ?_⟩
  rcases h6 with h6 | ⟨arow, harow, h6⟩
  · rw [h6] at e
    cases e
  · rw [h6] at e
    simp only [Option.some.injEq, Prod.mk.injEq] at e
    obtain ⟨rfl, rfl⟩ := e
    split at harow
    · simp at harow
    · -- step values are distinct, so the agent rows recorded under this step are those of `sn`
      rw [lastWith_of_nodup_keys (·.steps) _ hnd sn hmem] at harow
      simp only [Option.map_some, Option.getD_some, agentRows] at harow
      obtain ⟨ag, hag, rfl⟩ := List.mem_map.mp harow
      exact ⟨ag, hag, rfl, rfl⟩

/-- The run's last collected state is reported: if the model stepped by hand collected at all, some row
    carries the step label and the model values of its last collection (for every period ≠ 0). -/
theorem C13_last_state_reported (cls : Kwargs κ → Prog) (maxSteps : Nat) (period : Int) (r : Run κ)
    (hT : Total (cls r.kwargs).cfg) (rows : List (BRow κ)) (h : runRows cls maxSteps period r = .ok rows) :
    ∃ k ≤ maxSteps,
      let p := cls r.kwargs
      let snaps := storedSnaps p.cfg (Collect.init p.cfg p.tables) (histOf p k)
      runModel p maxSteps = run p.cfg (Collect.init p.cfg p.tables) (histOf p k) ∧
      ∀ sn, snaps.getLast? = some sn →
        ∃ row ∈ rows, row.step = sn.steps ∧ row.model = p.cfg.mreps.map fun m => m.eval sn := by
  obtain ⟨hp, rfl⟩ := eq_rowsSpec_of_runRows hT h
  refine ⟨_, (runModel_eq_hand (cls r.kwargs) maxSteps).1, runModel_eq_run _ _, fun sn hlast => ?_⟩
  obtain ⟨row, hrow, h1, h2⟩ := rowsOfColl_has_row r sn.steps _ _
  exact ⟨row, rowsSpec_last cls maxSteps hp r sn hlast row hrow, h1, h2⟩

/-- Which collections are reported: every `period`-th one (by position) and always the last; each once. -/
theorem C13_reported_collections (n : Nat) (period : Int) (hp : period ≠ 0) :
    ∃ ps, picks n period = .ok ps ∧ ps.Pairwise (· < ·) ∧
      ∀ i, i ∈ ps ↔ i < n ∧ ((0 < period ∧ i % period.toNat = 0) ∨ i = n - 1) := by
  obtain ⟨ps, h1, h2, h3⟩ := picks_spec n period hp
  exact ⟨ps, h1, h3, h2⟩

/-- `batch_run` calls `_make_model_kwargs` once per iteration.  For re-iterable parameter values (everything C13
    quantifies over: scalars, strings, lists, tuples, ranges, dicts) every call yields the same configurations, so
    the work list is `runList kws iterations` — the one `C13_run_list` describes; an empty list / tuple / set is
    rejected before any model is built (iterations ≥ 1).  (`iterations = 0` runs nothing: `runList kws 0 = []` by
    definition of the loop.) -/
theorem C13_iterations_reiterable (cls : Kwargs κ → Prog) (params : List (Nat × PVal κ)) (n maxSteps : Nat)
    (period : Int) (hre : ∀ p ∈ params, ∀ vs, p.2 ≠ .once vs) :
    (∀ kws, makeKwargs params = .ok kws →
      batchRun cls params n maxSteps period = batchOrder cls maxSteps period (runList kws n)) ∧
    (∀ e, makeKwargs params = .error e → batchRun cls params (n + 1) maxSteps period = .error e) := by
  have hre' : ∀ p ∈ params, p.2.spent = p.2 := fun p hp => PVal.spent_of_not_once (hre p hp)
  refine ⟨?_, ?_⟩
  · intro kws hk
    simp only [batchRun, iterLoop_reiterable params kws hre' hk n 0, runList, Nat.zero_add]
  · intro e he
    simp only [batchRun, iterLoop, he]

/-- Outside the quantifier — what happens with a one-shot iterator (generator, `iter(...)`, `map`) among the parameter
    values: the first call of `_make_model_kwargs` consumes it, every later call finds it empty and yields no
    configuration.  Whatever `iterations ≥ 1` is asked for, the design is run exactly once (iteration 0, RunIds
    `0 … |kws|-1`); the replications are silently missing. -/
theorem C13_oneshot_parameters (cls : Kwargs κ → Prog) (params : List (Nat × PVal κ)) (n maxSteps : Nat)
    (period : Int) (kws : List (Kwargs κ)) (hone : ∃ p ∈ params, ∃ vs, p.2 = .once vs)
    (hk : makeKwargs params = .ok kws) :
    batchRun cls params (n + 1) maxSteps period = batchOrder cls maxSteps period (runList kws 1) := by
  simp only [batchRun, iterLoop_oneshot params kws hk hone n 0, runList]
  simp

/-- With `number_processes > 1` the result is the concatenation of the runs' row lists in completion order
    (`results.extend(data)`; nothing is sorted): for every permutation `order` of a work list with distinct RunIds,
    the rows of each run stay together and in the run's own order, and selecting the rows of RunId `i` out of the
    parallel result gives exactly what the serial run gives — ordering the chunks by RunId restores the serial result. -/
theorem C13_parallel_rows_by_run (cls : Kwargs κ → Prog) (maxSteps : Nat) (period : Int) (hp : period ≠ 0)
    (runs order : List (Run κ)) (h : order.Perm runs) (hnd : (runs.map (·.runId)).Nodup) :
    ∃ rows serial, batchOrder cls maxSteps period order = .ok rows ∧
      batchOrder cls maxSteps period runs = .ok serial ∧
      rows = order.flatMap (runRowsT cls maxSteps period) ∧
      ∀ r ∈ runs, rows.filter (fun b => b.runId == r.runId) = runRowsT cls maxSteps period r ∧
        serial.filter (fun b => b.runId == r.runId) = runRowsT cls maxSteps period r := by
  refine ⟨_, _, batchOrder_total cls maxSteps period hp order, batchOrder_total cls maxSteps period hp runs, rfl, ?_⟩
  intro r hr
  have hnd' : (order.map (·.runId)).Nodup := (List.Perm.map _ h).nodup_iff.mpr hnd
  exact ⟨filter_runId cls maxSteps period order hnd' r (h.mem_iff.mpr hr), filter_runId cls maxSteps period runs hnd r hr⟩

/-- A completion order other than the submission order (`runp … late=j`, what the harness provokes with a slow design
    point): `lateOrder j` hands back the runs of one design point after all the others — it is a permutation of the
    work list, every run with other kwargs precedes every run of the late design point — and the observation made of it
    (`batchRunLate`: the chunks ordered by RunId) is exactly the serial `batchRun`: the rows repeat the parameters of
    their own run whatever the order in which the workers finish. -/
theorem C13_late_completion [DecidableEq κ] (cls : Kwargs κ → Prog) (params : List (Nat × PVal κ))
    (iterations maxSteps : Nat) (period : Int) (hp : period ≠ 0) (j : Nat) :
    (∀ runs : List (Run κ), (lateOrder j runs).Perm runs ∧
      ∀ r, runs[j]? = some r → ∃ a b, lateOrder j runs = a ++ b ∧ (∀ x ∈ a, x.kwargs ≠ r.kwargs) ∧
        (∀ x ∈ b, x.kwargs = r.kwargs) ∧ r ∈ b) ∧
    batchRunLate cls params iterations maxSteps period j = batchRun cls params iterations maxSteps period := by
  refine ⟨fun runs => ⟨lateOrder_perm j runs, fun r hj => ?_⟩, ?_⟩
  · refine ⟨runs.filter (fun x => !(decide (x.kwargs = r.kwargs))), runs.filter (fun x => decide (x.kwargs = r.kwargs)),
      by simp only [lateOrder, hj], fun x hx => ?_, fun x hx => ?_, ?_⟩
    · simpa using (List.mem_filter.mp hx).2
    · simpa using (List.mem_filter.mp hx).2
    · exact List.mem_filter.mpr ⟨List.mem_of_getElem? hj, by simp⟩
  · unfold batchRunLate batchRun
    cases iterLoop iterations 0 params with
    | error e => rfl
    | ok work =>
      simp only [batchOrder_total cls maxSteps period hp]
      rw [byRunId_of_perm cls maxSteps period (lateOrder_perm j (number 0 work))
        ((number_runIds 0 work).trans List.range_eq_range'.symm)]

/-- Degenerate limits (`max_steps = 0`: `runModel p 0` is `construct p` by definition — no step is taken, what is
    reported is what the constructor collected).  A `data_collection_period` at least as large as the number `n` of collections the run made: exactly the first
    and the last collection are reported (once, if they are the same).  A run that never collected: no row. -/
theorem C13_degenerate_limits (n : Nat) (period : Int) :
    (0 < n → (n : Int) ≤ period → picks n period = .ok (if n = 1 then [0] else [0, n - 1])) ∧
    (period ≠ 0 → picks 0 period = .ok []) := by
  refine ⟨?_, ?_⟩
  · intro hn hle
    have hp0 : period ≠ 0 := by omega
    have hneg : ¬ period < 0 := by omega
    have hpn : n ≤ period.toNat := by omega
    unfold picks
    simp only [hp0, if_false, hneg, filter_mod_range n period.toNat hn hpn]
    by_cases h1 : n = 1
    · subst h1
      rfl
    · have hlast : [0].getLast? ≠ some (n - 1) := by
        intro h
        have h0 : 0 = n - 1 := Option.some.inj h
        omega
      rw [if_neg h1, if_pos ⟨by omega, hlast⟩]
      rfl
  · intro hp0
    rw [picks, if_neg hp0]
    split <;> rfl

/-- **`batch_run` itself.**  For a class whose reporters never raise, re-iterable parameter values and a period ≠ 0,
    `batch_run(number_processes=1)` returns exactly the concatenation, over the work list `runList kws iterations`
    (`C13_run_list`: every kwargs dict once per iteration, RunIds `0 … N-1`), of each run's rows `rowsSpec` — the rows
    `C13_run_rows_exact` writes out.  Nothing is dropped, duplicated or reordered. -/
theorem C13_batch_run_exact (cls : Kwargs κ → Prog) (params : List (Nat × PVal κ)) (n maxSteps : Nat) (period : Int)
    (hp : period ≠ 0) (hT : ∀ kw, Total (cls kw).cfg) (hre : ∀ p ∈ params, ∀ vs, p.2 ≠ .once vs)
    (kws : List (Kwargs κ)) (hk : makeKwargs params = .ok kws) :
    batchRun cls params n maxSteps period = .ok ((runList kws n).flatMap (rowsSpec cls maxSteps period)) := by
  rw [(C13_iterations_reiterable cls params n maxSteps period hre).1 kws hk, batchOrder_total cls maxSteps period hp]
  have : ∀ r : Run κ, runRowsT cls maxSteps period r = rowsSpec cls maxSteps period r := by
    intro r
    simp only [runRowsT, runRows_eq_rowsSpec cls maxSteps period hp r (hT r.kwargs)]
  rw [funext this]

/-! non-vacuity: a class that collects at construction and in step and stops early for one parameter value -/
section Example
def exCls (kw : Kwargs Nat) : Prog :=
  let n := (kw.lookup 0).getD 0
  { cfg := { mreps := [.fn fun sn => .ok (.int sn.steps)], areps := [.attr 0], treps := [],
             isAgentClass := fun _ => true, isSub := fun a b => a == b },
    tables := [], init := [.create 0 [(0, .int n)], .collect],
    body := [.aset 1 0 (.int 9), .collect, .stopAt n] }
example : makeKwargs [(0, PVal.sized [1, 5]), (1, PVal.str 7)] = .ok [[(0, 1), (1, 7)], [(0, 5), (1, 7)]] := rfl
example : makeKwargs [(0, PVal.sized ([] : List Nat))] = .error .value := rfl
example : (runList [[(0, 1)], [(0, 5)]] 2).map (fun r => (r.runId, r.iteration, r.kwargs)) =
    [(0, 0, [(0, 1)]), (1, 0, [(0, 5)]), (2, 1, [(0, 1)]), (3, 1, [(0, 5)])] := rfl
example : (batchRun exCls [(0, PVal.sized [1, 5])] 1 3 (-1)).toOption.map (·.map fun b => (b.runId, b.step, b.model, b.agent)) =
    some [(0, 1, [.int 1], some (1, [.int 9])), (1, 3, [.int 3], some (1, [.int 9]))] := by rfl
example : (batchRun exCls [(0, PVal.scalar 5)] 1 3 2).toOption.map (·.map fun b => (b.step, b.agent)) =
    some [(0, some (1, [.int 5])), (2, some (1, [.int 9])), (3, some (1, [.int 9]))] := by decide +kernel
example : (batchRun exCls [(0, PVal.once [1, 5])] 3 3 (-1)).toOption.map (·.map fun b => (b.runId, b.iteration, b.step)) =
    some [(0, 0, 1), (1, 0, 3)] := by decide +kernel
example : (batchRun exCls [(0, PVal.iter [1, 5])] 2 3 (-1)).toOption.map (·.map fun b => (b.runId, b.iteration, b.step)) =
    some [(0, 0, 1), (1, 0, 3), (2, 1, 1), (3, 1, 3)] := by decide +kernel
example : (batchRun exCls [(0, PVal.scalar 5)] 1 0 7).toOption.map (·.map fun b => (b.step, b.agent)) =
    some [(0, some (1, [.int 5]))] := by decide +kernel
example : picks 5 9 = .ok [0, 4] := by rfl
/-! the pinned step count and the written-out rows: the class stops at step `n` (n = 1: one step; n = 5 with
    max_steps 3: three steps); `rowsSpec` of the second run, period 2: collections 0, 2 and the last (3) -/
example : (stepsTaken (exCls [(0, 1)]) 3, stepsTaken (exCls [(0, 5)]) 3, stepsTaken (exCls [(0, 5)]) 0) = (1, 3, 0) := by decide +kernel
example : (rowsSpec exCls 3 2 ⟨1, 0, [(0, 5)]⟩).map (fun b => (b.runId, b.step, b.model, b.agent)) =
    [(1, 0, [.int 0], some (1, [.int 5])), (1, 2, [.int 2], some (1, [.int 9])), (1, 3, [.int 3], some (1, [.int 9]))] := by decide +kernel
example : Total (exCls [(0, 5)]).cfg := by
  refine ⟨fun r hr sn => ?_, fun r hr sn ag => ?_, fun x hx => ?_⟩
  · simp [exCls] at hr
    subst hr
    rfl
  · simp [exCls] at hr
    subst hr
    rfl
  · simp [exCls] at hx
/-! outside the quantifier: a `functools.partial` reporter that raises while attribute 0 is missing, in a model
    whose step swallows the exception of its collect.  The first collect (step 1) leaves `m0 = [1]` and nothing
    else; from then on position `i` of `m0` belongs to collection `i - 1` of `m1`: rows pair the model values of
    two different collections, and the Step label is that of the later one. -/
def exRaise (_ : Kwargs Nat) : Prog :=
  { cfg := { mreps := [.fn fun sn => .ok (.int sn.steps),
                       .part fun sn => match sn.attrs.lookup 0 with | some v => .ok v | none => .error .attr],
             areps := [], treps := [], isAgentClass := fun _ => true, isSub := fun a b => a == b },
    tables := [], init := [], body := [.collect, .mset 0 (.int 7)] }
example : (runModel (exRaise []) 3).modelVars = [[.int 1, .int 2, .int 3], [.int 7, .int 7]] := by decide +kernel
example : (runModel (exRaise []) 3).collSteps = [2, 3] := by decide +kernel
example : (batchRun exRaise ([] : List (Nat × PVal Nat)) 1 3 1).toOption.map (·.map fun b => (b.step, b.model)) =
    some [(2, [.int 1, .int 7]), (3, [.int 2, .int 7])] := by decide +kernel
end Example

end Mesa.Batch
