import MesaModel.Model.Repro
import MesaModel.Gen.RngSites
/-!
# C01 — a seeded run is reproducible  (partial: the logic is proved here, the runtime facts are differential)

`Gen/RngSites.lean` is regenerated from mesa's source on every check run; `C01_no_global_sites` is re-proved
against it, so a new draw from `random.*` / `np.random.*` (or an unseeded networkx generator) breaks a proof
obligation.  The remaining theorems, with the lemmas about `shuffleAux` they need, are about the generator of `Model/Repro.lean`
(a stream of draws and a position in it).
What Lean cannot see — Mersenne Twister, the hash seed, process boundaries — is covered by harness/c01.py.
-/
namespace Mesa.Rng

/-- No stochastic call site in mesa/**/*.py draws from a process-global generator, and none has an
    unclassified receiver: each one draws from a generator handed to it (the model's), or is one of the
    documented `Random()` fallbacks, and every fallback sits in the body of `if <random|rng|seed parameter> is None:`
    (the extractor records this per site), i.e. is taken only when the caller passed no generator. -/
theorem C01_no_global_sites : ∀ s ∈ sites, s.recv = .modelGen ∨ (s.recv = .fallback ∧ s.guarded = true) := by decide +kernel

/-- the generated table is not vacuous -/
theorem C01_sites_nonempty : 20 ≤ sites.length ∧ 5 ≤ siteFiles.length := by decide +kernel

open Mesa.Repro

/-- Hash-order independence of "sort the set, then pick": whatever order the interpreter iterates a set in
    (any permutation), sorting by a total antisymmetric order first makes the pick — and the generator state
    afterwards — the same. -/
theorem C01_sorted_pick_hashorder_independent {α} (le : α → α → Bool)
    (total : ∀ a b, le a b || le b a) (trans : ∀ a b c, le a b → le b c → le a c)
    (antisymm : ∀ a b, le a b → le b a → a = b)
    (l l' : List α) (h : l.Perm l') (g : Gen) : pickSorted le l g = pickSorted le l' g := by
  have hs : l.mergeSort le = l'.mergeSort le := by
    apply List.Perm.eq_of_pairwise (le := fun a b => le a b = true)
    · intro a b _ _ h1 h2
      exact antisymm a b h1 h2
    · exact List.pairwise_mergeSort (fun a b c => trans a b c) total l
    · exact List.pairwise_mergeSort (fun a b c => trans a b c) total l'
    · exact (List.mergeSort_perm l le).trans (h.trans (List.mergeSort_perm l' le).symm)
  simp only [pickSorted, hs]

theorem swapIB_perm {α} (a : Array α) (i j : Nat) : (a.swapIfInBounds i j).Perm a := by
  unfold Array.swapIfInBounds
  split
  · split
    · exact Array.swap_perm _ _
    · exact Array.Perm.refl _
  · exact Array.Perm.refl _

theorem shuffleAux_perm {α} (i : Nat) (a : Array α) (g : Gen) : (shuffleAux i a g).1.Perm a := by
  induction i generalizing a g with
  | zero => simp [shuffleAux]
  | succ i ih =>
    simp only [shuffleAux]
    exact (ih _ _).trans (swapIB_perm _ _ _)

/-- `shuffle` loses and duplicates nobody, for every list and every generator state. -/
theorem C01_shuffle_perm {α} (l : List α) (g : Gen) : (shuffle l g).1.Perm l := by
  have := shuffleAux_perm (l.toArray.size - 1) l.toArray g
  simpa [shuffle, Array.perm_iff_toList_perm] using this

theorem shuffleAux_congr {α} (i : Nat) (a : Array α) (g g' : Gen)
    (h : ∀ k, k < i → g.stream (g.pos + k) = g'.stream (g'.pos + k)) :
    (shuffleAux i a g).1 = (shuffleAux i a g').1 := by
  induction i generalizing a g g' with
  | zero => rfl
  | succ i ih =>
    simp only [shuffleAux, Gen.below]
    have h0 := h 0 (by omega)
    simp only [Nat.add_zero] at h0
    rw [h0]
    apply ih
    intro k hk
    have := h (k+1) (by omega)
    simpa [Nat.add_assoc, Nat.add_comm 1 k] using this

/-- The result of a shuffle is a function of the list and of the draws it consumes only: two generators
    that agree on the next `len-1` draws (e.g. two processes seeded alike, whatever else differs) give the
    same order. -/
theorem C01_shuffle_deterministic {α} (l : List α) (g g' : Gen)
    (h : ∀ k, k < l.length - 1 → g.stream (g.pos + k) = g'.stream (g'.pos + k)) :
    (shuffle l g).1 = (shuffle l g').1 := by
  have := shuffleAux_congr (l.toArray.size - 1) l.toArray g g' (by simpa using h)
  simp only [shuffle, this]

/-- Re-seeding with the remembered seed replays the stream: after `reset`, any number of draws equals the
    draws a freshly seeded generator produces. -/
theorem C01_reseed_replays (stream : Nat → Nat) (g : Gen) (hg : g.stream = stream) (k n : Nat) :
    (g.reset.draws k n).1 = ((Gen.seeded stream).draws k n).1 := by
  have : g.reset = Gen.seeded stream := by
    cases g
    simp_all [Gen.reset, Gen.seeded]
  rw [this]

/-- Every collection derived from a collection carries the generator handle of its source. -/
theorem C01_derived_carry_generator {α} (c : Coll α) (p : α → Bool) (g : Gen) (key : α → Nat) (keys : List Nat) :
    (c.select p).genId = c.genId ∧ (c.shuffled g).1.genId = c.genId ∧
    ∀ grp ∈ c.groups key keys, grp.genId = c.genId := by
  refine ⟨rfl, rfl, ?_⟩
  intro grp hg
  simp only [Coll.groups, List.mem_map] at hg
  obtain ⟨k, _, rfl⟩ := hg
  rfl

/-! non-vacuity -/
example : (shuffle [1, 2, 3, 4, 5] ⟨fun i => [3, 1, 4, 1, 5].getD i 0, 0⟩).1 = [1, 3, 5, 2, 4] := by decide +kernel
example : ∀ a b : Int, (decide (a ≤ b) || decide (b ≤ a)) = true := by
  intro a b
  simp only [Bool.or_eq_true, decide_eq_true_eq]
  omega

end Mesa.Rng
