import MesaModel.Proofs.Signals
/-!
# C18 (signals part) — a rejected call on a `HasObservables` changes nothing

Lemmas for the C18 assembly.  `step` is the C16 state machine of `Model/Signals.lean`; its state is the whole
observable state of the instance: subscriber table, handler liveness, Observable values, list contents.
-/
namespace Mesa.Signals

/-- Any operation of the signals state machine that raises — `observe` with an unknown name or signal type
    (`ValueError`), `unobserve` of an unknown name with `All()` (`KeyError`), `pop` / `del` / `[]=` out of range
    (`IndexError`), `remove` of an absent value (`ValueError`), an extended slice with step 0 or the wrong number of items
    (`ValueError`), a list operation on a list that was never
    assigned (`AttributeError`) — leaves the state exactly as it was and delivers nothing. -/
theorem C18_signals_reject_unchanged (s s' : St) (op : Op) (e : Err) (h : step s op = (s', .err e)) :
    s' = s ∧ emitted s op = [] := by
  rcases step_out s op with h' | ⟨e', h', hem⟩
  · rw [h] at h'
    cases h'
  · rw [h'] at h
    injection h with h1 _
    exact ⟨h1.symm, hem⟩

/-- `observe` that is rejected (unknown observable, or a signal type one of the selected observables does not
    emit — e.g. `observe(All(), "append", h)` on a class that also has a plain `Observable`) leaves the
    subscriber table and everything else unchanged (G1 repaired: validation happens before any subscription). -/
theorem C18_signals_observe_reject_unchanged (s s' : St) (n : Sel Nat) (t : Sel SigType) (h : Nat) (e : Err)
    (hr : step s (.observe n t h) = (s', .err e)) : s' = s :=
  (C18_signals_reject_unchanged s s' _ e hr).1

/-- … and such a rejection happens exactly for the invalid calls, always as `ValueError`. -/
theorem C18_signals_observe_rejects_exactly {s : St} (w : s.reg.WF) (n : Sel Nat) (t : Sel SigType) (h : Nat) :
    (∃ e, (step s (.observe n t h)).2 = .err e) ↔ ¬ Reg.validObserve s.reg n t := by
  by_cases hv : Reg.validObserve s.reg n t
  · simp [step, Reg.observe_ok w hv, hv]
  · simp [step, Reg.observe_err hv, hv]

/-- The later behaviour is as if the rejected call had never been made: deleting a rejected call from a
    history changes neither the final state nor the outputs of the other operations. -/
theorem C18_signals_rejected_calls_can_be_deleted (s : St) (ops : List Op) :
    ∀ (op : Op) (ops' : List Op), (∃ e, (step (run s ops).1 op).2 = .err e) →
      (run s (ops ++ op :: ops')).1 = (run s (ops ++ ops')).1 ∧
      (run (run s ops).1 (op :: ops')).2.tail = (run (run s ops).1 ops').2 := by
  intro op ops' ⟨e, he⟩
  have hst : step (run s ops).1 op = ((run s ops).1, .err e) := by
    have := C18_signals_reject_unchanged (run s ops).1 (step (run s ops).1 op).1 op e (by rw [← he])
    exact Prod.ext this.1 he
  refine ⟨?_, ?_⟩
  · rw [(run_append s ops (op :: ops')).1, (run_append s ops ops').1, run_cons, hst]
  · rw [run_cons, hst]
    rfl

/-- non-vacuity: the G1 witness — `observe(All(), "insert", h)` on a class with a list and an Observable -/
example : (step (init [⟨1, .lst, [.insert, .remove, .change, .append, .replace]⟩, ⟨0, .obs, [.change]⟩])
    (.observe .all (.one .insert) 1)).2 = .err .value := by decide +kernel

end Mesa.Signals
