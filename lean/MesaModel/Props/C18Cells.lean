import MesaModel.Props.C06
/-!
# C18 (cell spaces) — a placing / moving call that raises leaves the state unchanged

Lemmas for the C18 assembly.  "Placing calls" (`Op.placing`): `a.cell = c` / `a.cell = None` for
CellAgents, Grid2DMovingAgents and FixedAgents, `move_to`, `move_relative`, `Grid2DMovingAgent.move`.
They are rejected with: `Full` (target cell full — S11, S12), `NoCell` (no cell in that direction, also
after j steps of a k-step move — S13), `Fixed` (second cell for a FixedAgent), `Value` (unknown direction
name), `Attr` (the agent has no cell / its class lacks the method), `Key` (coordinate is no cell),
`NoAgent`.  The state compared is the *whole* model state: every cell's agent list (with order), every
`empty` flag, every agent's cell, the registry, the search strategy.
`Inv sp s` holds at every reachable state (`C06_invariant_all_histories`).
-/
namespace Mesa.Cells

/-- `a.cell = …` (CellAgent, Grid2DMovingAgent: S11; FixedAgent: S12) that raises changes nothing. -/
theorem C18_cells_setCell_reject_unchanged {sp : Space} {s : State} (h : Inv sp s) (a : Aid) (tgt : Option Cid)
    {e : Err} (he : (step sp s (.setCell a tgt)).2 = .err e) : (step sp s (.setCell a tgt)).1 = s :=
  step_reject_unchanged h _ rfl he

/-- `a.move_to(c)` that raises changes nothing. -/
theorem C18_cells_moveTo_reject_unchanged {sp : Space} {s : State} (h : Inv sp s) (a : Aid) (c : Cid)
    {e : Err} (he : (step sp s (.moveTo a c)).2 = .err e) : (step sp s (.moveTo a c)).1 = s :=
  step_reject_unchanged h _ rfl he

/-- `a.move_relative(d)` that raises (no cell in that direction, or the cell there is full) changes nothing. -/
theorem C18_cells_moveRelative_reject_unchanged {sp : Space} {s : State} (h : Inv sp s) (a : Aid) (d : Key)
    {e : Err} (he : (step sp s (.moveRel a d)).2 = .err e) : (step sp s (.moveRel a d)).1 = s :=
  step_reject_unchanged h _ rfl he

/-- `Grid2DMovingAgent.move(dir, k)` that raises — unknown direction, running off the space after any number
    of the k steps (S13), destination full — changes nothing. -/
theorem C18_cells_gridMove_reject_unchanged {sp : Space} {s : State} (h : Inv sp s) (a : Aid) (dir : String)
    (k : Int) {e : Err} (he : (step sp s (.gridMove a dir k)).2 = .err e) :
    (step sp s (.gridMove a dir k)).1 = s :=
  step_reject_unchanged h _ rfl he

def trace (sp : Space) (s : State) : List Op → List Res
  | [] => []
  | op :: ops => (step sp s op).2 :: trace sp (step sp s op).1 ops

/-- At every state reachable by any history, a placing call that raises can be deleted from the history:
    the final state and all later outputs are those of the history without it. -/
theorem C18_cells_rejected_call_is_noop {sp : Space} (hsp : SpaceOK sp) {s : State} (hr : Reachable sp s)
    (op : Op) (hp : op.placing = true) {e : Err} (he : (step sp s op).2 = .err e) (later : List Op) :
    run sp s (op :: later) = run sp s later ∧ trace sp s (op :: later) = .err e :: trace sp s later := by
  have hs := step_reject_unchanged (reachable_inv hsp hr) op hp he
  simp only [run, trace, hs, he]
  exact ⟨trivial, trivial⟩

def dtrace (sp : Space) (s : State) : List DOp → List Res
  | [] => []
  | o :: os => (dstep sp s o).2 :: dtrace (dstep sp s o).1.1 (dstep sp s o).1.2 os

/-- The same with connection edits among the later operations (`Cell.connect` / `Cell.disconnect`): deleting the rejected
    call changes neither the final space and state nor any later output. -/
theorem C18_cells_rejected_call_is_noop_with_edits {sp : Space} (hsp : SpaceOK sp) {s : State} (hr : Reachable sp s)
    (op : Op) (hp : op.placing = true) {e : Err} (he : (step sp s op).2 = .err e) (later : List DOp) :
    drun sp s (.op op :: later) = drun sp s later ∧ dtrace sp s (.op op :: later) = .err e :: dtrace sp s later := by
  have hs := step_reject_unchanged (reachable_inv hsp hr) op hp he
  simp only [drun, dtrace, dstep, hs, he]
  exact ⟨trivial, trivial⟩

/-! ### non-vacuity: each rejection occurs (the S11 / S12 / S13 witnesses on the repaired semantics) -/

private def g : Space := gridSpace .moore [3, 3] false (some 1)
private def pre : List Op :=
  [.new .cell, .new .fixed, .new .grid2d, .new .fixed, .setCell 0 (some [0, 0]), .setCell 1 (some [1, 1]),
   .setCell 2 (some [2, 0])]
private def st : State := run g (init g) pre
example : Inv g st := C06_invariant_all_histories (gridSpace_ok _ _ _ _ (by simp)) pre
example : (step g st (.setCell 0 (some [1, 1]))).2 = .err .full := by decide +kernel          -- S11
example : (step g st (.setCell 3 (some [1, 1]))).2 = .err .full := by decide +kernel          -- S12
example : (step g st (.setCell 1 (some [2, 2]))).2 = .err .fixed := by decide +kernel
example : (step g st (.gridMove 2 "up" 5)).2 = .err .noCell := by decide +kernel               -- S13 (3rd step)
example : (step g st (.gridMove 2 "NE" 1)).2 = .err .full := by decide +kernel
example : (step g st (.moveRel 0 [-1, 0])).2 = .err .noCell := by decide +kernel
example : (step g st (.gridMove 2 "up" 2)).2 = .err .full := by decide +kernel               -- destination occupied
example : (step g st (.gridMove 2 "e" 2)).2 = .ok ∧ (step g st (.gridMove 2 "e" 2)).1.cellOf 2 = some [2, 2] := by
  decide +kernel

-- … and with a connection edit after the rejected call: the edit and the later move behave as if the call had never been made
example : (drun g st [.op (.setCell 0 (some [1, 1])), .connect [0, 0] [2, 2] (some [5, 5]), .op (.moveRel 0 [5, 5])]).2.cellOf 0 = some [2, 2] ∧
    (drun g st [.connect [0, 0] [2, 2] (some [5, 5]), .op (.moveRel 0 [5, 5])]).2.cellOf 0 = some [2, 2] ∧
    dtrace g st [.op (.setCell 0 (some [1, 1])), .connect [0, 0] [2, 2] (some [5, 5]), .op (.moveRel 0 [5, 5])] = [.err .full, .ok, .ok] := by
  decide +kernel

end Mesa.Cells
