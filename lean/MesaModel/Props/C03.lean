import MesaModel.Proofs.AgentSetHist
/-!
# C03 — AgentSet behaves as an ordered set and its queries match list semantics

The property theorems, with their non-vacuity examples, and the two readings of `map` by name they compare (`MapFn.named`,
`callOnClass`); model: `Model/AgentSet.lean`; helper lemmas: `Proofs/ListOps.lean`, `Proofs/AgentSet.lean`,
`Proofs/AgentSetAlg.lean` (inherited mixin methods), `Proofs/AgentSetHist.lean` (histories `SOp` / `applyOp`).  The first group is about the list functions that mirror the code of each method
(for every element type, every list, every predicate / key / script); the second group is about the
store of named sets (`Store`), i.e. about in-place versus copying forms and about histories.

`select(at_most = <float f ≤ 1.0>)`: the code turns `f` into the count `int(len(self) * f)` with IEEE
double arithmetic.  The theorems take that count `k` as a parameter (`AtMost.count k`); that `k` is the
floor of the real product is **not** claimed (it fails at IEEE ties such as `int(49 * (1/49)) = 0`);
the driver recomputes `k` with Lean's `Float` and the correspondence check compares it with CPython's.
-/
namespace Mesa.ASet

/-! ## list semantics of each method -/

/-- `select`: the generator loop of the code returns exactly the first `k` members that pass the filter,
    in order (`k` = the int `at_most`, or the count derived from a fraction); without a limit, exactly
    the members that pass the filter, in order. -/
theorem C03_select_is_filter_take {α : Type} (p : α → Bool) (l : List α) :
    (∀ k, selectGo p (some k) l 0 = (l.filter p).take k) ∧ selectGo p none l 0 = l.filter p :=
  ⟨fun k => by simpa using selectGo_some p k l 0, selectGo_none p l 0⟩

/-- `at_most` is an upper limit only: a limit at least the size of the set (e.g. the fraction 1.0, whose
    count is the size) selects every member that passes the filter; a limit 0 selects nobody. -/
theorem C03_select_limit_bounds {α : Type} (p : α → Bool) (l : List α) (k : Nat) :
    (l.length ≤ k → selectGo p (some k) l 0 = l.filter p) ∧ selectGo p (some 0) l 0 = [] := by
  refine ⟨fun h => ?_, ?_⟩
  · rw [(C03_select_is_filter_take p l).1 k]
    exact List.take_of_length_le (Nat.le_trans (List.length_filter_le _ _) h)
  · rw [(C03_select_is_filter_take p l).1 0]
    rfl

/-- `sort`: a permutation of the members (nobody lost or duplicated), ordered by the key — ascending or
    descending as asked — and stable: members with equal keys keep their original relative order, in both
    directions (what `sorted(..., reverse=True)` does). -/
theorem C03_sort_perm_ordered_stable {α : Type} (key : α → Int) (asc : Bool) (l : List α) :
    (sortL key asc l).Perm l ∧
    (sortL key asc l).Pairwise (fun a b => if asc then key a ≤ key b else key b ≤ key a) ∧
    ∀ v, (sortL key asc l).filter (fun a => key a = v) = l.filter (fun a => key a = v) := by
  refine ⟨sortL_perm key asc l, ?_, sortL_stable key asc l⟩
  refine (sortL_sorted key asc l).imp ?_
  intro a b h
  unfold sortLe at h
  cases asc <;> simpa using h

/-- `shuffle`: for every list and every state of the generator the result is a permutation of the
    members — it loses nobody and duplicates nobody — and consumes draws depending on the size only. -/
theorem C03_shuffle_is_permutation {α : Type} (l : List α) (g : Rng) :
    (Rng.shuffle l g).1.Perm l ∧ ((Rng.shuffle l g).1.Nodup ↔ l.Nodup) ∧
    ∀ {β : Type} (m : List β), m.length = l.length → (Rng.shuffle m g).2 = (Rng.shuffle l g).2 :=
  ⟨Rng.shuffle_perm l g, Rng.shuffle_nodup l g, fun m h => Rng.shuffle_rng_length m l g h⟩

/-- `groupby`: the group keys are the distinct key values in order of first occurrence; the group of a
    key is exactly the members with that key, in set order; the groups partition the members. -/
theorem C03_groupby_partitions_in_order {κ α : Type} [DecidableEq κ] (key : α → κ) (l : List α) :
    (groupBy key l).map (·.1) = dedup (l.map key) ∧
    (∀ kg ∈ groupBy key l, kg.2 = l.filter (fun x => key x = kg.1) ∧ kg.2 ≠ []) ∧
    ((groupBy key l).map (·.1)).Nodup ∧
    ((groupBy key l).map (·.2)).flatten.Perm l := by
  refine ⟨?_, ?_, ?_, groupBy_flatten_perm key l⟩
  · rw [groupBy_eq]
    simp [Function.comp_def]
  · intro kg hkg
    rw [groupBy_eq] at hkg
    obtain ⟨k, hk, rfl⟩ := List.mem_map.mp hkg
    refine ⟨rfl, ?_⟩
    rw [mem_dedup] at hk
    obtain ⟨x, hx, hxk⟩ := List.mem_map.mp hk
    intro hnil
    have : x ∈ l.filter (fun x => key x = k) := by simp [hx, hxk]
    simp only at hnil
    rw [hnil] at this
    simp at this
  · rw [groupBy_eq]
    simp [Function.comp_def]
    exact nodup_dedup _

/-- `AgentSet(agents)`: an ordered set — first occurrences, in order, no duplicates, same members. -/
theorem C03_constructor_is_ordered_set {α : Type} [DecidableEq α] (l : List α) :
    (dedup l).Nodup ∧ (∀ x, x ∈ dedup l ↔ x ∈ l) ∧ (l.Nodup → dedup l = l) :=
  ⟨nodup_dedup l, fun _ => mem_dedup, dedup_of_nodup⟩

/-! ## the operators and methods inherited from `collections.abc` (`Set`, `MutableSet`, `Sequence`) -/

/-- `a | b`, `a & b`, `a - b`, `a ^ b` (`b` an AgentSet or any iterable of agents, duplicates allowed) are the
    set operations — exactly the right members, nobody twice — and their order is fixed: the union lists `a`
    first and then the new members of `b` in `b`'s order; the difference keeps `a`'s order; the symmetric
    difference lists what only `a` has, then what only `b` has; the intersection takes **`b`'s** order (the
    mixin iterates the right operand). -/
theorem C03_set_algebra_members_and_order {α : Type} [DecidableEq α] (l m : List α) (hl : l.Nodup) :
    (∀ x, (x ∈ unionL l m ↔ x ∈ l ∨ x ∈ m) ∧ (x ∈ interL l m ↔ x ∈ l ∧ x ∈ m) ∧
          (x ∈ diffL l m ↔ x ∈ l ∧ x ∉ m) ∧ (x ∈ xorL l m ↔ (x ∈ l ∧ x ∉ m) ∨ (x ∈ m ∧ x ∉ l))) ∧
    ((unionL l m).Nodup ∧ (interL l m).Nodup ∧ (diffL l m).Nodup ∧ (xorL l m).Nodup) ∧
    unionL l m = l ++ (dedup m).filter (fun x => x ∉ l) ∧
    interL l m = (dedup m).filter (fun x => x ∈ l) ∧
    diffL l m = l.filter (fun x => x ∉ m) ∧
    xorL l m = l.filter (fun x => x ∉ m) ++ (dedup m).filter (fun x => x ∉ l) := by
  refine ⟨fun x => ⟨mem_unionL, mem_interL, mem_diffL, mem_xorL⟩,
    ⟨nodup_dedup _, nodup_dedup _, nodup_dedup _, nodup_dedup _⟩, ?_, interL_eq l m, ?_, ?_⟩
  · rw [unionL_eq, dedup_of_nodup hl]
  · rw [diffL_eq, dedup_of_nodup hl]
  · rw [xorL_eq, dedup_of_nodup hl]

/-- The comparison operators between two AgentSets are the subset order on members and ignore the order of
    the members: `<=` is inclusion, `<` strict inclusion, `>=` / `>` their mirror images, `==` holds exactly
    when one set is a reordering of the other (so a shuffled or sorted copy equals its source), `isdisjoint`
    exactly when no member is shared. -/
theorem C03_comparisons_are_subset_order {α : Type} [DecidableEq α] (l m : List α) (hl : l.Nodup) (hm : m.Nodup) :
    (leL l m = true ↔ l ⊆ m) ∧ (ltL l m = true ↔ l ⊆ m ∧ ¬ m ⊆ l) ∧
    geL l m = leL m l ∧ gtL l m = ltL m l ∧
    (eqL l m = true ↔ l.Perm m) ∧ (eqL l m = true ↔ leL l m = true ∧ leL m l = true) ∧
    (disjointL l m = true ↔ ∀ x, x ∈ l → x ∉ m) := by
  refine ⟨leL_iff hl, ltL_iff hl hm, rfl, rfl, eqL_iff hl hm, ?_, disjointL_iff l m⟩
  rw [eqL_iff hl hm, leL_iff hl, leL_iff hm, List.perm_ext_iff_of_nodup hl hm]
  exact ⟨fun h => ⟨fun x hx => (h x).mp hx, fun x hx => (h x).mpr hx⟩, fun h a => ⟨fun ha => h.1 ha, fun ha => h.2 ha⟩⟩

/-- The in-place operators leave the set equal to what the copying operator returns — `a |= b` as `a | b`,
    `a -= b` as `a - b`, `a ^= b` as `a ^ b`, member for member and in the same order — with one exception in
    the order only: `a &= b` keeps `a`'s order where `a & b` takes `b`'s (same members).  `a -= a` and
    `a ^= a` take the `it is self` branch (`clear()`), which is also what `a - a` and `a ^ a` give. -/
theorem C03_inplace_operators_match_copying {α : Type} [DecidableEq α] (l m : List α) (hl : l.Nodup) :
    iorL l m = unionL l m ∧ isubL l m false = diffL l m ∧ ixorL l m false = xorL l m ∧
    iandL l m = l.filter (fun x => x ∈ m) ∧ (iandL l m).Perm (interL l m) ∧
    (isubL l m true = [] ∧ ixorL l m true = [] ∧ diffL l l = [] ∧ xorL l l = []) := by
  refine ⟨iorL_eq_unionL hl, isubL_eq_diffL hl m, ixorL_eq_xorL hl m, iandL_eq_filter hl m, ?_, ?_⟩
  · rw [iandL_eq_filter hl m]
    have hn : (interL l m).Nodup := nodup_dedup _
    refine (List.perm_ext_iff_of_nodup (hl.sublist List.filter_sublist) hn).mpr (fun a => ?_)
    simp [mem_interL]
  · have hd : diffL l l = [] := by
      rw [diffL_eq, List.filter_eq_nil_iff]
      intro a ha
      simpa [mem_dedup] using ha
    refine ⟨by simp [isubL, clearL_eq_nil], by simp [ixorL, clearL_eq_nil], hd, ?_⟩
    rw [xorL_eq]
    have h1 : (dedup l).filter (fun x => x ∉ l) = [] := by
      rw [List.filter_eq_nil_iff]
      intro a ha
      simpa [mem_dedup] using ha
    rw [h1]
    rfl

/-- `index`, `count` and `reversed` read the same member list as iteration and `[]`: `index(a)` is the
    position at which `[]` finds `a` (the first one; the only one in a set) and raises `ValueError` exactly for
    a non-member; with `start` / `stop` it is the first such position inside the range (negative bounds count
    from the end, as in slices) ; `count` is 1 for a member and 0 otherwise; `reversed` is the members last to
    first. -/
theorem C03_index_count_reversed_agree {α : Type} [DecidableEq α] (l : List α) (v : α) :
    (indexL l v 0 none = none ↔ v ∉ l) ∧
    (∀ i, indexL l v 0 none = some i ↔ l[i]? = some v ∧ ∀ j, j < i → l[j]? ≠ some v) ∧
    (l.Nodup → ∀ i, indexL l v 0 none = some i ↔ l[i]? = some v) ∧
    (∀ (start : Int) (stop : Option Int) (i : Nat),
      let n : Int := l.length
      let lo : Nat := (if start < 0 then max (n + start) 0 else start).toNat
      indexL l v start stop = some i ↔
        lo ≤ i ∧ l[i]? = some v ∧ (∀ j, lo ≤ j → j < i → l[j]? ≠ some v) ∧
        ∀ s, stop = some s → (i : Int) < (if s < 0 then s + n else s)) ∧
    (l.Nodup → countL l v = if v ∈ l then 1 else 0) ∧
    reversedL l = l.reverse := by
  have h0 : ∀ i, indexL l v 0 none = some i ↔ l[i]? = some v ∧ ∀ j, j < i → l[j]? ≠ some v :=
    fun i => by
      simpa only [indexL, Option.map_none, Int.lt_irrefl, ↓reduceIte, Int.toNat_zero, List.drop_zero, ne_eq, Nat.zero_le,
        forall_const, reduceCtorEq, false_implies, implies_true, and_true, true_and] using indexGo_drop v none l 0 i
  refine ⟨?_, h0, ?_, fun start stop i => ?_, ?_, rfl⟩
  · simpa [indexL] using indexGo_none_iff v l 0
  · intro hn i
    rw [h0]
    refine ⟨fun h => h.1, fun h => ⟨h, fun j hj hj' => ?_⟩⟩
    have hi := (List.getElem?_eq_some_iff.mp h)
    have hj2 := (List.getElem?_eq_some_iff.mp hj')
    obtain ⟨hi1, hi2⟩ := hi
    obtain ⟨hj1, hj2⟩ := hj2
    have := (List.getElem_inj (h₀ := hj1) (h₁ := hi1) hn).mp (hj2.trans hi2.symm)
    omega
  · intro n lo
    show indexGo v (stop.map fun s => if s < 0 then s + n else s) (l.drop lo) lo = some i ↔ _
    rw [indexGo_drop]
    cases stop with
    | none => simp only [ne_eq, Option.map_none, reduceCtorEq, false_implies, implies_true, and_true]
    | some s => simp only [ne_eq, Option.map_some, Option.some.injEq, forall_eq']
  · intro hn
    unfold countL
    exact hn.count

/-! ## the store: ordered-set operations, in-place versus copy, histories -/

/-- `add` of a member and `discard` of a non-member change nothing; `add` of a non-member appends it;
    `remove` of a non-member raises `KeyError` (and, being an error, leaves the store as it was). -/
theorem C03_add_discard_remove (st : Store) (s : Nat) (a : Nat) (hs : s < st.sets.length) :
    (a ∈ st.get s → add st s a = st) ∧
    (a ∉ st.get s → discard st s a = st ∧ remove st s a = .error .key) ∧
    (a ∉ st.get s → (add st s a).get s = st.get s ++ [a]) ∧
    (a ∈ st.get s → remove st s a = .ok (discard st s a)) := by
  have hset := set_get_self st s hs
  refine ⟨fun h => ?_, fun h => ⟨?_, ?_⟩, fun h => ?_, fun h => ?_⟩
  · simp only [add, addKey_of_mem h, hset]
  · have : (st.get s).erase a = st.get s := List.erase_eq_self_iff.mpr h
    simp only [discard, this, hset]
  · simp [remove, h]
  · simp only [add]
    rw [get_set_self st s _ hs, addKey_of_not_mem h]
  · simp [remove, h]

/-- On the store: an operator expression always builds a *new* AgentSet (by `_from_iterable`, i.e. with the
    set's generator) and alters neither operand nor any other set, no attribute and not the generator's state;
    an in-place operator touches the left operand only; `pop()` removes and returns the member `[0]` returns
    (it is `discard` of that member), raises `KeyError` on an empty set; `clear()` empties the set and nothing else. -/
theorem C03_operators_pop_clear_on_the_store (st : Store) (h : st.WF) (s : Nat) (hs : s < st.sets.length) :
    (∀ op o, let r := setop st op s o
      r.2 = st.sets.length ∧ r.1.get r.2 = op.eval (st.get s) (st.other o) ∧
      (∀ j, j < st.sets.length → r.1.get j = st.get j) ∧ r.1.pop = st.pop ∧ r.1.rng = st.rng) ∧
    (∀ op o, let st' := isetop st op s o
      st'.get s = isetopL (st.get s) (st.other o) (decide (o = .set s)) op ∧
      (∀ j, j ≠ s → st'.get j = st.get j) ∧ st'.pop = st.pop ∧ st'.rng = st.rng) ∧
    (st.get s = [] → pop st s = .error .key) ∧
    (∀ st' a, pop st s = .ok (st', a) →
      item st s 0 = .ok a ∧ st' = discard st s a ∧ len st' s + 1 = len st s ∧ contains st' s a = false) ∧
    (clear st s).get s = [] ∧ (∀ j, j ≠ s → (clear st s).get j = st.get j) := by
  refine ⟨fun op o => ?_, fun op o => ⟨get_set_self st s _ hs, fun j hj => get_set_other st s j _ hj, rfl, rfl⟩,
    fun he => by simp [pop, he, popL], ?_, ?_, fun j hj => get_set_other st s j _ hj⟩
  · refine ⟨by simp [setop, Store.put], by simp [setop, Store.put, Store.get], fun j hj => ?_, rfl, rfl⟩
    simp [setop, Store.put, Store.get, List.getElem?_append_left hj]
  · intro st' a hp
    unfold pop at hp
    cases hl : st.get s with
    | nil => simp [hl, popL] at hp
    | cons b rest =>
      simp only [hl, popL, Except.ok.injEq, Prod.mk.injEq] at hp
      obtain ⟨rfl, rfl⟩ := hp
      have hn := Store.get_nodup h s
      rw [hl] at hn
      refine ⟨by simp [item, pyIndex, hl], by simp [discard, hl], ?_, ?_⟩
      · simp [len, get_set_self st s _ hs, hl]
      · simp only [contains, get_set_self st s _ hs]
        simpa using (List.nodup_cons.mp hn).1
  · rw [clear, get_set_self st s _ hs, clearL_eq_nil]

/-- A member that dies (removed from its model, no reference left in the program) is gone from **every** set
    at once — the set it was first put in and every set derived from it — and nothing else changes: each set
    keeps its other members in their order, no set gains a member, attributes and generator are untouched,
    sets stay duplicate-free. -/
theorem C03_dead_member_leaves_every_set (st : Store) (h : st.WF) (a : Nat) :
    (kill st a).sets.length = st.sets.length ∧
    (∀ s, (kill st a).get s = (st.get s).filter (· ≠ a)) ∧ (∀ s, a ∉ (kill st a).get s) ∧
    (kill st a).WF ∧ (kill st a).pop = st.pop ∧ (kill st a).rng = st.rng := by
  have hget : ∀ s, (kill st a).get s = (st.get s).filter (· ≠ a) := by
    intro s
    simp only [kill, Store.get, List.getElem?_map]
    cases hs : st.sets[s]? with
    | none => simp
    | some l =>
      have hn := h l (List.mem_of_getElem? hs)
      simp only [Option.map_some, Option.getD_some]
      rw [hn.erase_eq_filter]
      apply List.filter_congr
      intro x _
      by_cases hx : x = a <;> simp [hx]
  refine ⟨by simp [kill], hget, fun s => by rw [hget]; simp, applyOp_wf h (.kill a), rfl, rfl⟩

/-- length, iteration, membership and indexing agree: all four read the one member list. -/
theorem C03_len_iter_contains_getitem_agree (st : Store) (s : Nat) :
    len st s = (st.get s).length ∧ (∀ a, contains st s a = true ↔ a ∈ st.get s) ∧
    (∀ (i : Nat) a, item st s i = .ok a ↔ (st.get s)[i]? = some a) ∧
    (∀ (i : Nat), (st.get s).length ≤ i → item st s i = .error .index) := by
  refine ⟨rfl, fun a => by simp [contains], fun i a => ?_, fun i h => ?_⟩
  · simp only [item, pyIndex, Int.natCast_nonneg, if_true, Int.toNat_natCast]
    cases h : (st.get s)[i]? <;> simp
  · simp only [item, pyIndex, Int.natCast_nonneg, if_true, Int.toNat_natCast]
    rw [List.getElem?_eq_none h]

/-- No history of set operations ever makes a set list a member twice: starting from sets without
    duplicates, after any sequence of `AgentSet(...)`, `select`, `shuffle`, `sort`, `groupby`, `set`, `add`,
    `discard`, `remove`, `|` `&` `-` `^` and their in-place forms (with sets or with plain iterables that repeat
    agents), `pop`, `clear`, and deaths of members (in place or copying, on original or derived sets, raising or
    not) every set is duplicate-free. -/
theorem C03_no_duplicates_all_histories (st : Store) (h : st.WF) (ops : List SOp) :
    (ops.foldl applyOp st).WF :=
  foldl_inv h fun _ h op _ => applyOp_wf h op

/-- The in-place form leaves the set equal to what the copying form returns, and the copying form never
    alters the original — nor any other existing set: for `select`, `sort` (when the key exists) and
    `shuffle`, the set named by the in-place result equals the set named by the copying result; after the
    copying form every existing set reads as before; after the in-place form every *other* set does. -/
theorem C03_inplace_equals_copy_and_copy_preserves (st : Store) (s : Nat) (hs : s < st.sets.length) :
    (∀ p t a, let ri := select st s p t a true; let rc := select st s p t a false
      ri.2 = s ∧ rc.2 = st.sets.length ∧ ri.1.get ri.2 = rc.1.get rc.2 ∧
      (∀ j, j < st.sets.length → rc.1.get j = st.get j) ∧ (∀ j, j ≠ s → ri.1.get j = st.get j)) ∧
    (∀ key asc ri rc, sort st s key asc true = .ok ri → sort st s key asc false = .ok rc →
      ri.2 = s ∧ rc.2 = st.sets.length ∧ ri.1.get ri.2 = rc.1.get rc.2 ∧
      (∀ j, j < st.sets.length → rc.1.get j = st.get j) ∧ (∀ j, j ≠ s → ri.1.get j = st.get j)) ∧
    (let ri := shuffle st s true; let rc := shuffle st s false
      ri.2 = s ∧ rc.2 = st.sets.length ∧ ri.1.get ri.2 = rc.1.get rc.2 ∧
      (∀ j, j < st.sets.length → rc.1.get j = st.get j) ∧ (∀ j, j ≠ s → ri.1.get j = st.get j)) := by
  have key : ∀ (st' : Store) (l : List Nat), st'.sets = st.sets →
      (st'.put s true l).2 = s ∧ (st'.put s false l).2 = st.sets.length ∧
      (st'.put s true l).1.get (st'.put s true l).2 = (st'.put s false l).1.get (st'.put s false l).2 ∧
      (∀ j, j < st.sets.length → (st'.put s false l).1.get j = st.get j) ∧
      (∀ j, j ≠ s → (st'.put s true l).1.get j = st.get j) := by
    intro st' l he
    refine ⟨rfl, by simp [Store.put, he], ?_, ?_, ?_⟩
    · simp [Store.put, Store.get, he, hs]
    · intro j hj
      simp [Store.put, Store.get, he, List.getElem?_append_left hj]
    · intro j hj
      simp [Store.put, Store.get, he, Ne.symm hj]
  refine ⟨fun p t a => key st _ rfl, ?_, key { st with rng := _ } _ rfl⟩
  intro k asc ri rc h1 h2
  unfold sort at h1 h2
  cases hk : keysOf st k (st.get s) with
  | none => simp [hk] at h1
  | some ks =>
    simp only [hk, Except.ok.injEq] at h1 h2
    subst h1
    subst h2
    exact key st _ rfl

/-- `get`, `set`, `agg`, `map` return what the same operation on the ordered member list would:
    `get` is the list of attribute rows in member order (`handle_missing="error"` raises iff some member
    lacks an attribute, `"default"` fills in the default, anything else is a `ValueError`); `agg` applies the
    function to the value list; `map` maps over the members in order; `set` touches attributes only —
    no set changes, nobody is added or lost. -/
theorem C03_get_set_agg_map_list_semantics (st : Store) (s : Nat) (k : Nat) :
    (∀ ks, (allPresent st s ks = true →
        get st s ks .error = .ok ((st.get s).map fun i => ks.map fun k => (st.agent i).attr k)) ∧
      (allPresent st s ks = false → get st s ks .error = .error .attr) ∧
      (∀ d, get st s ks (.default d) =
        .ok ((st.get s).map fun i => ks.map fun k => ((st.agent i).attr k).or d)) ∧
      get st s ks .bogus = .error .value) ∧
    (∀ vs, (st.get s).mapM (fun i => (st.agent i).attr k) = some vs →
        agg st s k .sum = .ok vs.sum ∧ agg st s k .len = .ok vs.length ∧
        map st s (.dbl k) = .ok (vs.map (· * 2 + 1)) ∧ ∀ d, map st s (.plus k d) = .ok (vs.map (· + d))) ∧
    (∀ v, (setAttr st s k v).pop.map (·.id) = st.pop.map (·.id) ∧ (setAttr st s k v).sets = st.sets ∧
        ∀ a ∈ (setAttr st s k v).pop, a.id ∈ st.get s → a.attr k = some v) := by
  have hrows : ∀ ks d, rowsOf st s ks d = (st.get s).map fun i => ks.map fun k => ((st.agent i).attr k).or d := by
    intro ks d
    simp only [rowsOf]
    congr 1
    funext i
    congr 1
    funext k
    cases (st.agent i).attr k <;> rfl
  refine ⟨fun ks => ⟨fun h => ?_, fun h => ?_, fun d => ?_, rfl⟩, fun vs h => ⟨?_, ?_, ?_, fun d => ?_⟩,
    fun v => ⟨?_, rfl, ?_⟩⟩
  · simp [get, h, hrows]
  · simp [get, h]
  · simp [get, hrows]
  · simp [agg, h]
  · simp [agg, h]
  · simp [map, h]
  · simp [map_plus_eq, h]
  · exact (applyOp_frame st (.setAttr s k v)).1
  · intro a ha hmem
    simp only [setAttr, List.mem_map] at ha
    obtain ⟨b, _, rfl⟩ := ha
    by_cases hb : b.id ∈ st.get s
    · simp [hb, Agent.setAttr, Agent.attr]
    · simp only [hb, if_false] at hmem

/-! ## every parameter combination of `select`, first occurrences, what `set` leaves alone -/

/-- **`select` with every combination of its parameters is one specification**: whatever `filter_func` (given or not),
    `agent_type` (given or not: `isinstance`, so subclasses qualify) and `at_most` (infinite, an int, or the count derived
    from a fraction), the selected members are the members that pass both tests, in order — all of them without a limit,
    the first `k` with one — including the early-return combination (no filter, no type, no limit: every member).
    `isinstance` on the harness hierarchy is reflexive and transitive. -/
theorem C03_select_every_parameter_combination (st : Store) (l : List Nat) (pred : Option Pred) (ty : Option Nat)
    (am : AtMost) :
    let keep := fun i => (match pred with | some p => p.eval (st.agent i) | none => true) &&
                         (match ty with | some c => isInst (st.agent i).ty c | none => true)
    selectIds st l pred ty am = (match am with | .inf => l.filter keep | .count k => (l.filter keep).take k) ∧
    (∀ t, isInst t t = true) ∧ (∀ a b c, isInst a b = true → isInst b c = true → isInst a c = true) := by
  refine ⟨?_, fun t => by simp [isInst], fun a b c h1 h2 => ?_⟩
  · cases am with
    | count k => cases pred <;> cases ty <;> simp only [selectIds, selectGo_some, Nat.sub_zero]
    | inf =>
      cases pred <;> cases ty <;> simp only [selectIds, selectGo_none]
      -- the early return: no filter, no type, no limit
      exact (List.filter_eq_self.mpr (fun _ _ => rfl)).symm
  · simp only [isInst, Bool.or_eq_true, Bool.and_eq_true, beq_iff_eq] at h1 h2 ⊢
    omega

/-- `AgentSet(agents)` keeps the **first** occurrence of every agent, in order (`dict` insertion order): the head of the
    iterable stays in front, its later copies are dropped, and so on down the iterable — that is `List.eraseDups`. -/
theorem C03_constructor_keeps_first_occurrences {α : Type} [DecidableEq α] (l : List α) :
    dedup l = l.eraseDups ∧ ∀ (a : α) (rest : List α), dedup (a :: rest) = a :: dedup (rest.filter (fun b => !b == a)) :=
  ⟨dedup_eq_eraseDups l, fun a rest => dedup_cons a rest⟩

/-- `set(attr, value)` writes the one attribute of the members and nothing else: an agent outside the set is left exactly
    as it was; a member gets the value, keeps every other attribute, its identity and its class. -/
theorem C03_set_writes_members_only (st : Store) (s : Nat) (k : Nat) (v : Int) (j : Nat) (a : Agent)
    (ha : st.pop[j]? = some a) :
    ∃ a', (setAttr st s k v).pop[j]? = some a' ∧
      (a.id ∉ st.get s → a' = a) ∧
      (a.id ∈ st.get s → a'.attr k = some v ∧ (∀ k', k' ≠ k → a'.attr k' = a.attr k') ∧ a'.id = a.id ∧ a'.ty = a.ty) := by
  refine ⟨if a.id ∈ st.get s then a.setAttr k v else a, by simp [setAttr, ha], fun h => by simp [h], fun h => ?_⟩
  simp only [h, if_true]
  exact ⟨by simp [Agent.setAttr, Agent.attr], fun k' hk => setAttr_attr_other a k k' v hk, rfl, rfl⟩

/-- **Re-building a result is the identity.**  In the code the copying form of `select` / `sort` / `shuffle` ends in
    `AgentSet(result, random)`, the in-place form in `self._update(result)` (`shuffle`: `self._agents.data = {…}`), the early
    return of `select` in `self` versus `copy.copy(self)`, `groupby(result_type="agentset")` in one constructor call per group:
    each pushes its result through a dict comprehension, i.e. through a de-duplication.  On every result these methods build
    from a duplicate-free set that de-duplication changes nothing, order included — which is why the model may store the
    result list as it is (`Store.put`) for either flag.
    The two code paths themselves are not in the model; that they agree on the real code is what the correspondence tie
    checks, `inplace` being part of every op. -/
theorem C03_rebuilding_a_result_is_the_identity (st : Store) (h : st.WF) (s : Nat) :
    dedup (st.get s) = st.get s ∧
    (∀ pred ty am, dedup (selectIds st (st.get s) pred ty am) = selectIds st (st.get s) pred ty am) ∧
    (∀ (key : Nat → Int) asc, dedup (sortL key asc (st.get s)) = sortL key asc (st.get s)) ∧
    dedup (Rng.shuffle (st.get s) st.rng).1 = (Rng.shuffle (st.get s) st.rng).1 ∧
    (∀ (key : Nat → Int), ∀ g ∈ groupBy key (st.get s), dedup g.2 = g.2) := by
  have hn := Store.get_nodup h s
  refine ⟨dedup_of_nodup hn, fun pred ty am => dedup_of_nodup (hn.sublist (selectIds_sublist st _ pred ty am)),
    fun key asc => dedup_of_nodup ((sortL_perm key asc _).nodup_iff.mpr hn),
    dedup_of_nodup ((Rng.shuffle_nodup _ _).mpr hn), fun key g hg => ?_⟩
  rw [((C03_groupby_partitions_in_order key (st.get s)).2.1 g hg).1]
  exact dedup_of_nodup (hn.sublist List.filter_sublist)

/-- agents are named by their position in the population (what the harness and the driver do) -/
def Store.IdsArePositions (st : Store) : Prop := ∀ (i : Nat) (a : Agent), st.pop[i]? = some a → a.id = i

/-- **`set` then `get` reads the value back** (reads go by position, writes by id — they meet because ids *are*
    positions, an invariant of every history): after `set(k, v)` on a set whose members belong to the population, `get(k)` on
    that set returns `v` for every member (and never raises); and no history of operations ever breaks "ids are positions". -/
theorem C03_set_then_get_reads_the_value (st : Store) (s k : Nat) (v : Int) (hid : st.IdsArePositions) :
    ((∀ i ∈ st.get s, i < st.pop.length) →
      get (setAttr st s k v) s [k] .error = .ok ((st.get s).map fun _ => [some v])) ∧
    (∀ ops : List SOp, (ops.foldl applyOp st).IdsArePositions) := by
  constructor
  · intro hmem
    have hget : (setAttr st s k v).get s = st.get s := rfl
    have key : ∀ i ∈ st.get s, ((setAttr st s k v).agent i).attr k = some v := by
      intro i hi
      have hlt := hmem i hi
      have hp : st.pop[i]? = some st.pop[i] := List.getElem?_eq_getElem hlt
      have hidi := hid i _ hp
      simp only [Store.agent, setAttr, List.getElem?_map, hp, Option.map_some, Option.getD_some, hidi, hi, if_true]
      simp [Agent.setAttr, Agent.attr]
    have hall : allPresent (setAttr st s k v) s [k] = true := by
      simp only [allPresent, hget, List.all_eq_true]
      intro i hi
      simp [key i hi]
    simp only [get, hall, if_true, rowsOf, hget]
    congr 1
    apply List.map_congr_left
    intro i hi
    simp [key i hi]
  · intro ops
    refine foldl_inv hid fun st hid op _ i a ha => ?_
    have h1 : ((applyOp st op).pop.map (·.id))[i]? = some a.id := by simp [ha]
    rw [(applyOp_frame st op).1] at h1
    simp only [List.getElem?_map] at h1
    cases hp : st.pop[i]? with
    | none => simp [hp] at h1
    | some b =>
      simp [hp] at h1
      rw [← h1]
      exact hid i b hp

/-- **`agentset[i]` and `agentset[i:j]` are Python's indexing of the ordered member list**: a non-negative index reads that
    position; `-k` reads position `len - k` (`-1` is the last member) and raises `IndexError` beyond `-len`; a slice with bounds
    inside the list is `take`/`drop`, an upper bound past the end stops at the end, and a negative bound `-k` denotes
    `len - k` (clamped at the start). -/
theorem C03_getitem_negative_indices_and_slices {α : Type} (l : List α) :
    (∀ i : Nat, pyIndex l (i : Int) = l[i]?) ∧
    (∀ k : Nat, 1 ≤ k → k ≤ l.length → pyIndex l (-(k : Int)) = l[l.length - k]?) ∧
    (∀ k : Nat, l.length < k → pyIndex l (-(k : Int)) = none) ∧
    (∀ a b : Nat, pySlice l (a : Int) (b : Int) = (l.drop (min a l.length)).take (min b l.length - min a l.length)) ∧
    (∀ (k : Nat) (j : Int), 1 ≤ k → pySlice l (-(k : Int)) j = pySlice l ((l.length - k : Nat) : Int) j) ∧
    (∀ (i : Int) (k : Nat), 1 ≤ k → pySlice l i (-(k : Int)) = pySlice l i ((l.length - k : Nat) : Int)) := by
  have hc : ∀ k : Nat, 1 ≤ k → pyClamp l.length (-(k : Int)) = pyClamp l.length ((l.length - k : Nat) : Int) := by
    intro k h1
    have hk : (-(k : Int)) < 0 := by omega
    have h2 : ¬ (((l.length - k : Nat) : Int) < 0) := Int.not_lt.mpr (Int.natCast_nonneg _)
    simp only [pyClamp, hk, if_true, h2, if_false, Int.toNat_natCast]
    rw [Int.add_comm, ← Int.sub_eq_add_neg, Int.toNat_sub, Nat.min_eq_left (Nat.sub_le _ _)]
  refine ⟨fun i => by simp [pyIndex], fun k h1 h2 => ?_, fun k h => ?_, fun a b => ?_, fun k j h1 => ?_, fun i k h1 => ?_⟩
  · have hneg : ¬ (0 : Int) ≤ -(k : Int) := by omega
    have hle : -(-(k : Int)) ≤ (l.length : Int) := by omega
    simp only [pyIndex, hneg, if_false, hle, if_true]
    simp
  · have hneg : ¬ (0 : Int) ≤ -(k : Int) := by omega
    have hle : ¬ -(-(k : Int)) ≤ (l.length : Int) := by omega
    simp only [pyIndex, hneg, if_false, hle]
  · simp only [pySlice, pyClamp, Int.not_lt.mpr (Int.natCast_nonneg _), if_false, Int.toNat_natCast]
  · simp only [pySlice, hc k h1]
  · simp only [pySlice, hc k h1]

example : pyIndex [10, 20, 30] (-1) = some 30 ∧ pyIndex [10, 20, 30] (-4) = none ∧ pySlice [10, 20, 30, 40] 1 (-1) = [20, 30] ∧
    pySlice [10, 20, 30, 40] (-3) 9 = [20, 30, 40] := by decide +kernel

/-- **`agg` with `min` / `max`, and the error arms of `agg` and `map`**: on a non-empty set `agg(k, min)` (`max`) returns a value
    that some member has and that is ≤ (≥) every member's value; on an empty set they raise `ValueError` (Python's `min([])`);
    if some member lacks the attribute, every aggregation and every attribute-reading `map` raises `AttributeError`; calling a
    method name no agent has raises `AttributeError` exactly when the set is non-empty (an empty set maps to `[]`). -/
theorem C03_agg_min_max_and_error_arms (st : Store) (s k : Nat) :
    (∀ vs, (st.get s).mapM (fun i => (st.agent i).attr k) = some vs →
      (vs = [] → agg st s k .min = .error .value ∧ agg st s k .max = .error .value) ∧
      (vs ≠ [] → ∃ lo hi, agg st s k .min = .ok lo ∧ agg st s k .max = .ok hi ∧ lo ∈ vs ∧ hi ∈ vs ∧
        ∀ x ∈ vs, lo ≤ x ∧ x ≤ hi)) ∧
    ((st.get s).mapM (fun i => (st.agent i).attr k) = none →
      (∀ f, agg st s k f = .error .attr) ∧ map st s (.dbl k) = .error .attr ∧ ∀ d, map st s (.plus k d) = .error .attr) ∧
    (map st s .nosuch = .ok [] ↔ st.get s = []) ∧ (st.get s ≠ [] → map st s .nosuch = .error .attr) := by
  refine ⟨fun vs h => ⟨fun he => ?_, fun hne => ?_⟩, fun h => ⟨fun f => ?_, ?_, fun d => ?_⟩, ?_, fun hne => ?_⟩
  · subst he
    simp [agg, h]
  · cases vs with
    | nil => exact absurd rfl hne
    | cons v rest =>
      obtain ⟨m1, m2⟩ := foldl_min_spec v rest
      obtain ⟨x1, x2⟩ := foldl_max_spec v rest
      exact ⟨rest.foldl min v, rest.foldl max v, by simp [agg, h], by simp [agg, h], m1, x1, fun x hx => ⟨m2 x hx, x2 x hx⟩⟩
  · cases f <;> simp [agg, h]
  · simp [map, h]
  · simp [map_plus_eq, h]
  · by_cases he : st.get s = [] <;> simp [map_nosuch_eq, he]
  · simp [map_nosuch_eq, hne]

example : agg { pop := [⟨0, 0, [(0, 4)]⟩, ⟨1, 0, [(0, -2)]⟩, ⟨2, 0, [(0, 7)]⟩], sets := [[0, 1, 2], []], rng := ⟨[]⟩ } 0 0 .min = .ok (-2) ∧
    agg { pop := [⟨0, 0, [(0, 4)]⟩, ⟨1, 0, [(0, -2)]⟩, ⟨2, 0, [(0, 7)]⟩], sets := [[0, 1, 2], []], rng := ⟨[]⟩ } 0 0 .max = .ok 7 ∧
    agg { pop := [⟨0, 0, [(0, 4)]⟩, ⟨1, 0, [(0, -2)]⟩, ⟨2, 0, [(0, 7)]⟩], sets := [[0, 1, 2], []], rng := ⟨[]⟩ } 1 0 .min = .error .value :=
  ⟨by rfl, by rfl, by rfl⟩

/-! ### non-vacuity: a concrete store exercising the statements above -/

private def demo : Store :=
  { pop := [⟨0, 0, [(0, 2)]⟩, ⟨1, 1, [(0, 1), (1, 5)]⟩, ⟨2, 2, [(0, 2)]⟩, ⟨3, 3, [(0, 1)]⟩, ⟨4, 0, [(0, 2)]⟩],
    sets := [[0, 1, 2, 3, 4]], rng := ⟨[3, 1, 4, 1, 5]⟩ }

example : demo.WF := by
  intro s hs
  simp [demo] at hs
  subst hs
  decide
/-- descending sort on x with ties: 0,2,4 (x=2) keep their order, then 1,3 (x=1) -/
example : (sort demo 0 (.attr 0) false false).toOption.map (fun r => r.1.get r.2) = some [0, 2, 4, 1, 3] := by
  simp +decide [sort, keysOf, demo, Store.get, Store.agent, Key.eval, Agent.attr, Store.put, sortL, List.mergeSort,
    List.MergeSort.Internal.splitInTwo, Except.toOption]
/-- `select(agent_type=T0, at_most=2)`: T0 and its subclasses T1, T2 qualify, the first two are taken -/
example : (select demo 0 none (some 0) (.count 2) false).1.get 1 = [0, 1] := by decide +kernel
/-- `select(lambda a: a.x >= 2, agent_type=T1)`: of the members with x ≥ 2 (0, 2, 4) only agent 2 (class T2 ⊂ T1) qualifies -/
example : selectIds demo [0, 1, 2, 3, 4] (some (.ge 0 2)) (some 1) .inf = [2] := by decide +kernel
example : dedup [3, 1, 3, 2, 1] = [3, 1, 2] := by decide +kernel
example : get (setAttr demo 0 1 9) 0 [1] .error = .ok [[some 9], [some 9], [some 9], [some 9], [some 9]] ∧
    get demo 0 [1] .error = .error .attr := ⟨by rfl, by rfl⟩
example : ((setAttr demo 0 1 9).pop[1]?.map (·.attrs)) = some [(1, 9), (0, 1)] := by decide +kernel
example : (shuffle demo 0 false).1.get 1 = [0, 2, 4, 1, 3] ∧ (shuffle demo 0 false).1.get 0 = [0, 1, 2, 3, 4] := by decide +kernel
example : (group demo 0 (.attr 0) false).toOption.map (·.2) = some [(2, [0, 2, 4]), (1, [1, 3])] := by decide +kernel
example : sort demo 0 (.attr 1) true true = .error .attr ∧ remove demo 0 7 = .error .key := ⟨rfl, rfl⟩
/-- `{0,1,2,3,4} & [4,4,2,9→absent,0]` takes the right operand's order; `&=` keeps the left one's -/
example : interL [0, 1, 2, 3, 4] [4, 4, 2, 0] = [4, 2, 0] ∧ iandL [0, 1, 2, 3, 4] [4, 4, 2, 0] = [0, 2, 4] ∧
    unionL [0, 1, 2] [4, 4, 1, 3] = [0, 1, 2, 4, 3] ∧ xorL [0, 1, 2] [4, 4, 1, 3] = [0, 2, 4, 3] ∧
    ixorL [0, 1, 2] [4, 4, 1, 3] false = [0, 2, 4, 3] := by decide +kernel
example : eqL [0, 1, 2] [2, 0, 1] = true ∧ ltL [0, 1] [2, 0, 1] = true ∧ leL [0, 3] [2, 0, 1] = false := by decide +kernel
example : indexL [3, 1, 2, 5, 0] 2 (-3) none = some 2 ∧ indexL [3, 1, 2, 5, 0] 2 0 (some (-3)) = none := by decide +kernel
example : (kill (select demo 0 none (some 0) .inf false).1 2).sets = [[0, 1, 3, 4], [0, 1, 4]] := by decide +kernel
example : (setop demo .xor 0 (.list [4, 4, 7])).1.get 1 = [0, 1, 2, 3, 7] ∧
    (pop demo 0).toOption.map (·.2) = some 0 := by decide +kernel

/-- the method name and the argument a `map` by name is called with (`none`: a callable was passed) -/
def MapFn.named : MapFn → Option (Name × Int)
  | .dbl _ => none
  | .plus k d => some (.plus k, d)
  | .nosuch => some (.nosuch, 0)
  | .stat d => some (.base, d)
  | .cls d => some (.rank, d)
  | .own k d => some (.own k, d)

/-- the reading the property rejects (seeded change `C03-r4-map-by-name-resolved-on-class`): the name is resolved on the
    agent's *class* and the result is called with the agent put in front of the arguments —
    `getattr(type(agent), name)(agent, d)`.  A plain function then behaves like the bound method; a staticmethod and a
    classmethod get one positional argument too many; the instance `__dict__` is never consulted. -/
def callOnClass (st : Store) (name : Name) (d : Int) (i : Nat) : Except Err Int :=
  match classEntry (st.agent i).ty name with
  | none => .error .attr
  | some (.function b) => b.call st (.agent i) d
  | some (.staticmethod _) | some (.classmethod _) | some (.object _) => .error .type

/-- **`map` by name calls what the attribute lookup on each *agent* yields** — `[getattr(a, name)(d) for a in members]`,
    with `getattr` modelled as Python's lookup (`resolve`: instance `__dict__` unbound, then the class entry through its
    `__get__`) over the harness' class and instance dictionaries:
    * a `map` by name that returns, returns position by position what `getattr(member, name)(d)` returns; one that raises,
      raises what the *first* member whose call raises raised, every member before it having been called successfully;
    * hence (derived from the lookup, not written into `map`): the name of a staticmethod is called with the arguments alone
      (`2 * d` whoever the agent is), the name of a classmethod with the agent's exact class, the name of a callable stored
      on the instances calls that callable (`3 * a.k + d`, not the class-level method of the same name, `-999`), raising
      `AttributeError` iff a member lacks the attribute it reads;
    * resolving the name on the class instead (`callOnClass`) is the same thing for a plain instance method — which is why
      such methods alone cannot tell the two readings apart — and a different thing for the other three kinds;
    * whatever is mapped, a successful `map` returns exactly one result per member. -/
theorem C03_map_by_name_is_the_agents_own_attribute (st : Store) (s : Nat) (k : Nat) (d : Int) :
    (∀ f name d', MapFn.named f = some (name, d') →
      (∀ vs : List Int, map st s f = .ok vs → ∀ (j i : Nat), (st.get s)[j]? = some i → ∃ v, vs[j]? = some v ∧ callByName st name d' i = .ok v) ∧
      (∀ e : Err, map st s f = .error e → ∃ (pre : List Nat) (i : Nat) (post : List Nat), st.get s = pre ++ i :: post ∧ callByName st name d' i = .error e ∧
        ∀ j ∈ pre, ∃ v, callByName st name d' j = .ok v)) ∧
    map st s (.stat d) = .ok ((st.get s).map fun _ => 2 * d) ∧
    map st s (.cls d) = .ok ((st.get s).map fun i => ((st.agent i).ty : Int) + d) ∧
    (∀ vs, (st.get s).mapM (fun i => (st.agent i).attr k) = some vs →
      map st s (.own k d) = .ok (vs.map (3 * · + d))) ∧
    ((st.get s).mapM (fun i => (st.agent i).attr k) = none → map st s (.own k d) = .error .attr) ∧
    (∀ i, callOnClass st (.plus k) d i = callByName st (.plus k) d i ∧
      callOnClass st .base d i ≠ callByName st .base d i ∧ callOnClass st .rank d i ≠ callByName st .rank d i ∧
      (∀ v, (st.agent i).attr k = some v →
        callByName st (.own k) d i = .ok (3 * v + d) ∧ callOnClass st (.own k) d i = .ok (-999))) ∧
    (∀ f vs, map st s f = .ok vs → vs.length = (st.get s).length) := by
  have hmap : ∀ f name d', MapFn.named f = some (name, d') → map st s f = mapE (callByName st name d') (st.get s) := by
    intro f name d' h
    cases f <;> simp [MapFn.named] at h <;> obtain ⟨rfl, rfl⟩ := h <;> rfl
  refine ⟨fun f name d' hn => ⟨fun vs h => ?_, fun e h => ?_⟩, ?_, ?_, fun vs h => by simp [map_own_eq, h],
    fun h => by simp [map_own_eq, h], fun i => ⟨rfl, ?_, ?_, fun v hv => ⟨by rw [callByName_own, hv], rfl⟩⟩, fun f vs h => ?_⟩
  · rw [hmap f name d' hn] at h
    exact mapE_getElem _ _ _ h
  · rw [hmap f name d' hn] at h
    exact mapE_error _ _ _ h
  · exact mapE_ok_of_forall _ _ _ (fun i _ => callByName_base st d i)
  · exact mapE_ok_of_forall _ _ _ (fun i _ => callByName_rank st d i)
  · simp [callOnClass, classEntry, callByName_base]
  · simp [callOnClass, classEntry, callByName_rank]
  · cases hf : MapFn.named f with
    | some p =>
      obtain ⟨name, d'⟩ := p
      rw [hmap f name d' hf] at h
      exact mapE_length _ _ _ h
    | none =>
      cases f <;> simp [MapFn.named] at hf
      rename_i k'
      simp only [map] at h
      cases hm : (st.get s).mapM (fun i => (st.agent i).attr k') with
      | none => simp [hm] at h
      | some ws =>
        simp [hm] at h
        subst h
        simp [mapM_some_length _ _ _ hm]

/-- non-vacuity: a mixed set; the staticmethod ignores the agents, the classmethod sees their classes, the per-instance callable their x -/
example : (map demo 0 (.stat 3)).toOption = some ((demo.get 0).map fun _ => 6) ∧ demo.get 0 ≠ [] ∧
    (map demo 0 (.cls 1)).toOption = some ((demo.get 0).map fun i => ((demo.agent i).ty : Int) + 1) ∧
    (map demo 0 (.own 0 2)).toOption.map (·.length) = some (demo.get 0).length := by decide +kernel

/-- the two readings on the mixed set: the agent's own lookup gives `[8, 5, 8, 5, 8]` for `own0(2)`, the class lookup the
    decoy's `-999`; `base` / `rank` resolved on the class and handed the agent raise `TypeError`; `plus1` raises
    `AttributeError` at the first member (agent 0, which has no attribute 1) under either reading -/
example : map demo 0 (.own 0 2) = .ok [8, 5, 8, 5, 8] ∧ mapE (callOnClass demo (.own 0) 2) (demo.get 0) = .ok [-999, -999, -999, -999, -999] ∧
    mapE (callOnClass demo .base 3) (demo.get 0) = .error .type ∧ mapE (callOnClass demo .rank 3) (demo.get 0) = .error .type ∧
    map demo 0 (.plus 1 0) = .error .attr ∧ mapE (callOnClass demo (.plus 1) 0) (demo.get 0) = .error .attr ∧
    callByName demo (.plus 1) 4 1 = .ok 9 := ⟨by rfl, by rfl, by rfl, by rfl, by rfl, by rfl, by rfl⟩

/-- the lookup itself: an instance entry wins over any class entry and is not bound; a class-level function binds the agent,
    a staticmethod nothing, a classmethod the class; no entry anywhere = `AttributeError` -/
example : resolve (some (.object (.triple 7 0))) (some (.function .decoy)) 7 2 = some (.triple 7 0, .nothing) ∧
    resolve (some (.function .decoy)) none 7 2 = some (.decoy, .nothing) ∧
    resolve none (some (.function .decoy)) 7 2 = some (.decoy, .agent 7) ∧
    resolve none (some (.staticmethod .twice)) 7 2 = some (.twice, .nothing) ∧
    resolve none (some (.classmethod .rankPlus)) 7 2 = some (.rankPlus, .cls 2) ∧ resolve none none 7 2 = none := by decide +kernel

end Mesa.ASet
