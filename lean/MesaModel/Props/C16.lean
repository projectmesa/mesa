import MesaModel.Proofs.Signals
import MesaModel.Proofs.SignalsReentrant
import MesaModel.Proofs.SignalsSlices
import MesaModel.Proofs.SignalsSrc
/-!
# C16 — signals describe every change exactly once, to exactly the subscribers

The property theorems, with the definitions their statements need (`DeclsOK`, `allEmitted`, `deliveriesTo`,
`subscribedThroughout`, `OpS.asOp`) and non-vacuity examples.  Model: `Model/Signals.lean`, `Model/SignalsSrc.lean`;
helper lemmas: `Proofs/Signals.lean`, `Proofs/SignalsReentrant.lean`, `Proofs/SignalsSlices.lean`,
`Proofs/SignalsSrc.lean`.

`init decls` is a fresh `HasObservables` instance whose class (with its bases) declares the observables
`decls` — `Observable`s and `ObservableList`s, in MRO/definition order, each with its set of signal types
*in the order Python happens to iterate that set* (π).  `run s ops` executes a history of `observe` /
`unobserve` / `clear_all_subscriptions` (concrete names/types or `All()`), handler deaths, assignments and
every list mutation; its outputs are, per operation, `err e` or the deliveries `(handler, signal)` in the
order the handlers were called.
-/
namespace Mesa.Signals

/-- declarations of a real class: names are distinct, the listed types are the kind's set in some order -/
def DeclsOK (ds : List Decl) : Prop :=
  (ds.map (·.name)).Nodup ∧ ∀ d ∈ ds, d.types.Perm d.kind.types

theorem init_wf {ds : List Decl} (h : DeclsOK ds) : (init ds).reg.WF :=
  ⟨h.1, fun d hd => (h.2 d hd).nodup_iff.mpr (by cases d.kind <;> decide)⟩

/-- **`observe` as a pointwise update, for every iteration order**: the call is rejected with `ValueError`
    exactly when it names an unknown observable or a type some selected observable does not emit (nothing
    is subscribed then); otherwise the handler is appended, once, to the subscriber list of every
    (name, type) pair the two selectors match — name or `All()`, type or `All()` — and to no other. -/
theorem C16_observe_pointwise {r : Reg Nat} (w : r.WF) (n : Sel Nat) (t : Sel SigType) (h : Nat) :
    (Reg.validObserve r n t ∧ ∃ r', r.observe n t h = .ok r' ∧ r'.decls = r.decls ∧
      ∀ a ty, r'.subs a ty =
        if n.matches a = true ∧ t.matches ty = true ∧ r.emits a ty then r.subs a ty ++ [h] else r.subs a ty) ∨
    (¬ Reg.validObserve r n t ∧ r.observe n t h = .error .value) := by
  by_cases hv : Reg.validObserve r n t
  · exact .inl ⟨hv, _, Reg.observe_ok w hv h, rfl, fun _ _ => rfl⟩
  · exact .inr ⟨hv, Reg.observe_err hv h⟩

/-- **`unobserve` as a pointwise update**: every entry the selectors match keeps exactly its live references
    to other handlers, in order; other entries are untouched (`KeyError`, and no change, only for an unknown
    concrete name combined with `All()` as type). -/
theorem C16_unobserve_pointwise {r : Reg Nat} (w : r.WF) (alive : Nat → Bool) (n : Sel Nat) (t : Sel SigType)
    (h : Nat) :
    ((∃ a, n = .one a ∧ t = .all ∧ a ∉ r.names) ∧ r.unobserve alive n t h = .error .key) ∨
    ((¬ ∃ a, n = .one a ∧ t = .all ∧ a ∉ r.names) ∧ ∃ r', r.unobserve alive n t h = .ok r' ∧
      r'.decls = r.decls ∧ ∀ a ty, r'.subs a ty =
        if Reg.touches r n t a ty then Reg.keep alive h (r.subs a ty) else r.subs a ty) := by
  by_cases hv : ∃ a, n = .one a ∧ t = .all ∧ a ∉ r.names
  · exact .inl ⟨hv, Reg.unobserve_err hv alive h⟩
  · exact .inr ⟨hv, _, Reg.unobserve_ok w hv alive h, rfl, fun _ _ => rfl⟩

/-- After `unobserve`, the handler is in none of the subscriber lists the call ranged over. -/
theorem C16_unobserve_removes {r r' : Reg Nat} (w : r.WF) {alive : Nat → Bool} {n : Sel Nat} {t : Sel SigType}
    {h : Nat} (ho : r.unobserve alive n t h = .ok r') {a : Nat} {ty : SigType} (hm : Reg.touches r n t a ty) :
    h ∉ r'.subs a ty := by
  by_cases hv : ∃ a, n = .one a ∧ t = .all ∧ a ∉ r.names
  · rw [Reg.unobserve_err hv] at ho
    cases ho
  · rw [Reg.unobserve_ok w hv] at ho
    cases ho
    show h ∉ if _ then _ else _
    rw [if_pos hm]
    simp [Reg.keep]

/-- **`unobserve` removes nothing else**: whatever the selectors, in every subscriber list every other live handler
    `g ≠ h` keeps all its subscriptions (as many entries as before).  Handlers are identities here: whether the owners
    of two bound methods compare equal (`__eq__` of value objects) plays no part (scenarios `veq` of the harness). -/
theorem C16_unobserve_keeps_others {r r' : Reg Nat} (w : r.WF) {alive : Nat → Bool} {n : Sel Nat} {t : Sel SigType}
    {h g : Nat} (ho : r.unobserve alive n t h = .ok r') (hg : g ≠ h) (hl : alive g = true) (a : Nat) (ty : SigType) :
    (r'.subs a ty).count g = (r.subs a ty).count g := by
  by_cases hv : ∃ a, n = .one a ∧ t = .all ∧ a ∉ r.names
  · rw [Reg.unobserve_err hv] at ho
    cases ho
  · rw [Reg.unobserve_ok w hv] at ho
    cases ho
    show List.count g (if _ then _ else _) = _
    split
    · exact List.count_filter (by simp [hl, hg])
    · rfl

/-- After `clear_all_subscriptions(name)` / `(All())` the matching entries are empty. -/
theorem C16_clear_removes (r : Reg Nat) (n : Sel Nat) (a : Nat) (ty : SigType) (hm : n.matches a = true) :
    (r.clearAll n).subs a ty = [] := by
  rw [Reg.clearAll_eq]
  exact if_pos hm

/-- **The registry is the subscription history.**  For every class and every history, each subscriber list
    holds — as far as live handlers are concerned — exactly what the history says, entry by entry, in
    subscription order: `specSubs` is defined without loops and without any iteration order. -/
theorem C16_registry_is_subscription_history {ds : List Decl} (hds : DeclsOK ds) (ops : List Op) :
    Refines (run (init ds) ops).1 (specSubs (init ds).reg ops) :=
  (run_follows (init_wf hds) ops ⟨rfl, fun _ _ => rfl⟩).2

/-- **Exactly once, in subscription order, with the payload that applied** (∀ classes, ∀ histories, ∀ π):
    after any history `ops`, an operation is either rejected — then nothing is delivered and nothing
    changes — or each signal it emits, in emission order, is handed to exactly the live handlers subscribed
    (per the history) to that name and type, once per subscription, in subscription order. -/
theorem C16_delivery_exactly_once_in_order {ds : List Decl} (hds : DeclsOK ds) (ops : List Op) (op : Op) :
    let s := (run (init ds) ops).1
    ((step s op).2 = .ok ((emitted s op).flatMap fun sig =>
        ((specSubs (init ds).reg ops sig.name sig.type).filter s.alive).map fun h => (h, sig))) ∨
    (∃ e, step s op = (s, .err e) ∧ emitted s op = []) := by
  intro s
  have hr : Refines s (specSubs (init ds).reg ops) := C16_registry_is_subscription_history hds ops
  have hlive : ∀ sig, liveDeliveries s sig =
      ((specSubs (init ds).reg ops sig.name sig.type).filter s.alive).map fun h => (h, sig) := by
    intro sig
    unfold liveDeliveries
    rw [hr sig.name sig.type]
  refine (step_out s op).imp_left fun h => ?_
  rw [h]
  exact congrArg _ (flatMap_congr' _ fun sig _ => hlive sig)

/-- A handler whose last reference was dropped is never called again, whatever it was subscribed to. -/
theorem C16_dead_never_called (s : St) (op : Op) (h : Nat) (hd : h ∈ s.dead) (ds : List (Nat × Sig))
    (ho : (step s op).2 = .ok ds) : ∀ d ∈ ds, d.1 ≠ h := by
  intro d hd' e
  have hal := (step_called ho hd').2.2
  rw [e] at hal
  simp [St.alive, hd] at hal

/-- A handler that is in no subscriber list of the observable `n` receives no signal of `n`
    (in particular after `unobserve` / `clear_all_subscriptions`, until it subscribes again). -/
theorem C16_unsubscribed_never_called (s : St) (op : Op) (h n : Nat) (hn : ∀ t, h ∉ s.reg.subs n t)
    (ds : List (Nat × Sig)) (ho : (step s op).2 = .ok ds) : ∀ d ∈ ds, d.1 = h → d.2.name ≠ n := by
  intro d hd' e hname
  exact hn d.2.type (e ▸ hname ▸ (step_called ho hd').2.1)

/-- Subscribing to an unknown observable or to a signal type a selected observable does not emit is
    rejected with `ValueError` and changes nothing; every other subscription is accepted. -/
theorem C16_unknown_rejected {s : St} (w : s.reg.WF) (n : Sel Nat) (t : Sel SigType) (h : Nat) :
    (¬ Reg.validObserve s.reg n t → step s (.observe n t h) = (s, .err .value)) ∧
    (Reg.validObserve s.reg n t → (step s (.observe n t h)).2 = .ok []) := by
  refine ⟨fun hv => ?_, fun hv => ?_⟩
  · simp only [step, Reg.observe_err hv]
  · simp only [step, Reg.observe_ok w hv]

/-- An assignment to an Observable signals `change` with the value that was there and the value assigned,
    and afterwards the Observable holds the assigned value. -/
theorem C16_assign_payload (s : St) (n : Nat) (v : Int) :
    emitted s (.assign n v) = [⟨n, .change, s.obsv n, .int v, .none⟩] ∧
    (step s (.assign n v)).1.obsv n = .int v := by
  refine ⟨rfl, ?_⟩
  simp [step]

/-- **The signals suffice to track the list** (one step, any state): applying the signals an operation emits
    for the list `n` — with their `old` / `new` / `index` payloads, `old` being checked against the copy —
    to a copy of the list as it was yields the list as it is afterwards.  Covers whole-list assignment,
    `[]=`, slice assignment, `del` (index and slice), `insert`, `append`, `pop`, `remove`, `extend`, `+=`,
    `reverse`, `clear`, assignment to and deletion of extended slices (open bounds, any step), and rejected
    calls (no signal, no change).  `hobs`: `n` is the name of a list — the machine does not check the declared kind, and
    an `Observable`-style `assign` to `n` would emit a `change` whose payload is not a list, which no listener of a list
    can apply. -/
theorem C16_signals_track_list (s : St) (op : Op) (n : Nat) (hobs : ∀ v, op ≠ .assign n v) :
    replay ((s.lists n).getD []) ((emitted s op).filter fun sig => sig.name == n) =
      some (((step s op).1.lists n).getD []) := by
  induction op using Op.listCases with
  | list op m hl =>
    rw [step_list hl, emitted_list hl]
    unfold stepList
    cases hd : s.lists m with
    | none => rfl
    | some d =>
      dsimp only
      cases hop : listOp m d op with
      | error e => rfl
      | ok res =>
        obtain ⟨ht1, ht2⟩ := listOp_tracks hop
        show replay _ (res.2.filter _) = some ((if n = m then some res.1 else (notifyAll s res.2).1.lists n).getD [])
        by_cases hnm : n = m
        · subst hnm
          rw [if_pos rfl, hd, List.filter_eq_self.mpr fun sig hs => beq_iff_eq.mpr (ht2 sig hs)]
          exact ht1
        · rw [if_neg hnm, (notifyAll_spec s res.2).2.lists,
            List.filter_eq_nil_iff.mpr fun sig hs e => hnm ((beq_iff_eq.mp e).symm.trans (ht2 sig hs))]
          rfl
  | assign m v =>
    have hmn : ¬ m = n := fun e => hobs v (by rw [e])
    show replay _ (List.filter _ [_]) = some ((s.lists n).getD [])
    rw [List.filter_cons_of_neg (by simpa using hmn)]
    rfl
  | lassign m vs =>
    show replay _ (List.filter _ [⟨m, .change, .list ((s.lists m).getD []), .list vs, .none⟩]) =
      some ((if n = m then some vs else s.lists n).getD [])
    by_cases hmn : m = n
    · subst hmn
      rw [List.filter_cons_of_pos (by exact beq_self_eq_true m), if_pos rfl]
      simp only [List.filter_nil, replay, applySig, if_true, Option.bind_fun_some, Option.getD_some]
    · rw [List.filter_cons_of_neg (by simpa using hmn), if_neg fun e => hmn e.symm]
      rfl
  | observe a t x =>
    simp only [emitted, step, List.filter_nil, replay]
    cases s.reg.observe a t x <;> rfl
  | unobserve a t x =>
    simp only [emitted, step, List.filter_nil, replay]
    cases s.reg.unobserve s.alive a t x <;> rfl
  | clear a => rfl
  | drop x => rfl

def allEmitted (s : St) : List Op → List Sig
  | [] => []
  | op :: ops => emitted s op ++ allEmitted (step s op).1 ops

/-- **Replica theorem, ∀ histories**: a listener that starts with a copy of the list as it is (empty if it was never assigned) and applies every signal
    emitted for the ObservableList `n` has, after any history, exactly the real list. -/
theorem C16_replica_all_histories (s : St) (ops : List Op) (n : Nat) (hobs : ∀ v, .assign n v ∉ ops) :
    replay ((s.lists n).getD []) ((allEmitted s ops).filter fun sig => sig.name == n) =
      some (((run s ops).1.lists n).getD []) := by
  induction ops generalizing s with
  | nil => rfl
  | cons op ops ih =>
    rw [allEmitted, List.filter_append, replay_append, run_cons,
      C16_signals_track_list s op n (fun v e => hobs v (by simp [e]))]
    exact ih (step s op).1 (fun v hv => hobs v (by simp [hv]))

/-- **A subscribed listener receives exactly these signals**: a live handler that is subscribed exactly once
    to the type of every signal the operation emits for `n` (e.g. subscribed once with `All()` for the type: the
    hypothesis speaks of the types that occur, not of all five — a plain Observable has `change` only) is called, in
    emission order, with exactly the signals emitted for `n` — so by `C16_signals_track_list` its copy stays identical
    to the real list; `C16_listener_replica_all_histories` composes the two over a history. -/
theorem C16_listener_receives_all (s : St) (op : Op) (n h : Nat)
    (hsub : ∀ sig ∈ emitted s op, sig.name = n → ((s.reg.subs n sig.type).filter s.alive).count h = 1)
    (ds : List (Nat × Sig)) (ho : (step s op).2 = .ok ds) :
    (ds.filter fun d => d.1 == h && d.2.name == n).map (·.2) = (emitted s op).filter fun sig => sig.name == n := by
  rw [step_ok ho]
  exact deliveries_to_once hsub

/-- the signals handler `h` was called with for the observable `n` over a history, in order -/
def deliveriesTo (h n : Nat) : List Out → List Sig
  | [] => []
  | .ok ds :: os => (ds.filter fun d => d.1 == h && d.2.name == n).map (·.2) ++ deliveriesTo h n os
  | .err _ :: os => deliveriesTo h n os

/-- at every step of the history, handler `h` is alive and subscribed exactly once to the type of every signal that
    step emits for `n` (decidable; e.g. subscribed once with `All()` and never unsubscribed, cleared or dropped) -/
def subscribedThroughout (n h : Nat) : St → List Op → Bool
  | _, [] => true
  | s, op :: ops =>
    ((emitted s op).all fun sig => sig.name != n || ((s.reg.subs n sig.type).filter s.alive).count h == 1) &&
      subscribedThroughout n h (step s op).1 ops

/-- **A listener's own deliveries reconstruct the list, ∀ histories** (the replica theorem composed with the
    deliveries): a handler that stays subscribed — once — to every signal type the ObservableList `n` emits during a
    history, and applies the signals *it is called with* to its copy, has after the history exactly the real list;
    whatever else happens in between (other handlers subscribing, unsubscribing, dying, rejected calls, operations on
    other observables). -/
theorem C16_listener_replica_all_histories (s : St) (ops : List Op) (n h : Nat) (hobs : ∀ v, .assign n v ∉ ops)
    (hsub : subscribedThroughout n h s ops = true) :
    replay ((s.lists n).getD []) (deliveriesTo h n (run s ops).2) = some (((run s ops).1.lists n).getD []) := by
  have key : ∀ (ops : List Op) (s : St), subscribedThroughout n h s ops = true →
      deliveriesTo h n (run s ops).2 = (allEmitted s ops).filter fun sig => sig.name == n := by
    intro ops
    induction ops with
    | nil =>
      intro s _
      rfl
    | cons op ops ih =>
      intro s hs
      simp only [subscribedThroughout, Bool.and_eq_true, List.all_eq_true, Bool.or_eq_true, bne_iff_ne, ne_eq,
        beq_iff_eq] at hs
      rw [run_cons, allEmitted, List.filter_append, ← ih _ hs.2]
      rcases step_out s op with h' | ⟨e, h', hem⟩
      · rw [h', deliveriesTo, deliveries_to_once fun sig hm hn => (hs.1 sig hm).resolve_left (not_not_intro hn)]
      · rw [h', hem]
        rfl
  rw [key ops s hsub]
  exact C16_replica_all_histories s ops n hobs

/-- **Independence from the iteration order of the signal-type sets** (needs the repaired loop variable):
    two classes that differ only in the order in which Python iterates each `signal_types` set produce the
    same results and the same deliveries, in the same order, for every history. -/
theorem C16_pi_independent {ds ds' : List Decl} (hds : DeclsOK ds) (h : SameSets ds ds') (ops : List Op) :
    (run (init ds') ops).2 = (run (init ds) ops).2 :=
  run_withDecls h ops (s := init ds) rfl (init_wf hds)

/-! ### non-vacuity: a class with an Observable defined before an ObservableList (the G6 witness class) -/

def exDecls : List Decl := [⟨0, .obs, [.change]⟩, ⟨1, .lst, [.insert, .append, .change, .replace, .remove]⟩]
def exDecls' : List Decl := [⟨0, .obs, [.change]⟩, ⟨1, .lst, [.remove, .replace, .change, .insert, .append]⟩]

example : DeclsOK exDecls := ⟨by decide, by decide⟩
example : SameSets exDecls exDecls' :=
  .cons ⟨rfl, rfl, .refl _⟩ (.cons ⟨rfl, rfl, by decide⟩ .nil)

/-- `observe(All(), All(), h)` then `lst = [1]; lst.append(2); x = 3; del lst[0]`: every signal reaches `h` once,
    with the payload that applied (G6 and L1 witnesses) -/
example : (run (init exDecls) [.observe .all .all 7, .lassign 1 [1], .lappend 1 2, .assign 0 3, .ldel 1 0]).2 =
    [.ok [], .ok [(7, ⟨1, .change, .list [], .list [1], .none⟩)], .ok [(7, ⟨1, .append, .none, .int 2, .int 1⟩)],
     .ok [(7, ⟨0, .change, .none, .int 3, .none⟩)], .ok [(7, ⟨1, .remove, .int 1, .none, .int 0⟩)]] := by decide +kernel

/-- `observe(All(), "append", h)` is rejected (the Observable does not emit `append`) and subscribes nothing
    (G1 witness); a handler subscribed twice is called twice; after `unobserve(All(), All(), h)` nothing -/
example : (run (init exDecls) [.observe .all (.one .append) 7, .lassign 1 [], .observe (.one 1) .all 7,
      .observe (.one 1) (.one .append) 7, .lappend 1 5, .unobserve .all .all 7, .lappend 1 6]).2 =
    [.err .value, .ok [], .ok [], .ok [],
     .ok [(7, ⟨1, .append, .none, .int 5, .int 0⟩), (7, ⟨1, .append, .none, .int 5, .int 0⟩)], .ok [], .ok []] := by
  decide +kernel

/-- non-vacuity of `C16_listener_replica_all_histories` (and of the hypothesis of `C16_listener_receives_all` for a
    class that has a plain Observable too): handler 7 subscribes with `All()` to every type of the list 1; then the
    list is assigned, appended to, inserted into, reversed, popped with an index out of range (rejected), extended and
    shortened, while handler 3 subscribes, is garbage-collected (`drop`) and the Observable 0 is assigned: 7 stays
    subscribed throughout, and replaying what *it* was called with gives the list -/
def exListenerOps : List Op :=
  [.lassign 1 [1, 2], .lappend 1 5, .observe .all .all 3, .linsert 1 0 4, .assign 0 9, .drop 3, .lreverse 1,
   .lpop 1 9, .lextend 1 [8, 9], .ldel 1 0]
def exListenerSt : St := (run (init exDecls) [.observe (.one 1) .all 7]).1

example : subscribedThroughout 1 7 exListenerSt exListenerOps = true := by decide +kernel
example : replay [] (deliveriesTo 7 1 (run exListenerSt exListenerOps).2) = some [2, 1, 4, 8, 9] ∧
    (run exListenerSt exListenerOps).1.lists 1 = some [2, 1, 4, 8, 9] ∧
    (run exListenerSt exListenerOps).2[7]? = some (.err .index) := by decide +kernel
/-- the listener checks `old` for every signal type, `change` included: a `change` whose `old` is not its copy does
    not fit (so the replica theorems also say that the `old` payload of every whole-list assignment is the list as it
    was) -/
example : applySig [1, 2] ⟨1, .change, .list [1], .list [7], .none⟩ = none ∧
    applySig [1, 2] ⟨1, .change, .list [1, 2], .list [7], .none⟩ = some [7] := by decide +kernel
/-- … and a handler that was garbage-collected in between is not subscribed throughout -/
example : subscribedThroughout 1 3 exListenerSt exListenerOps = false := by decide +kernel

/-! ### extended slices: `lst[a:b:c] = vs`, `del lst[a:b:c]` with open bounds, steps other than 1, negative steps -/

/-- **An extended slice is rejected exactly when Python rejects it**: `ValueError` for step 0 and — for a step other
    than 1 — for a number of items different from the number of selected positions; nothing changes, nothing is
    signalled then (`C18_signals_reject_unchanged`). -/
theorem C16_slicex_set_rejected_iff (n : Nat) (d : List Int) (sl : Slc) (vs : List Int) :
    (∃ e, pSetSliceX n d sl vs = .error e) ↔
      (sl.c.getD 1 = 0 ∨ (sl.c.getD 1 ≠ 1 ∧ ∀ idx, sl.indices d.length = some idx → vs.length ≠ idx.length)) := by
  unfold pSetSliceX getSliceX setSliceX
  cases hi : sl.indices d.length with
  | none => exact ⟨fun _ => .inl (Slc.indices_eq_none.mp hi), fun _ => ⟨_, rfl⟩⟩
  | some idx =>
    obtain ⟨start, stop, step, ha, -⟩ := Slc.indices_some hi
    obtain ⟨h0, hst, -, -⟩ := Slc.adjust_bounds ha
    subst hst
    rw [ha]
    dsimp only [Option.map_some]
    by_cases h1 : sl.c.getD 1 = 1
    · rw [if_pos h1]
      constructor
      · rintro ⟨e, he⟩
        cases he
      · rintro (h | h)
        · exact absurd h h0
        · exact absurd h1 h.1
    · rw [if_neg h1]
      by_cases hl : vs.length = idx.length
      · rw [if_neg fun h => h hl]
        constructor
        · rintro ⟨e, he⟩
          cases he
        · rintro (h | h)
          · exact absurd h h0
          · exact absurd hl (h.2 idx rfl)
      · rw [if_pos hl]
        exact ⟨fun _ => .inr ⟨h1, fun idx' e => Option.some.inj e ▸ hl⟩, fun _ => ⟨_, rfl⟩⟩

/-- **Every position an extended slice selects exists**, whatever the bounds (open, negative, beyond the end) and
    the step: the payload `old` of the signal lists real items. -/
theorem C16_slicex_positions_exist {sl : Slc} {len : Nat} {idx : List Nat} (h : sl.indices len = some idx) :
    ∀ k ∈ idx, k < len :=
  Slc.indices_in_range h

/-- **An assignment to a slice with a step other than 1 touches only the selected positions**: the list keeps its
    length and every other item. -/
theorem C16_slicex_extended_set_frame {d d' : List Int} {sl : Slc} {vs : List Int} (hc : sl.c.getD 1 ≠ 1)
    (h : setSliceX d sl vs = some d') :
    d'.length = d.length ∧ ∀ idx, sl.indices d.length = some idx → ∀ k, k ∉ idx → d'.getD k 0 = d.getD k 0 := by
  obtain ⟨idx, hi, _, rfl⟩ := setSliceX_stepped hc h
  refine ⟨foldl_set_length _ _, fun idx' hidx' k hk => ?_⟩
  cases hi.symm.trans hidx'
  exact foldl_set_other _ _ k fun p hp hpk => hk (hpk ▸ (List.of_mem_zip hp).1)

/-- **… and writes the items, in the order of the slice, to the selected positions** (which are distinct): the `j`-th
    item goes to the `j`-th position the slice selects — for a negative step that is from the back — and reading the
    slice back gives exactly what was assigned.  Together with `C16_slicex_extended_set_frame` this determines the list
    after the assignment item by item, independently of how `setSliceX` computes it (so the listener of the replica
    theorems, which applies a `replace` carrying an extended slice by the same function, is pinned too). -/
theorem C16_slicex_extended_set_values {d d' : List Int} {sl : Slc} {vs : List Int} {idx : List Nat}
    (hc : sl.c.getD 1 ≠ 1) (h : setSliceX d sl vs = some d') (hi : sl.indices d.length = some idx) :
    idx.Nodup ∧ vs.length = idx.length ∧ (∀ j (hj : j < idx.length), d'.getD idx[j] 0 = vs.getD j 0) ∧
    getSliceX d' sl = some vs := by
  have hnd := Slc.indices_nodup hi
  obtain ⟨idx', hi', hl, rfl⟩ := setSliceX_stepped hc h
  cases hi.symm.trans hi'
  have hm := foldl_set_zip_get idx vs d hl hnd (Slc.indices_in_range hi)
  refine ⟨hnd, hl, fun j hj => ?_, ?_⟩
  · have e := congrArg (fun l => l.getD j 0) hm
    simpa [List.getD, hj] using e
  · unfold getSliceX
    rw [foldl_set_length, hi]
    exact congrArg some hm

/-- **`del lst[a:b:c]` erases exactly the selected positions**: what remains is the items at the other positions, in
    their order, and the list gets shorter by the number of positions selected (they are distinct and exist). -/
theorem C16_slicex_del_erases_selected {d d' : List Int} {sl : Slc} {idx : List Nat}
    (h : delSliceX d sl = some d') (hi : sl.indices d.length = some idx) :
    d' = ((List.range d.length).filter fun k => !idx.contains k).map (fun k => d.getD k 0) ∧
    d'.length + idx.length = d.length := by
  unfold delSliceX at h
  rw [hi] at h
  injection h with h
  have e := zipIdx_filter_map (fun k => !idx.contains k) d 0
  simp only [Nat.sub_zero, ← List.range_eq_range'] at e
  simp only [e] at h
  subst h
  refine ⟨rfl, ?_⟩
  rw [List.length_map]
  exact length_filter_not_contains (Slc.indices_nodup hi) (Slc.indices_in_range hi)

/-- non-vacuity: a negative step writes from the back (`d[::-2] = [7, 8, 9]`), so an implementation that wrote the
    items in the opposite order is excluded by `C16_slicex_extended_set_values`; `del d[::-2]` -/
example : setSliceX [0, 1, 2, 3, 4] ⟨none, none, some (-2)⟩ [7, 8, 9] = some [9, 1, 8, 3, 7] ∧
    (⟨none, none, some (-2)⟩ : Slc).indices 5 = some [4, 2, 0] ∧
    delSliceX [0, 1, 2, 3, 4] ⟨none, none, some (-2)⟩ = some [1, 3] := by decide +kernel

/-- non-vacuity / what Python does: `d[::2] = [7, 8, 9]`, `d[::-1]` selects everything backwards, `del d[1::2]`, a
    wrong number of items and step 0 are rejected -/
example : setSliceX [0, 1, 2, 3, 4] ⟨none, none, some 2⟩ [7, 8, 9] = some [7, 1, 8, 3, 9] := by decide +kernel
example : getSliceX [0, 1, 2, 3, 4] ⟨none, none, some (-1)⟩ = some [4, 3, 2, 1, 0] := by decide +kernel
example : getSliceX [0, 1, 2, 3, 4] ⟨some (-2), some (-9), some (-2)⟩ = some [3, 1] := by decide +kernel
example : delSliceX [0, 1, 2, 3, 4] ⟨some 1, none, some 2⟩ = some [0, 2, 4] := by decide +kernel
example : setSliceX [0, 1, 2, 3, 4] ⟨none, none, some 2⟩ [7, 8] = none := by decide +kernel
example : getSliceX [0, 1, 2] ⟨none, none, some 0⟩ = none := by decide +kernel
example : setSliceX [0, 1, 2, 3, 4] ⟨some 3, some 1, none⟩ [7] = some [0, 1, 2, 7, 3, 4] := by decide +kernel

/-! ### the derived methods by their signals

`extend`, `+=` and `clear` are loops over primitives in the model (as in `MutableSequence`); here is what they signal,
stated declaratively — which signals, with which `old` / `new` / `index`, and the resulting list — without the loops and
without the state machine (`specAppends`, `specClears` in `Proofs/SignalsSlices.lean` are closed forms). -/

/-- **`extend(vs)`**: the list becomes `d ++ vs`, and exactly one `append` per item is signalled, in order, the `k`-th
    with `new` = the item and `index` = `len(d) + k` (the position at which it arrives); nothing else. -/
theorem C16_extend_signals (n : Nat) (d vs : List Int) :
    listOp n d (.lextend n vs) = .ok (d ++ vs, specAppends n d.length vs) := by
  simp only [listOp, mExtend_eq]

/-- **`lst += vs`**: the signals of `extend(vs)`, then one `change` whose `old` and `new` are both the extended list
    (the descriptor's `__set__` is handed the list object itself). -/
theorem C16_iadd_signals (n : Nat) (d vs : List Int) :
    listOp n d (.liadd n vs) =
      .ok (d ++ vs, specAppends n d.length vs ++ [⟨n, .change, .list (d ++ vs), .list (d ++ vs), .none⟩]) := by
  simp only [listOp, mExtend_eq]

/-- **`clear()`**: the list becomes empty, and exactly one `remove` per item is signalled, from the last item to the
    first, each with `old` = the item removed and `index` = -1 (it is `pop()` until the list is empty); nothing else. -/
theorem C16_clear_signals (n : Nat) (d : List Int) :
    listOp n d (.lclear n) = .ok ([], specClears n d) := by
  simp only [listOp, mClear_spec]

example : specAppends 1 2 [7, 8] = [⟨1, .append, .none, .int 7, .int 2⟩, ⟨1, .append, .none, .int 8, .int 3⟩] := by decide +kernel
example : specClears 1 [4, 5, 6] = [⟨1, .remove, .int 6, .none, .int (-1)⟩, ⟨1, .remove, .int 5, .none, .int (-1)⟩,
    ⟨1, .remove, .int 4, .none, .int (-1)⟩] := by decide +kernel

/-! ### `extend` / `+=` from an iterable that raises part-way (`Model/SignalsSrc.lean`) -/

/-- **`extend(src)` where `src` yields `vs[0..k)` and then raises**: the items taken from the iterable before it raised
    — and only they — are in the list, each of them was announced by one `append` (item, index at which it arrived),
    in order, nothing else was signalled; the exception comes out exactly when the iterable raised (`k < len(vs)`); and
    a listener that applies these signals to its copy has the real list although the call did not complete. -/
theorem C16_extend_failing_source (n : Nat) (d vs : List Int) (k : Nat) :
    mExtendSrc n d vs k [] = ((d ++ vs.take k, specAppends n d.length (vs.take k)), decide (k < vs.length)) ∧
    replay d (mExtendSrc n d vs k []).1.2 = some (mExtendSrc n d vs k []).1.1 := by
  have h := mExtendSrc_acc n d vs k []
  simp only [List.nil_append] at h
  exact ⟨h, h ▸ replay_specAppends n d (vs.take k)⟩

/-- **On the machine** (any state, any handlers): `extend` / `+=` from such an iterable is `extend` of the items it
    yielded before it raised (state and deliveries; for `+=` no `change` follows, the assignment is not reached); if it
    does not raise, it is the plain `extend` / `+=` (`C16_failing_source_histories` lifts this to histories). -/
theorem C16_failing_source_is_extend_of_consumed (progs : Nat → List Act) (s : St) (iadd : Bool) (n : Nat)
    (vs : List Int) (k : Nat) :
    stepSrcR progs s iadd n vs k =
      if k < vs.length then
        ((stepR progs s (.lextend n (vs.take k))).1, (stepR progs s (.lextend n (vs.take k))).2, (s.lists n).isSome)
      else
        ((stepR progs s (if iadd then .liadd n vs else .lextend n vs)).1,
         (stepR progs s (if iadd then .liadd n vs else .lextend n vs)).2, false) := by
  have h := fun d => mExtendSrc_acc n d vs
  have hx : ∀ l, stepR progs s (.lextend n l) = stepList (notifyAllR progs) s n (.lextend n l) :=
    fun _ => stepR_list rfl
  unfold stepSrcR
  cases hl : s.lists n with
  | none =>
    cases iadd
    · simp only [hx, stepList, hl, Option.isSome_none, Bool.false_eq_true, if_false, ite_self]
    · simp only [hx, stepR_list (op := .liadd n vs) rfl, stepList, hl, Option.isSome_none, if_true, ite_self]
  | some d =>
    by_cases hk : k < vs.length
    · simp only [h, List.nil_append, hk, decide_true, Bool.not_true, Bool.and_false, Bool.false_eq_true, if_false,
        if_true, hx, stepList, hl, listOp, mExtend_eq, Option.isSome_some]
    · have ht : vs.take k = vs := List.take_of_length_le (by omega)
      cases iadd
      · simp only [h, ht, List.nil_append, hk, decide_false, Bool.not_false, Bool.and_true, Bool.false_eq_true,
          if_false, hx, stepList, hl, listOp, mExtend_eq]
      · simp only [h, ht, List.nil_append, hk, decide_false, Bool.not_false, Bool.and_self, if_true, if_false]

/-- the operation of `Op` with the same effect: `extend` of the items the iterable yielded before it raised -/
def OpS.asOp : OpS → Op
  | .op o => o
  | .src iadd n vs k =>
    if k < vs.length then .lextend n (vs.take k) else if iadd then .liadd n vs else .lextend n vs

/-- **Histories with failing iterables** (∀ states, ∀ handler programs, ∀ histories of `Op`s and of `extend(src)` /
    `+= src` calls whose iterable raises anywhere): the state reached and everything every handler was called with are
    those of the history in which each such call is replaced by `extend` of the items its iterable yielded before it
    raised (`OpS.asOp`) — so the theorems about histories (registry, deliveries, replicas) hold for these histories with
    `ops.map OpS.asOp` for `ops` (out of which calls the exception comes: `C16_failing_source_is_extend_of_consumed`,
    third component, call by call). -/
theorem C16_failing_source_histories (progs : Nat → List Act) (s : St) (ops : List OpS) :
    (runS progs s ops).1 = (runR progs s (ops.map OpS.asOp)).1 ∧
    (runS progs s ops).2.1 = (runR progs s (ops.map OpS.asOp)).2 := by
  induction ops generalizing s with
  | nil => exact ⟨rfl, rfl⟩
  | cons o ops ih =>
    have hstep : (stepS progs s o).1 = (stepR progs s o.asOp).1 ∧ (stepS progs s o).2.1 = (stepR progs s o.asOp).2 := by
      cases o with
      | op o => exact ⟨rfl, rfl⟩
      | src iadd n vs k =>
        simp only [stepS, OpS.asOp, C16_failing_source_is_extend_of_consumed]
        split <;> exact ⟨rfl, rfl⟩
    obtain ⟨i1, i2⟩ := ih (stepS progs s o).1
    simp only [runS, List.map_cons, runR]
    rw [← hstep.1, ← hstep.2]
    exact ⟨i1, by rw [i2]⟩

/-- **A listener keeps its replica through failing iterables**: the listener of `C16_listener_replica_all_histories`,
    in a history that also contains `extend(src)` / `+= src` calls whose iterable raises part-way, still has exactly
    the real list — the items that arrived before the exception included. -/
theorem C16_listener_replica_failing_sources (s : St) (ops : List OpS) (n h : Nat)
    (hobs : ∀ v, .assign n v ∉ ops.map OpS.asOp)
    (hsub : subscribedThroughout n h s (ops.map OpS.asOp) = true) :
    replay ((s.lists n).getD []) (deliveriesTo h n (runS (fun _ => []) s ops).2.1) =
      some (((runS (fun _ => []) s ops).1.lists n).getD []) := by
  obtain ⟨h1, h2⟩ := C16_failing_source_histories (fun _ => []) s ops
  rw [h1, h2, runR_passive (fun _ => rfl)]
  exact C16_listener_replica_all_histories s _ n h hobs hsub

/-- non-vacuity: handler 7 subscribed with `All()`; `extend` from an iterable that breaks after 2 of 3 items, an
    `append`, `+=` from one that breaks at once and from one that does not: the exception comes out of the first and the
    third call, and the replica is the list -/
def exSrcOps : List OpS :=
  [.op (.lassign 1 [1]), .src false 1 [5, 6, 7] 2, .op (.lappend 1 8), .src true 1 [9] 0, .src true 1 [4] 1]

example : (runS (fun _ => []) exListenerSt exSrcOps).2.2 = [false, true, false, true, false] ∧
    subscribedThroughout 1 7 exListenerSt (exSrcOps.map OpS.asOp) = true ∧
    replay [] (deliveriesTo 7 1 (runS (fun _ => []) exListenerSt exSrcOps).2.1) = some [1, 5, 6, 8, 4] ∧
    (runS (fun _ => []) exListenerSt exSrcOps).1.lists 1 = some [1, 5, 6, 8, 4] := by decide +kernel

/-- non-vacuity: the iterable breaks after two of four items — two items arrive, two `append`s, the exception comes out -/
example : mExtendSrc 1 [9] [5, 6, 7, 8] 2 [] =
    (([9, 5, 6], [⟨1, .append, .none, .int 5, .int 1⟩, ⟨1, .append, .none, .int 6, .int 2⟩]), true) := by decide +kernel

/-! ### handlers that subscribe / unsubscribe / clear while they are being notified

`runR progs s ops`: the same machine, but handler `h`, whenever it is called, makes the registry calls `progs h`
(`observe`, `unobserve`, `clear_all_subscriptions`, with names / types / `All()`) before it returns.  One round of
`_mesa_notify` (G13 repaired) = `roundLoop`: the subscriber list as it was when the signal was emitted is walked in
order; the registry the calls act on is the live one. -/

/-- Handlers that make no calls are the passive handlers of all theorems above: the two machines coincide. -/
theorem C16_reentrant_passive_is_run {progs : Nat → List Act} (hp : ∀ h, progs h = []) (s : St) (ops : List Op) :
    runR progs s ops = run s ops :=
  runR_passive hp s ops

/-- **A round of notification leaves the registry to the handlers** (fails with G13, where the list the round
    started from was written back and undid every `unobserve` / `clear_all_subscriptions` made meanwhile): after the
    round the registry is what the calls of the handlers that were called, in the order they were called, made of
    it — apart from the dead references dropped from the list of the signal. -/
theorem C16_reentrant_round_registry (progs : Nat → List Act) (r : Reg Nat) (alive : Nat → Bool) (n : Nat) (t : SigType) :
    let called := (r.deliverR progs alive n t).2
    let r' := r.acts alive (called.flatMap progs)
    (r.deliverR progs alive n t).1 = r'.setSubs n t ((r'.subs n t).filter alive) := by
  obtain ⟨new, h1, h2, _, _⟩ := roundLoop_spec progs alive n t (r.subs n t) r []
  simp only [Reg.deliverR, h1, h2, List.nil_append]

/-- **Only subscribers are called — "after `unobserve` or `clear_all_subscriptions` a handler receives nothing more",
    also inside a round**: the handlers called for a signal are taken, in order, from the live subscribers the signal
    had when it was emitted, and each of them is, when its turn comes, still subscribed in the registry as the calls
    of the handlers called before it have left it. -/
theorem C16_reentrant_called_are_subscribed (progs : Nat → List Act) (r : Reg Nat) (alive : Nat → Bool) (n : Nat)
    (t : SigType) :
    let called := (r.deliverR progs alive n t).2
    called.Sublist ((r.subs n t).filter alive) ∧
    ∀ pre h post, called = pre ++ h :: post →
      alive h = true ∧ h ∈ (r.acts alive (pre.flatMap progs)).subs n t := by
  obtain ⟨new, h1, _, h3, h4⟩ := roundLoop_spec progs alive n t (r.subs n t) r []
  simp only [Reg.deliverR, h1, List.nil_append]
  exact ⟨h3, h4⟩

/-- **Every handler nobody unsubscribes is called, once per subscription**: a live handler that none of the calls made
    during the round takes out of the list of the signal (`Act.keeps`: e.g. `observe` of anything, `unobserve` of
    another handler, `clear_all_subscriptions` of another observable) receives the signal exactly as often as it is
    subscribed. -/
theorem C16_reentrant_untouched_called_once_per_subscription (progs : Nat → List Act) {r : Reg Nat} (w : r.WF)
    (alive : Nat → Bool) (n : Nat) (t : SigType) (h : Nat) (hal : alive h = true)
    (hk : ∀ g ∈ r.subs n t, ∀ a ∈ progs g, a.keeps alive h n t) :
    (r.deliverR progs alive n t).2.count h = (r.subs n t).count h := by
  have := roundLoop_complete progs alive n t h hal (r.subs n t) r [] w hk id
  simpa [Reg.deliverR] using this

/-- **The registry is the history of all registry calls, those made by handlers included** (∀ classes, ∀ histories,
    ∀ handler programs): after any history each subscriber list holds — as far as live handlers are concerned —
    exactly what the loop-free table `specSubs` says for the history in which every operation is followed by the
    calls of the handlers it reached, in the order they were reached. -/
theorem C16_reentrant_registry_is_call_history {ds : List Decl} (hds : DeclsOK ds) (progs : Nat → List Act)
    (ops : List Op) :
    Refines (runR progs (init ds) ops).1
      (specSubs (init ds).reg (flatOps progs ops (runR progs (init ds) ops).2)) :=
  (runR_follows (init_wf hds) progs ops ⟨rfl, fun _ _ => rfl⟩).2

/-! non-vacuity: handlers 1 (one-shot: unsubscribes itself), 2 (passive), 3 (unsubscribes 2), 4 (clears the observable),
    5 (subscribes 2) on the Observable 0 of `exDecls` -/

def exProgs : Nat → List Act
  | 1 => [.unobserve (.one 0) (.one .change) 1]
  | 3 => [.unobserve .all .all 2]
  | 4 => [.clear (.one 0)]
  | 5 => [.observe (.one 0) .all 2]
  | _ => []

/-- a one-shot handler is called once (with G13 it stayed subscribed and was called for every later signal) -/
example : (runR exProgs (init exDecls) [.observe (.one 0) (.one .change) 1, .observe .all .all 2, .assign 0 1,
      .assign 0 2]).2.map (fun o => match o with | .ok ds => ds.map (·.1) | .err _ => []) =
    [[], [], [1, 2], [2]] := by decide +kernel

/-- a handler unsubscribed by a handler called before it does not get the signal in flight, nor any later one;
    `clear_all_subscriptions` inside a handler holds; a handler subscribed inside a round is called from the next
    signal on -/
example : (runR exProgs (init exDecls) [.observe .all .all 3, .observe .all .all 2, .assign 0 1, .assign 0 2,
      .observe (.one 0) .all 4, .observe (.one 0) .all 2, .assign 0 3, .assign 0 4,
      .observe (.one 0) .all 5, .assign 0 5, .assign 0 6]).2.map
        (fun o => match o with | .ok ds => ds.map (·.1) | .err _ => []) =
    [[], [], [3], [3], [], [], [3, 4], [], [], [5], [5, 2]] := by decide +kernel

/-- non-vacuity of `Act.keeps` in `C16_reentrant_untouched_called_once_per_subscription` -/
example : (Act.observe (.one 0) .all 2).keeps (fun _ => true) 7 0 .change := Act.keeps_observe _ _ _ _ _ _ _

/-- non-vacuity of `C16_reentrant_untouched_called_once_per_subscription` with handlers that do make calls and a count
    above 1: handler 2 is subscribed twice to `change` of the Observable 0, between handler 5 (which subscribes 9 when
    called), handler 6 (which unsubscribes 9) and handler 8 (which clears the ObservableList 1); every call of every
    subscriber keeps 2 (the hypothesis `hk`), and 2 is called twice -/
def exProgs2 : Nat → List Act
  | 5 => [.observe (.one 0) .all 9]
  | 6 => [.unobserve (.one 0) (.one .change) 9]
  | 8 => [.clear (.one 1)]
  | _ => []

def exReg2 : Reg Nat :=
  (run (init exDecls) [.observe (.one 0) .all 5, .observe (.one 0) .all 2, .observe (.one 0) .all 6,
    .observe .all (.one .change) 2, .observe (.one 0) .all 8]).1.reg

example : exReg2.subs 0 .change = [5, 2, 6, 2, 8] ∧
    (exReg2.deliverR exProgs2 (fun _ => true) 0 .change).2 = [5, 2, 6, 2, 8] ∧
    (exReg2.deliverR exProgs2 (fun _ => true) 0 .change).2.count 2 = 2 := by decide +kernel

example : ∀ g ∈ exReg2.subs 0 .change, ∀ a ∈ exProgs2 g, a.keeps (fun _ => true) 2 0 .change := by
  have hs : exReg2.subs 0 .change = [5, 2, 6, 2, 8] := by decide +kernel
  rw [hs]
  intro g hg a ha
  simp only [List.mem_cons, List.not_mem_nil, or_false] at hg
  rcases hg with rfl | rfl | rfl | rfl | rfl <;> simp only [exProgs2, List.mem_cons, List.not_mem_nil, or_false] at ha
  · subst ha
    exact Act.keeps_observe _ _ _ _ _ _ _
  · subst ha
    exact Act.keeps_unobserve_other _ _ _ _ _ (by decide) rfl
  · subst ha
    exact Act.keeps_clear_other _ _ _ _ (by decide)

end Mesa.Signals
