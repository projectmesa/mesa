import MesaModel.Proofs.LegacyChoose
import MesaModel.Proofs.LegacyNetState
import MesaModel.Proofs.LegacyIndex
import MesaModel.Proofs.LegacySelect
import MesaModel.Proofs.LegacyDraws
import MesaModel.Proofs.LegacyTruth

/-!
# C08 — legacy grids: pos, cell contents, empties and empty_mask never disagree

The lemmas used are in `MesaModel/Proofs/Legacy*.lean`.  `Grid` models `SingleGrid` (`multi = false`)
and `MultiGrid` (`multi = true`); the hex variants inherit every call of this property unchanged (the
correspondence check runs all four classes against this one model).  `Inv` (Proofs/LegacyDefs.lean) is the
agreement of the views; `HistOk` is the quantifier's precondition (`place_agent` of an unplaced agent at
in-grid coordinates; every other call unrestricted: arbitrary integer targets, placed or unplaced agents,
any scripts of random draws, reads of `empties` anywhere).
-/
namespace Mesa.Legacy

/-- **All histories keep the views in agreement.**  For every width and height from 1 up, torus on/off,
    both cell disciplines, every cutoff and every history within the quantifier: `agent.pos` is the one
    cell whose content includes the agent, cells hold no duplicates, a SingleGrid cell holds at most one
    agent, `empty_mask` is exactly emptiness, and `_empties`, *if it has been built at any earlier point*,
    is exactly the sorted set of empty in-grid cells. -/
theorem C08_views_agree_all_histories (w h : Int) (hw : 1 ≤ w) (hh : 1 ≤ h) (torus multi : Bool) (cutoff : Nat)
    (ops : List Op) (hok : HistOk (init w h torus multi cutoff) ops) :
    Inv (run (init w h torus multi cutoff) ops) :=
  (run_inv_cfg _ ops (by simp [init]; omega) (by simp [init]; omega) (inv_init w h torus multi cutoff) hok).1

/-- one call keeps the agreement (the induction step, for any state — reachable or not — that satisfies it) -/
theorem C08_step_keeps_agreement (g : Grid) (hw : 0 < g.w) (hh : 0 < g.h) (hi : Inv g) (op : Op) (hok : OpOk g op) :
    Inv (step g op).1 :=
  (step_inv_cfg g op hw hh hi hok).1

/-- `pos` is the one cell holding the agent; `None` exactly when it is in no cell -/
theorem C08_pos_is_the_one_cell (g : Grid) (hi : Inv g) (a : Aid) :
    (∀ p, g.pos a = some p → a ∈ g.content p ∧ ∀ q, a ∈ g.content q → q = p) ∧
    (g.pos a = none ↔ ∀ q, a ∉ g.content q) :=
  ⟨fun _ hp => hi.agree.mem_content hp, hi.agree.pos_eq_none a⟩

/-- a SingleGrid cell never holds two agents, after any history -/
theorem C08_single_cell_at_most_one (w h : Int) (hw : 1 ≤ w) (hh : 1 ≤ h) (torus : Bool) (cutoff : Nat)
    (ops : List Op) (hok : HistOk (init w h torus false cutoff) ops) (p : Coord) :
    ((run (init w h torus false cutoff) ops).content p).length ≤ 1 := by
  have h1 := run_inv_cfg _ ops (by simp [init]; omega) (by simp [init]; omega) (inv_init w h torus false cutoff) hok
  exact h1.1.single (by rw [h1.2.2.2.2.1]; rfl) p

/-- **`empties` is exact whether or not it was read before**: the set returned is the strictly sorted list of
    the empty in-grid cells; it is the very list a fresh `build_empties` would produce now (so an `_empties`
    built at any earlier point and maintained incrementally since is indistinguishable from one built now);
    reading changes nothing observable and keeps the agreement. -/
theorem C08_empties_exact_built_or_not (g : Grid) (hi : Inv g) :
    SortedSet g.readEmpties.2 ∧ (∀ p, p ∈ g.readEmpties.2 ↔ g.inGrid p ∧ g.content p = []) ∧
    g.readEmpties.2 = g.buildEmpties ∧ ObsEq g g.readEmpties.1 ∧ Inv g.readEmpties.1 :=
  ⟨(readEmpties_spec g hi).1, (readEmpties_spec g hi).2, readEmpties_eq_build g hi, readEmpties_obs g, readEmpties_inv g hi⟩

/-- `exists_empty_cells`, `is_cell_empty` and `empty_mask` describe exactly the cells that hold no agent -/
theorem C08_emptiness_views (g : Grid) (hi : Inv g) :
    (g.existsEmpty.2 = true ↔ ∃ p, g.inGrid p ∧ g.content p = []) ∧
    (∀ p, g.isCellEmpty p = true ↔ g.content p = []) ∧
    (∀ p, g.inGrid p → (g.mask p = true ↔ g.content p = [])) := by
  refine ⟨?_, fun p => by simp [Grid.isCellEmpty], fun p hp => by rw [hi.mask p hp]; simp⟩
  have hs := readEmpties_spec g hi
  unfold Grid.existsEmpty
  simp only [decide_eq_true_eq]
  constructor
  · intro hl
    cases he : g.readEmpties.2 with
    | nil =>
      rw [he] at hl
      simp at hl
    | cons p ps => exact ⟨p, (hs.2 p).mp (by rw [he]; simp)⟩
  · rintro ⟨p, hp⟩
    exact List.length_pos_of_mem ((hs.2 p).mpr hp)

/-- `grid.agents` lists every placed agent exactly once and nobody else, and is the cell contents in
    iteration order (the `AgentSet` drops nothing) -/
theorem C08_agents_view (g : Grid) (hi : Inv g) :
    g.agentsList.Nodup ∧ (∀ a, a ∈ g.agentsList ↔ g.pos a ≠ none) ∧ g.agentsList = g.allCells.flatMap g.content :=
  ⟨(agentsList_spec g hi).1, (agentsList_spec g hi).2, agentsList_eq g hi⟩

/-- **`grid.agents` shows an agent whatever its truth value** (finding L-AGENTS-FALSY, repaired): agents are ordinary objects, a
    subclass may define `__bool__` / `__len__`.  `grid.agents` of the model takes its emptiness test from the generated table
    (`agentsTest`: probed on the four classes with a falsy agent on every run) and is handed the set `fz` of falsy agents; the
    test of the code is `is None`, and with it `grid.agents` is the view of `C08_agents_view` for every `fz`.  (With the
    table entry `truthy` the model leaves a falsy occupant of a SingleGrid out, as code testing `if not entry` does: example below.) -/
theorem C08_agents_whatever_truth_value (g : Grid) (fz : Falsy) :
    agentsTest = .eqDefault ∧ g.agentsBy .eqDefault fz = g.agentsList ∧ g.agentsListT fz = g.agentsList :=
  ⟨agentsTest_eq, agentsBy_eqDefault fz g, agentsListT_eq g fz⟩

/-- the truthiness test (`if not entry: continue`) leaves the falsy agent 0 out of `grid.agents` of a SingleGrid, not of a MultiGrid -/
example : (run (init 3 3 false false 8) [.place 0 (1, 1), .place 1 (0, 2)]).agentsBy .truthy [0] = [1] := by decide +kernel
example : (run (init 3 3 false false 8) [.place 0 (1, 1), .place 1 (0, 2)]).agentsBy .eqDefault [0] = [1, 0] := by decide +kernel
example : (run (init 3 3 false true 8) [.place 0 (1, 1), .place 1 (0, 2)]).agentsBy .truthy [0] = [1, 0] := by decide +kernel

/-- indexing `grid[x, y]` wraps on a torus and rejects outside a bounded grid -/
theorem C08_getitem_wraps_or_rejects (g : Grid) (hw : 0 < g.w) (hh : 0 < g.h) (p : Coord) :
    (g.inGrid p → g.getItem p = .ok (g.content p)) ∧
    (¬ g.inGrid p → g.torus = true → g.inGrid (p.1 % g.w, p.2 % g.h) ∧ g.getItem p = .ok (g.content (p.1 % g.w, p.2 % g.h))) ∧
    (¬ g.inGrid p → g.torus = false → g.getItem p = .error .oob) := by
  unfold Grid.getItem
  rw [torusAdj_eq]
  refine ⟨fun h => by rw [if_pos h], fun h ht => ?_, fun h ht => by rw [if_neg h, if_neg (by simp [ht])]⟩
  rw [if_neg h, if_pos ht]
  exact ⟨inGrid_emod g hw hh _ _, rfl⟩

/-- **`move_agent` wraps or rejects**: an in-grid target is taken as is; a target outside a torus is wrapped
    with Python's `%` (= `Int.emod`) and the wrapped cell is in the grid; a target outside a bounded grid is
    rejected with the state untouched; whenever the call succeeds the agent's `pos` is that target cell and
    no other agent's `pos` changes. -/
theorem C08_move_wraps_or_rejects (g : Grid) (hw : 0 < g.w) (hh : 0 < g.h) (a : Aid) (p : Coord) :
    (g.inGrid p → (g.move a p).2 = .ok → (g.move a p).1.pos a = some p) ∧
    (¬ g.inGrid p → g.torus = true →
        g.inGrid (p.1 % g.w, p.2 % g.h) ∧ ((g.move a p).2 = .ok → (g.move a p).1.pos a = some (p.1 % g.w, p.2 % g.h))) ∧
    (¬ g.inGrid p → g.torus = false → g.move a p = (g, .err .oob)) ∧
    (∀ b, b ≠ a → (g.move a p).1.pos b = g.pos b) := by
  refine ⟨fun h hok => ?_, fun h ht => ?_, fun h ht => ?_, fun b hb => move_pos_other g a b p hb⟩
  · obtain ⟨q, hq, hp⟩ := move_ok_pos g a p hok
    rw [torusAdj_inGrid g p h] at hq
    cases hq
    exact hp
  · refine ⟨inGrid_emod g hw hh _ _, fun hok => ?_⟩
    obtain ⟨q, hq, hp⟩ := move_ok_pos g a p hok
    rcases torusAdj_ok g hw hh p q hq with ⟨_, ⟨h', _⟩ | ⟨_, _, rfl⟩⟩
    · exact absurd h' h
    · exact hp
  · rw [move_eq, (torusAdj_error_iff g p).mpr ⟨h, ht⟩]

/-- `SingleGrid.move_agent` onto a (wrapped) target cell that holds somebody else is rejected with `Cell not empty`,
    nothing changed (`C18_legacy_rejects_exactly` has the result of `move_agent` in every case) -/
theorem C08_move_single_rejects_occupied (g : Grid) (hs : g.multi = false) (a : Aid) (p q : Coord)
    (hq : g.torusAdj p = .ok q) (hocc : g.content q ≠ [] ∧ g.content q ≠ [a]) :
    g.move a p = (g, .err .full) := by
  unfold Grid.move
  rw [hs, hq]
  simp [Grid.isCellEmpty, hocc.1, hocc.2]

/-- **`move_to_empty` lands on a cell that was empty** (both branches: rejection sampling above the cutoff,
    `choice(sorted(empties))` below it; whether or not `empties` had been built) -/
theorem C08_moveToEmpty_lands_on_empty (g : Grid) (hw : 0 < g.w) (hh : 0 < g.h) (hi : Inv g) (a : Aid) (s : Grid.Script)
    (hok : (g.moveToEmpty a s).2 = .ok) :
    ∃ q, g.inGrid q ∧ g.content q = [] ∧ (g.moveToEmpty a s).1.pos a = some q := by
  rcases moveToEmpty_cases g a s hw hh hi with ⟨h, _⟩ | ⟨h, _⟩ | ⟨q, hq, hc, h⟩
  · rw [h] at hok
    cases hok
  · rw [h] at hok
    cases hok
  · rw [h] at hok ⊢
    exact ⟨q, hq, hc, removePlace_ok_pos _ a q hok⟩

/-- `move_to_empty` raises `No empty cells` exactly on a full grid -/
theorem C08_moveToEmpty_full_grid (g : Grid) (hw : 0 < g.w) (hh : 0 < g.h) (hi : Inv g) (a : Aid) (s : Grid.Script) :
    (g.moveToEmpty a s).2 = .err .noEmpty ↔ ∀ p, g.inGrid p → g.content p ≠ [] := by
  constructor
  · intro herr
    rcases moveToEmpty_cases g a s hw hh hi with ⟨_, h⟩ | ⟨h, _⟩ | ⟨q, hq, hc, h⟩
    · exact h
    · rw [h] at herr
      cases herr
    · -- the tail `remove_agent`; `place_agent` never raises this error
      rw [h, removePlace_res _ (readEmpties_inv g hi)] at herr
      split at herr
      · cases herr
      · split at herr <;> cases herr
  · intro hfull
    rcases moveToEmpty_cases g a s hw hh hi with ⟨h, _⟩ | ⟨_, p, hp, hc⟩ | ⟨q, hq, hc, _⟩
    · rw [h]
    · exact absurd hc (hfull p hp)
    · exact absurd hc (hfull q hq)

/-- **`move_agent_to_one_of` lands on one of the offered cells** (after wrapping) -/
theorem C08_moveToOneOf_lands_on_offered (g : Grid) (hw : 0 < g.w) (hh : 0 < g.h) (a : Aid) (ps : List Coord)
    (sel : Grid.Selection) (he : Grid.HandleEmpty) (s : Grid.Script) (hne : ps ≠ [])
    (hok : (g.moveToOneOf a ps sel he s).2 = .ok) :
    ∃ q ∈ ps, ∃ q', g.torusAdj q = .ok q' ∧ (g.moveToOneOf a ps sel he s).1.pos a = some q' := by
  rw [moveToOneOf_nonempty g a hne] at hok ⊢
  cases hc : g.chooseOneOf a ps sel s with
  | error e =>
    rw [hc] at hok
    cases hok
  | ok q =>
    rw [hc] at hok
    simp only [] at hok ⊢
    obtain ⟨q', hq', hp⟩ := move_ok_pos g a q hok
    exact ⟨q, (chooseOneOf_spec g a ps sel s q hc).1, q', hq', hp⟩

/-- **`closest` lands on a nearest offered cell**: the agent ends on the cell an offered position `q` denotes,
    and no offered position denotes a cell nearer (in `_distance_squared`, which `C08_distance_is_torus_metric`
    shows to be the metric of the torus) to where the agent stood -/
theorem C08_closest_minimises_distance (g : Grid) (hw : 0 < g.w) (hh : 0 < g.h) (a : Aid) (ps : List Coord)
    (he : Grid.HandleEmpty) (s : Grid.Script) (hne : ps ≠ [])
    (hok : (g.moveToOneOf a ps .closest he s).2 = .ok) :
    ∃ cur, g.pos a = some cur ∧ ∃ q ∈ ps, ∃ q', g.torusAdj q = .ok q' ∧
      (g.moveToOneOf a ps .closest he s).1.pos a = some q' ∧
      g.distSq q' cur = g.distSq q cur ∧ ∀ y ∈ ps, g.distSq q cur ≤ g.distSq y cur := by
  rw [moveToOneOf_nonempty g a hne] at hok ⊢
  cases hc : g.chooseOneOf a ps .closest s with
  | error e =>
    rw [hc] at hok
    cases hok
  | ok q =>
    rw [hc] at hok
    simp only [] at hok ⊢
    obtain ⟨q', hq', hp⟩ := move_ok_pos g a q hok
    obtain ⟨hmem, hcl⟩ := chooseOneOf_spec g a ps .closest s q hc
    obtain ⟨cur, hcur, hmin⟩ := hcl rfl
    refine ⟨cur, hcur, q, hmem, q', hq', hp, ?_, hmin⟩
    rcases torusAdj_ok g hw hh q q' hq' with ⟨_, ⟨_, rfl⟩ | ⟨_, ht, rfl⟩⟩
    · rfl
    · exact distSq_wrap g hw hh ht q cur

/-- **what `closest` measures on a torus** (N1 repair): per axis the least distance between the residue
    classes of the two coordinates — the same for an out-of-grid coordinate and the cell it wraps to -/
theorem C08_distance_is_torus_metric (g : Grid) (hw : 0 < g.w) (hh : 0 < g.h) (ht : g.torus = true) (p q : Coord) :
    (∃ mx my, IsTorusDist g.w p.1 q.1 mx ∧ IsTorusDist g.h p.2 q.2 my ∧ g.distSq p q = mx * mx + my * my) ∧
    g.distSq (p.1 % g.w, p.2 % g.h) q = g.distSq p q :=
  ⟨distSq_torus_spec g hw hh ht p q, distSq_wrap g hw hh ht p q⟩

/-! ## what each call does to the cell lists (the order inside a MultiGrid cell is observable) -/

/-- **`remove_agent`**: a placed agent leaves its cell's list and gets `pos None`, nothing else changes;
    **an agent that is not on the grid**: nothing changes — a SingleGrid returns silently, a MultiGrid raises
    TypeError (`x, y = None`) -/
theorem C08_remove_takes_out_or_changes_nothing (g : Grid) (hi : Inv g) (a : Aid) :
    (∀ p, g.pos a = some p → (g.remove a).2 = .ok ∧ (g.remove a).1.pos a = none ∧
      (g.remove a).1.content p = (g.content p).erase a ∧ (∀ q, q ≠ p → (g.remove a).1.content q = g.content q) ∧
      ∀ b, b ≠ a → (g.remove a).1.pos b = g.pos b) ∧
    (g.pos a = none → (g.remove a).1 = g ∧ (g.remove a).2 = if g.multi then .err .type else .ok) := by
  refine ⟨fun p hp => ?_, fun hp => by rw [remove_none g a hp]; exact ⟨rfl, rfl⟩⟩
  have hok : (g.remove a).2 = .ok := by rw [remove_res g hi, if_neg (by rw [hp]; simp)]
  refine ⟨hok, remove_ok_pos g a hok, remove_content g hi a p, fun q hq => ?_, fun b hb => remove_pos_other g a b hb⟩
  rw [remove_content g hi a q, List.erase_of_not_mem ((hi.mem_content hp).2.2 q hq)]

/-- **the hazard outside the quantifier — `remove_agent` of an agent that lives on another space** (`pos a = some p`
    was written by that space; this grid's cell `p` does not hold `a`): `MultiGrid.remove_agent` raises ValueError and
    changes nothing; `SingleGrid.remove_agent` does not look — it clears cell `p`, so an occupant `b` of that cell is
    evicted while keeping its `pos`, and the views of this grid disagree from then on (`Grid.foreignPos` and the
    protocol line `foreign` reproduce it on the real classes; recorded as an observation, not a defect by the
    statement: the quantifier's histories are those of one grid) -/
theorem C08_remove_foreign_agent (g : Grid) (a : Aid) (p : Coord) (hp : g.pos a = some p) (hf : a ∉ g.content p) :
    (g.multi = true → g.remove a = (g, .err .value)) ∧
    (g.multi = false → (g.remove a).2 = .ok ∧ (g.remove a).1.content p = [] ∧ (g.remove a).1.pos a = none ∧
      (∀ b, b ≠ a → (g.remove a).1.pos b = g.pos b) ∧
      ∀ b, b ∈ g.content p → g.pos b = some p → ¬ Inv (g.remove a).1) := by
  constructor
  · intro hm
    unfold Grid.remove
    rw [hp]
    simp [hm, hf]
  · intro hm
    have hc : (g.remove a).1.content p = [] := remove_single_content g a p hm hp
    have hok : (g.remove a).2 = .ok := by unfold Grid.remove; rw [hp]; simp [hm]
    refine ⟨hok, hc, remove_ok_pos g a hok, fun b hb => remove_pos_other g a b hb, ?_⟩
    intro b hb hpb hinv
    have hba : b ≠ a := fun e => hf (e ▸ hb)
    have : (g.remove a).1.pos b = some p := by rw [remove_pos_other g a b hba, hpb]
    have hmem := (hinv.pos_content b p).mp this
    rw [hc] at hmem
    cases hmem

/-- **`place_agent`** (within the quantifier: unplaced agent) appends the agent to the cell's list -/
theorem C08_place_appends (g : Grid) (a : Aid) (p : Coord) (hpos : g.pos a = none) (hok : (g.place a p).2 = .ok) :
    (g.place a p).1.content p = g.content p ++ [a] ∧ (g.place a p).1.pos a = some p ∧
    (∀ q, q ≠ p → (g.place a p).1.content q = g.content q) ∧ ∀ b, b ≠ a → (g.place a p).1.pos b = g.pos b :=
  ⟨place_content_self g a p hpos hok, place_ok_pos g a p hpos hok, fun q hq => place_content_other g a p q hq,
   fun b hb => place_pos_other g a b p hb⟩

/-- **`move_agent`** of a placed agent, when it succeeds: the agent leaves its cell's list and is appended to
    the (wrapped) target's — also when both are the same cell: it goes to the end —; no other cell is touched -/
theorem C08_move_contents (g : Grid) (hw : 0 < g.w) (hh : 0 < g.h) (hi : Inv g) (a : Aid) (p cur : Coord)
    (hcur : g.pos a = some cur) (hok : (g.move a p).2 = .ok) :
    ∃ q, g.torusAdj p = .ok q ∧ (g.move a p).1.pos a = some q ∧
      (g.move a p).1.content q = (g.content q).erase a ++ [a] ∧
      (cur ≠ q → (g.move a p).1.content cur = (g.content cur).erase a) ∧
      ∀ x, x ≠ cur → x ≠ q → (g.move a p).1.content x = g.content x := by
  obtain ⟨q, hq, heq⟩ := move_ok_eq g a p hok
  rw [heq] at hok ⊢
  exact ⟨q, hq, removePlace_ok_pos g a q hok, removePlace_contents g hi a q cur hcur hok⟩

/-- **`swap_pos`** of two placed agents always succeeds and exchanges them: each is appended to the other's
    cell list and leaves its own, every other cell and agent is untouched; agents sharing a cell (or one agent
    swapped with itself): nothing happens -/
theorem C08_swap_exchanges (g : Grid) (hi : Inv g) (a b : Aid) (pa pb : Coord) (hpa : g.pos a = some pa) (hpb : g.pos b = some pb) :
    (g.swap a b).2 = .ok ∧ (g.swap a b).1.pos a = some pb ∧ (g.swap a b).1.pos b = some pa ∧
    (∀ c, c ≠ a → c ≠ b → (g.swap a b).1.pos c = g.pos c) ∧
    (pa = pb → (g.swap a b).1 = g) ∧
    (pa ≠ pb → (g.swap a b).1.content pb = (g.content pb).erase b ++ [a] ∧
               (g.swap a b).1.content pa = (g.content pa).erase a ++ [b]) ∧
    ∀ x, x ≠ pa → x ≠ pb → (g.swap a b).1.content x = g.content x := by
  by_cases hne : pa = pb
  · subst hne
    rw [swap_same g a b pa hpa hpb]
    exact ⟨rfl, hpa, hpb, fun _ _ _ => rfl, fun _ => rfl, fun h => absurd rfl h, fun _ _ _ => rfl⟩
  · have hab : a ≠ b := fun e => hne (by subst e; rw [hpa] at hpb; exact Option.some.inj hpb)
    obtain ⟨hok, _, _, hpos, hcb, hca, hco⟩ := swap_placed g hi a b pa pb hpa hpb hne
    refine ⟨hok, ?_, ?_, fun c hca hcb => ?_, fun h => absurd h hne, fun _ => ⟨hcb, hca⟩, hco⟩
    · rw [hpos, updA_other _ _ _ _ hab, updA_same]
    · rw [hpos, updA_same]
    · rw [hpos, updA_other _ _ _ _ hcb, updA_other _ _ _ _ hca]

/-! ## the read paths that take arbitrary integers and slices

`is_cell_empty`, `grid[x]` and `get_cell_list_contents` index `self._grid[x][y]` directly: no `torus_adj`, no
bounds check, Python's negative-index aliasing.  `grid[ix, iy]` sends ints through `torus_adj` and slices through
Python slicing.  The model says what these reads return for *all* integers / slices. -/

/-- **`is_cell_empty` for arbitrary integers**: in-grid coordinates are answered for that cell; a coordinate in
    `-size .. -1` aliases to the cell `size` further (Python indexing from the end) — it still is a cell of the
    grid and the answer is that cell's emptiness —; anything else raises IndexError -/
theorem C08_isCellEmpty_any_integers (g : Grid) (hw : 0 < g.w) (hh : 0 < g.h) (p : Coord) :
    (g.inGrid p → g.isCellEmptyRaw p = .ok (g.isCellEmpty p)) ∧
    (∀ b, g.isCellEmptyRaw p = .ok b → ∃ c, g.inGrid c ∧ (c.1 = p.1 ∨ c.1 = p.1 + g.w) ∧ (c.2 = p.2 ∨ c.2 = p.2 + g.h) ∧
      b = g.isCellEmpty c) ∧
    ((∃ e, g.isCellEmptyRaw p = .error e) ↔ (p.1 < -g.w ∨ g.w ≤ p.1 ∨ p.2 < -g.h ∨ g.h ≤ p.2)) := by
  refine ⟨fun h => by unfold Grid.isCellEmptyRaw; rw [rawCell_inGrid g p h], ?_, ?_⟩
  · intro b hb
    unfold Grid.isCellEmptyRaw at hb
    cases hc : g.rawCell p with
    | error e =>
      rw [hc] at hb
      cases hb
    | ok c =>
      rw [hc] at hb
      cases hb
      obtain ⟨h1, h2, h3⟩ := rawCell_ok g p c hc
      exact ⟨c, h1, h2, h3, rfl⟩
  · rw [← rawCell_error g hw hh p]
    unfold Grid.isCellEmptyRaw
    constructor
    · rintro ⟨e, he⟩
      cases hc : g.rawCell p with
      | error e' => exact ⟨e', rfl⟩
      | ok c =>
        rw [hc] at he
        cases he
    · rintro ⟨e, he⟩
      exact ⟨e, by rw [he]⟩

/-- **a slice never reaches outside the list and never repeats an index**: for every list length and every
    `slice(start, stop, step)` (any integers or `None`; only a zero step raises) the selected indices are
    in `0 .. n-1`, strictly increasing for a positive step and strictly decreasing for a negative one; `[:]` selects
    everything in order, `[a:b]` with `0 ≤ a ≤ b ≤ n` selects `a .. b-1`, and with in-range bounds and a positive step
    exactly the arithmetic progression below `stop` -/
theorem C08_slices_select_in_range_indices (n : Int) (hn : 0 ≤ n) (s : Grid.PySlice) :
    (Grid.sliceIndices n s = .error .value ↔ s.step = some 0) ∧
    (∀ l, Grid.sliceIndices n s = .ok l → (∀ i ∈ l, 0 ≤ i ∧ i < n) ∧ l.Nodup ∧
      (0 < s.step.getD 1 → l.Pairwise (· < ·)) ∧ (s.step.getD 1 < 0 → l.Pairwise (· > ·))) ∧
    Grid.sliceIndices n ⟨none, none, none⟩ = .ok ((List.range n.toNat).map fun (k : Nat) => (k : Int)) ∧
    (∀ a b, 0 ≤ a ∧ a ≤ b ∧ b ≤ n →
      Grid.sliceIndices n ⟨some a, some b, none⟩ = .ok ((List.range (b - a).toNat).map fun (k : Nat) => a + (k : Int))) ∧
    (∀ a b st i, 0 ≤ a ∧ a ≤ n ∧ 0 ≤ b ∧ b ≤ n → 0 < st →
      ∃ l, Grid.sliceIndices n ⟨some a, some b, some st⟩ = .ok l ∧ (i ∈ l ↔ ∃ k : Nat, i = a + (k : Int) * st ∧ i < b)) :=
  ⟨sliceIndices_error n s, fun l h => sliceIndices_spec n hn s l h, sliceIndices_full n, sliceIndices_simple n,
   fun a b st i h hst => mem_sliceIndices_step n a b st h hst i⟩

/-- **indexing shows cells of the grid**: every form of `grid[…]` that returns — `grid[x]`, `grid[(x1, y1), …]`,
    `grid[ix, iy]` with ints and slices — returns the contents of in-grid cells only; `grid[:, :]` is the iteration
    order, `grid[x, :]` is the column `grid[x]`; `grid[x]` aliases `-width .. -1` to the columns counted from the end
    and raises IndexError beyond; a tuple of positions is wrapped / rejected position by position like `grid[x, y]` -/
theorem C08_indexing_shows_cells (g : Grid) (hw : 0 < g.w) (hh : 0 < g.h) :
    (∀ ix iy cs, g.getItem2 ix iy = .ok cs → ∀ c ∈ cs, g.inGrid c) ∧
    g.getItem2 (.slice ⟨none, none, none⟩) (.slice ⟨none, none, none⟩) = .ok g.allCells ∧
    (∀ x, 0 ≤ x ∧ x < g.w → g.getItem2 (.int x) (.slice ⟨none, none, none⟩) = g.getColumn x) ∧
    (∀ x y, g.getItem2 (.int x) (.int y) = (g.torusAdj (x, y)).map fun c => [c]) ∧
    (∀ i, (0 ≤ i ∧ i < g.w → g.getColumn i = .ok ((List.range g.h.toNat).map fun (y : Nat) => (i, (y : Int)))) ∧
          (-g.w ≤ i ∧ i < 0 → g.getColumn i = .ok ((List.range g.h.toNat).map fun (y : Nat) => (i + g.w, (y : Int)))) ∧
          (i < -g.w ∨ g.w ≤ i → g.getColumn i = .error .index)) ∧
    (∀ ps cs, g.getMany ps = .ok cs → cs.length = ps.length ∧ (∀ c ∈ cs, g.inGrid c) ∧
      ∀ pc ∈ ps.zip cs, g.torusAdj pc.1 = .ok pc.2) :=
  ⟨getItem2_inGrid g hw hh, getItem2_full g hw, getItem2_column g hh, getItem2_int_int g, getColumn_spec g hw,
   fun ps cs h => getMany_ok g hw hh ps cs h⟩

/-! ## `coord_iter` and `select_cells` (the views built on iteration and on `empty_mask`)

`Grid.coordIter`, `Grid.selectCells`, `Layers` are in `Model/LegacySelect.lean`; `Grid.Candidate` (in the grid, in every mask,
empty if `only_empty`, every condition holds) and `Extreme.valid` (the layer exists, the mode is `highest` / `lowest`) in
`Proofs/LegacySelect.lean`. -/

/-- **`coord_iter()` shows every cell of the grid exactly once, in increasing `(x, y)` order, with its content**, and it
    agrees with `pos`: an agent's `pos` is the coordinate of the one entry that lists it -/
theorem C08_coord_iter_shows_every_cell_once (g : Grid) (hi : Inv g) :
    SortedSet (g.coordIter.map (·.2)) ∧ (g.coordIter.map (·.2)).Nodup ∧
    (∀ l c, (l, c) ∈ g.coordIter ↔ g.inGrid c ∧ l = g.content c) ∧
    (∀ a p, g.pos a = some p ↔ ∃ l, (l, p) ∈ g.coordIter ∧ a ∈ l) := by
  refine ⟨?_, ?_, mem_coordIter g, coordIter_pos g hi⟩
  · rw [coordIter_coords]
    exact sorted_allCells g
  · rw [coordIter_coords]
    exact (sorted_allCells g).nodup

/-- **after every history `select_cells(only_empty=True)` is `empties`**: the list selected through `empty_mask` is the
    very list `sorted(grid.empties)` gives at that moment — whether `empties` was built before, during or never in the
    history — for all sizes, torus flags, both cell disciplines, any layer values -/
theorem C08_select_only_empty_is_empties_all_histories (w h : Int) (hw : 1 ≤ w) (hh : 1 ≤ h) (torus multi : Bool) (cutoff : Nat)
    (ops : List Op) (hok : HistOk (init w h torus multi cutoff) ops) (ls : Layers) :
    (run (init w h torus multi cutoff) ops).selectCells ls [] true [] [] =
      .ok (run (init w h torus multi cutoff) ops).readEmpties.2 := by
  have hi := C08_views_agree_all_histories w h hw hh torus multi cutoff ops hok
  rw [selectCells_only_empty _ hi, (C08_empties_exact_built_or_not _ hi).2.2.1]

/-- **`select_cells` selects exactly**: with masks, `only_empty` and conditions on layers that exist (no extreme values) the
    result is the strictly `(x, y)`-sorted list of the cells of the grid that lie in every mask, hold no agent if `only_empty`,
    and satisfy every condition -/
theorem C08_select_cells_exact (g : Grid) (hi : Inv g) (ls : Layers) (masks : List CMask) (onlyEmpty : Bool) (conds : List Cond)
    (hv : ∀ c ∈ conds, c.layer < ls.n) :
    ∃ l, g.selectCells ls masks onlyEmpty conds [] = .ok l ∧ SortedSet l ∧ ∀ p, p ∈ l ↔ g.Candidate ls masks onlyEmpty conds p :=
  selectCells_exact g hi ls masks onlyEmpty conds hv

/-- **an extreme value keeps exactly the candidates that no candidate beats** (`highest`: a maximal value of the layer among
    the candidates, `lowest`: a minimal one; all ties are kept) -/
theorem C08_select_extreme_value (g : Grid) (hi : Inv g) (ls : Layers) (masks : List CMask) (onlyEmpty : Bool) (conds : List Cond)
    (hv : ∀ c ∈ conds, c.layer < ls.n) (i : Nat) (hl : i < ls.n) (high : Bool) :
    ∃ l, g.selectCells ls masks onlyEmpty conds [⟨i, if high then .highest else .lowest⟩] = .ok l ∧ SortedSet l ∧
      ∀ p, p ∈ l ↔ g.Candidate ls masks onlyEmpty conds p ∧ ∀ q, g.Candidate ls masks onlyEmpty conds q →
        if high then ls.data i q ≤ ls.data i p else ls.data i p ≤ ls.data i q := by
  obtain ⟨m, h1, h2⟩ := selectMask_conds g hi ls masks onlyEmpty conds hv
  obtain ⟨m', h3, h4⟩ := applyExtremes_one g ls i hl high m
  refine ⟨_, selectCells_of_mask g ls masks onlyEmpty conds _ m' (by rw [h2]; exact h3), sorted_filter_allCells g m', fun p => ?_⟩
  simp only [List.mem_filter, mem_allCells]
  constructor
  · rintro ⟨hp, hm⟩
    obtain ⟨hmp, hall⟩ := (h4 p hp).mp hm
    exact ⟨(h1 p hp).mp hmp, fun q hq => hall q hq.1 ((h1 q hq.1).mpr hq)⟩
  · rintro ⟨hc, hall⟩
    exact ⟨hc.1, (h4 p hc.1).mpr ⟨(h1 p hc.1).mpr hc, fun q hq hmq => hall q ((h1 q hq).mp hmq)⟩⟩

/-- **any chain of extreme values narrows, never to nothing**: the result is a sub-list of the candidates (same order), and
    if there is a candidate at all, a cell is selected -/
theorem C08_select_extremes_narrow (g : Grid) (hi : Inv g) (ls : Layers) (masks : List CMask) (onlyEmpty : Bool) (conds : List Cond)
    (hv : ∀ c ∈ conds, c.layer < ls.n) (exts : List Extreme) (hx : ∀ e ∈ exts, e.valid ls) :
    ∃ l0 l, g.selectCells ls masks onlyEmpty conds [] = .ok l0 ∧ g.selectCells ls masks onlyEmpty conds exts = .ok l ∧
      l.Sublist l0 ∧ (l0 ≠ [] → l ≠ []) := by
  obtain ⟨m, h1, h2⟩ := selectMask_conds g hi ls masks onlyEmpty conds hv
  obtain ⟨m', h3, h4, h5⟩ := applyExtremes_ok g ls exts m hx
  refine ⟨_, _, selectCells_of_mask g ls masks onlyEmpty conds [] m (by rw [h2]; rfl),
    selectCells_of_mask g ls masks onlyEmpty conds exts m' (by rw [h2]; exact h3), ?_, ?_⟩
  · have : g.allCells.filter m' = (g.allCells.filter m).filter m' := by
      rw [List.filter_filter]
      exact List.filter_congr fun p _ => by
        cases hm' : m' p with
        | false => simp
        | true => simp [h4 p hm']
    rw [this]
    exact List.filter_sublist
  · intro hne
    obtain ⟨p, hp⟩ := List.exists_mem_of_ne_nil _ hne
    simp only [List.mem_filter, mem_allCells] at hp
    obtain ⟨q, hq, hmq⟩ := h5 ⟨p, hp.1, hp.2⟩
    exact List.ne_nil_of_mem (List.mem_filter.mpr ⟨(mem_allCells g q).mpr hq, hmq⟩)

/-- `select_cells` raises exactly when a condition or an extreme value names a layer that does not exist (KeyError) or an
    extreme value has a mode other than `highest` / `lowest` (ValueError) — also when no cell is left to take an extreme of -/
theorem C08_select_rejects_exactly (g : Grid) (ls : Layers) (masks : List CMask) (onlyEmpty : Bool) (conds : List Cond)
    (exts : List Extreme) :
    (∃ e, g.selectCells ls masks onlyEmpty conds exts = .error e) ↔
      (∃ c ∈ conds, ¬ c.layer < ls.n) ∨ ∃ x ∈ exts, ¬ x.valid ls := by
  simp only [Grid.selectCells, Grid.selectMask]
  cases hc : applyConds ls conds (if onlyEmpty then (fun p => (masks.all fun m => m p) && g.mask p) else fun p => masks.all fun m => m p) with
  | error e =>
    have := (applyConds_error ls conds _).mp ⟨e, hc⟩
    simp only [this, true_or, iff_true]
    exact ⟨e, rfl⟩
  | ok m2 =>
    have hno : ¬ ∃ c ∈ conds, ¬ c.layer < ls.n := fun h => by
      obtain ⟨e, he⟩ := (applyConds_error ls conds _).mpr h
      rw [hc] at he
      cases he
    simp only [hno, false_or]
    rw [← applyExtremes_error g ls exts m2]
    cases g.applyExtremes ls exts m2 with
    | error e => simp
    | ok m3 => simp

/-- **the empty cells around a position** (`select_cells(masks=get_neighborhood_mask(…), only_empty=True)`, the idiom for
    "move to a free neighbouring cell"): exactly the cells of the grid in range of the centre (C09's `InRange`; the centre by
    flag) that hold no agent -/
theorem C08_select_empty_cells_in_range (g : Grid) (hi : Inv g) (hw : 0 < g.w) (hh : 0 < g.h) (k : NKey) (cells : List Coord)
    (hk : nbhdCompute g.dim k = .ok cells) (ls : Layers) :
    ∃ l, g.selectCells ls [nbhdMask cells] true [] [] = .ok l ∧ SortedSet l ∧
      ∀ p, p ∈ l ↔ g.inGrid p ∧ (p = k.pos → k.ic = true) ∧ (p ≠ k.pos → InRange g.dim k.pos k.moore k.r p) ∧ g.content p = [] := by
  obtain ⟨l, h1, h2, h3⟩ := selectCells_exact g hi ls [nbhdMask cells] true [] (by simp)
  refine ⟨l, h1, h2, fun p => ?_⟩
  rw [h3 p]
  have hmem := (orth_spec g.dim hw hh k cells hk).2 p
  simp only [Grid.Candidate, List.mem_singleton, forall_eq, nbhdMask, decide_eq_true_eq, hmem, forall_const, List.not_mem_nil,
    false_imp_iff, implies_true, and_true]
  constructor
  · rintro ⟨hp, ⟨_, h4, h5⟩, h6⟩
    exact ⟨hp, h4, h5, h6⟩
  · rintro ⟨hp, h4, h5, h6⟩
    exact ⟨hp, ⟨hp, h4, h5⟩, h6⟩

/-! ## which draws the random movers consume, and over which ordered list

`agent.random` is a script of raw draws (`_randbelow(n)` = next draw `% n`); these theorems pin down how many draws each mover
takes, in which order, and which list the last draw indexes — what a seeded run depends on. -/

/-- **`selection="random"`**: exactly one draw `x`; the agent is moved to the offer `pos[x % len(pos)]` (offers in the order
    given); an exhausted generator raises before anything changes -/
theorem C08_moveToOneOf_random_draws (g : Grid) (a : Aid) (ps : List Coord) (hne : ps ≠ []) (he : Grid.HandleEmpty) :
    g.moveToOneOf a ps .random he [] = (g, .err .script) ∧
    ∀ x xs, ∃ q, ps[x % ps.length]? = some q ∧ g.moveToOneOf a ps .random he (x :: xs) = g.move a q := by
  obtain ⟨h0, h1⟩ := chooseOneOf_random g a ps hne
  refine ⟨by rw [moveToOneOf_nonempty g a hne, h0], fun x xs => ?_⟩
  obtain ⟨q, hq, hc⟩ := h1 x xs
  exact ⟨q, hq, by rw [moveToOneOf_nonempty g a hne, hc]⟩

/-- **the tie list of `closest`**: the scan collects exactly the offers at minimal distance from the agent, each as often as it
    was offered, in the order scanned (= the shuffled order) -/
theorem C08_closest_scan_is_min_filter (g : Grid) (cur : Coord) (ps : List Coord) :
    g.closestScan cur ps none [] = ps.filter (g.isClosest cur ps) ∧
    (∀ t, t ∈ ps.filter (g.isClosest cur ps) ↔ t ∈ ps ∧ ∀ y ∈ ps, g.distSq t cur ≤ g.distSq y cur) ∧
    (ps ≠ [] → ps.filter (g.isClosest cur ps) ≠ []) :=
  ⟨closestScan_filter g cur ps, fun t => by simp [Grid.isClosest], exists_closest g cur ps⟩

/-- **`selection="closest"` for a placed agent**: `len(pos) - 1` draws shuffle the offers (CPython's Fisher–Yates, a
    permutation), the next draw `x` indexes the tie list of the *shuffled* offers — `ties[x % len(ties)]` —, later draws are
    never looked at; with fewer than `len(pos)` draws the generator is exhausted and nothing changes -/
theorem C08_closest_draws_and_tie_list (g : Grid) (a : Aid) (cur : Coord) (hcur : g.pos a = some cur) (ps : List Coord)
    (hne : ps ≠ []) (he : Grid.HandleEmpty) (s : Grid.Script) :
    (s.length < ps.length → g.moveToOneOf a ps .closest he s = (g, .err .script)) ∧
    (ps.length ≤ s.length → ∃ ps' x q, Grid.shuffle ps s = some (ps', s.drop (ps.length - 1)) ∧ ps'.Perm ps ∧
      s[ps.length - 1]? = some x ∧
      (ps'.filter (g.isClosest cur ps'))[x % (ps'.filter (g.isClosest cur ps')).length]? = some q ∧
      g.moveToOneOf a ps .closest he s = g.move a q) := by
  obtain ⟨h1, h2⟩ := chooseOneOf_closest g a cur hcur ps hne s
  refine ⟨fun h => by rw [moveToOneOf_nonempty g a hne, h1 h], fun h => ?_⟩
  obtain ⟨ps', x, q, e1, e2, e3, e4, e5⟩ := h2 h
  exact ⟨ps', x, q, e1, e2, e3, e4, by rw [moveToOneOf_nonempty g a hne, e5]⟩

/-- **`move_to_empty`: which draws**.  Full grid: `No empty cells`.  At most `cutoff` empty cells: one draw `x`, the target is
    `sorted(empties)[x % n]`.  More: pairs of draws `(x, y)` — `x` first — until the cell `(x % width, y % height)` is empty:
    the target is the cell of the first successful attempt and every earlier attempt hit an occupied cell; if the script ends
    first (every complete attempt having failed) the generator is exhausted.  In every case the rest is `remove_agent` +
    `place_agent` on the grid with `empties` built. -/
theorem C08_moveToEmpty_draws (g : Grid) (hi : Inv g) (a : Aid) (s : Grid.Script) :
    (g.buildEmpties = [] → g.moveToEmpty a s = (g.readEmpties.1, .err .noEmpty)) ∧
    (g.buildEmpties ≠ [] → g.buildEmpties.length ≤ g.cutoff →
      (s = [] → g.moveToEmpty a s = (g.readEmpties.1, .err .script)) ∧
      ∀ x xs, s = x :: xs → ∃ q, g.buildEmpties[x % g.buildEmpties.length]? = some q ∧
        g.moveToEmpty a s = removePlace g.readEmpties.1 a q) ∧
    (g.buildEmpties ≠ [] → g.cutoff < g.buildEmpties.length →
      (g.pickLoop s = none → g.moveToEmpty a s = (g.readEmpties.1, .err .script) ∧
        ∀ j, 2 * j + 1 < s.length → ∃ (x' y' : Nat), s[2 * j]? = some x' ∧ s[2 * j + 1]? = some y' ∧
          g.isCellEmpty ((x' : Int) % g.w, (y' : Int) % g.h) = false) ∧
      ∀ q, g.pickLoop s = some q → g.moveToEmpty a s = removePlace g.readEmpties.1 a q ∧
        ∃ (k x y : Nat), s[2 * k]? = some x ∧ s[2 * k + 1]? = some y ∧ q = ((x : Int) % g.w, (y : Int) % g.h) ∧
          g.isCellEmpty q = true ∧
          ∀ j, j < k → ∃ (x' y' : Nat), s[2 * j]? = some x' ∧ s[2 * j + 1]? = some y' ∧
            g.isCellEmpty ((x' : Int) % g.w, (y' : Int) % g.h) = false) := by
  obtain ⟨h1, h2, h3⟩ := moveToEmpty_draws g hi a s
  refine ⟨h1, h2, fun hne hgt => ⟨fun hp => ⟨(h3 hne hgt).1 hp, pickLoop_none g s hp⟩,
    fun q hp => ⟨(h3 hne hgt).2 q hp, pickLoop_draws g s q hp⟩⟩⟩

/-! ## NetworkGrid as a space of its own (beyond the four classes the statement names: same agreement, same style)

`Net` (Model/LegacyNbhd.lean) models `NetworkGrid.place_agent / remove_agent / move_agent` (after the NG1 repair)
and the reads `is_cell_empty`, `get_cell_list_contents`, `get_all_cell_contents`, `agents`.  `NetInv` is the
agreement of `agent.pos` with the node lists; `NHistOk` asks only that `place_agent` is called for an unplaced
agent (on any node id — also one that does not exist: rejected); moves and removals are unrestricted. -/

/-- **All NetworkGrid histories keep `pos` and the node lists in agreement**, for every graph and every history
    of place / remove / move (targets that exist or not, placed or unplaced agents) -/
theorem C08_network_views_agree_all_histories (n : Nat) (edges : List (Nat × Nat)) (ops : List NOp)
    (hok : NHistOk (Net.init n edges) ops) : NetInv (nrun (Net.init n edges) ops) :=
  nrun_inv _ ops (netInv_init n edges) hok

/-- one call keeps the agreement (the induction step, for any state that satisfies it) -/
theorem C08_network_step_keeps_agreement (t : Net) (hi : NetInv t) (op : NOp) (hok : NOpOk t op) : NetInv (nstep t op).1 :=
  nstep_inv t op hi hok

/-- `pos` is the one node whose list holds the agent — a node of the graph —, `None` exactly when no list does -/
theorem C08_network_pos_is_the_one_node (t : Net) (hi : NetInv t) (a : Aid) :
    (∀ v, t.pos a = some v → v < t.n ∧ a ∈ t.content v ∧ ∀ u, a ∈ t.content u → u = v) ∧
    (t.pos a = none ↔ ∀ u, a ∉ t.content u) :=
  ⟨fun _ hv => ⟨hi.in_net _ (List.ne_nil_of_mem (hi.agree.mem_content hv).1), hi.agree.mem_content hv⟩,
    hi.agree.pos_eq_none a⟩

/-- `is_cell_empty` says exactly whether a node's list is empty and raises KeyError exactly for a node that
    does not exist; `get_all_cell_contents` and `agents` list every placed agent exactly once and nobody else,
    in node order -/
theorem C08_network_emptiness_and_contents_views (t : Net) (hi : NetInv t) :
    (∀ v, v < t.n → t.isCellEmpty v = .ok (t.content v).isEmpty) ∧ (∀ v, ¬ v < t.n → t.isCellEmpty v = .error .key) ∧
    t.getAllCellContents.Nodup ∧ (∀ a, a ∈ t.getAllCellContents ↔ t.pos a ≠ none) ∧
    t.agentsList = t.getAllCellContents ∧ t.getAllCellContents = t.allNodes.flatMap t.content :=
  ⟨fun v hv => by simp [Net.isCellEmpty, hv], fun v hv => by simp [Net.isCellEmpty, hv], net_all_spec t hi⟩

/-- **`move_agent` lands on the target node or is rejected with nothing changed**: a placed agent moved to a
    node of the graph ends in that node's list (at its end), has left its old list, `pos` is the target and no
    other agent or node is touched; a node that does not exist (NG1) or an unplaced agent gives KeyError and
    the state is untouched -/
theorem C08_network_move_lands_or_rejects (t : Net) (hi : NetInv t) (a : Aid) (v : Nat) :
    (∀ u, t.pos a = some u → v < t.n →
      (t.move a v).2 = .ok ∧ (t.move a v).1.pos a = some v ∧ (∀ b, b ≠ a → (t.move a v).1.pos b = t.pos b) ∧
      (t.move a v).1.content v = (t.content v).erase a ++ [a] ∧
      (u ≠ v → (t.move a v).1.content u = (t.content u).erase a) ∧
      ∀ x, x ≠ u → x ≠ v → (t.move a v).1.content x = t.content x) ∧
    (¬ v < t.n → t.move a v = (t, .err .key)) ∧
    (t.pos a = none → t.move a v = (t, .err .key)) :=
  ⟨fun u hp hv => net_move_placed t hi a u v hp hv, net_move_missing t a v, net_move_unplaced t a v⟩

/-- `place_agent` appends to the node's list and sets `pos` (KeyError, nothing changed, for a node that does
    not exist); `remove_agent` takes the agent out of its node's list and clears `pos` (KeyError, nothing
    changed, for an agent that is not in the space) -/
theorem C08_network_place_remove (t : Net) (hi : NetInv t) (a : Aid) :
    (∀ v, v < t.n → (t.place a v).2 = .ok ∧ (t.place a v).1.pos a = some v ∧ (t.place a v).1.content v = t.content v ++ [a] ∧
      (∀ b, b ≠ a → (t.place a v).1.pos b = t.pos b) ∧ ∀ u, u ≠ v → (t.place a v).1.content u = t.content u) ∧
    (∀ v, ¬ v < t.n → t.place a v = (t, .err .key)) ∧
    (∀ v, t.pos a = some v → (t.remove a).2 = .ok ∧ (t.remove a).1.pos a = none ∧
      (∀ b, b ≠ a → (t.remove a).1.pos b = t.pos b) ∧
      (t.remove a).1.content v = (t.content v).erase a ∧ ∀ u, u ≠ v → (t.remove a).1.content u = t.content u) ∧
    (t.pos a = none → t.remove a = (t, .err .key)) :=
  ⟨fun v hv => ⟨(net_place_res t a v).1 hv, (net_place_pos t a v hv).1, (net_place_content t a v hv).1,
      (net_place_pos t a v hv).2, (net_place_content t a v hv).2⟩,
   fun v hv => (net_place_res t a v).2 hv, fun v hp => net_remove_placed t hi a v hp, net_remove_unplaced t a⟩

/-! ## non-vacuity and witnesses -/

/-- Python's aliasing on a 3x2 grid: `is_cell_empty((-1, -1))` looks at cell (2, 1); `(3, 0)` raises -/
example : (run (init 3 2 false true 11) [.place 0 (2, 1)]).isCellEmptyRaw (-1, -1) = .ok false := by rfl
example : (init 3 2 false true 11).isCellEmptyRaw (3, 0) = .error .index := by rfl
example : Grid.sliceIndices 5 ⟨some 10, some (-10), some (-2)⟩ = .ok [4, 2, 0] := by rfl
example : Grid.sliceIndices 5 ⟨some (-2), none, none⟩ = .ok [3, 4] := by rfl
example : (init 3 2 false true 11).getItem2 (.slice ⟨none, none, some (-1)⟩) (.int 1) = .ok [(2, 1), (1, 1), (0, 1)] := by rfl
/-- the rows are sliced only if a column was selected: `grid[1:1, ::0]` is `[]`, `grid[:, ::0]` raises -/
example : (init 3 2 false true 11).getItem2 (.slice ⟨some 1, some 1, none⟩) (.slice ⟨none, none, some 0⟩) = .ok [] := by rfl
example : (init 3 2 false true 11).getItem2 (.slice ⟨none, none, none⟩) (.slice ⟨none, none, some 0⟩) = .error .value := by rfl

/-- swap on a MultiGrid with shared cells: 0 and 1 exchange cells, 2 stays, the arrivals are at the end -/
example : let g := run (init 3 3 false true 18) [.place 0 (0, 0), .place 2 (0, 0), .place 1 (1, 1), .place 3 (1, 1), .swap 0 1]
    (g.content (0, 0), g.content (1, 1)) = ([2, 1], [3, 0]) := by decide +kernel
/-- a move onto the own cell of a MultiGrid sends the agent to the end of the list -/
example : (run (init 2 2 true true 13) [.place 0 (0, 0), .place 1 (0, 0), .move 0 (2, 2)]).content (0, 0) = [1, 0] := by decide +kernel
/-- `remove_agent` of an agent that is not on the grid -/
example : (step (init 2 2 true true 13) (.remove 0)).2 = .err .type := by decide +kernel
example : (step (init 2 2 true false 13) (.remove 0)).2 = .ok := by decide +kernel

/-- the foreign-agent hazard is reachable: agent 1 sits on (1, 1); agent 0, placed on another grid at (1, 1), is "removed" here -/
example : let g := ((run (init 3 3 false false 18) [.place 1 (1, 1)]).foreignPos 0 (1, 1)).remove 0
    (g.2, g.1.content (1, 1), g.1.pos 1) = (.ok, [], some (1, 1)) := by decide +kernel

/-- a NetworkGrid history within the quantifier with three rejected calls (missing node twice, unplaced agent) -/
def demoNetOps : List NOp := [.place 0 1, .place 1 1, .move 0 7, .place 2 9, .move 0 2, .remove 2, .move 1 1, .remove 0]

example : NHistOk (Net.init 3 [(0, 1), (1, 2)]) demoNetOps := by
  simp [demoNetOps, NHistOk, NOpOk, nstep, Net.place, Net.move, Net.init, updA]

/-- NG1 witness (the defect before its repair left the agent in no node): the move to a node that does not
    exist is rejected and the agent stays where it was -/
example : (nstep (nrun (Net.init 3 []) [.place 0 1]) (.move 0 7)).2 = .err .key := by decide +kernel
example : (nrun (Net.init 3 []) [.place 0 1, .move 0 7]).pos 0 = some 1 := by decide +kernel
example : (nrun (Net.init 3 []) [.place 0 1, .move 0 7]).content 1 = [0] := by decide +kernel
example : (nrun (Net.init 3 []) [.place 0 1, .place 1 1, .move 0 1]).content 1 = [1, 0] := by decide +kernel

/-- `coord_iter` on a 2x2 MultiGrid: four entries in (x, y) order, the stacked cell listed with both agents -/
example : (run (init 2 2 false true 13) [.place 0 (1, 0), .place 1 (1, 0)]).coordIter =
    [([], (0, 0)), ([], (0, 1)), ([0, 1], (1, 0)), ([], (1, 1))] := by decide +kernel

/-- `select_cells` on a 3x2 grid with agent 0 on (1, 1) and layer 0 = 5 on (0, 0) and (2, 1), 9 on (1, 1): the highest value
    among the *empty* cells is 5, attained twice; without `only_empty` it is 9; an unknown layer / mode raises; extreme values
    of an empty selection select nothing -/
def demoLayers : Layers := { n := 2, data := fun i c => if i = 0 then (if c = (1, 1) then 9 else if c = (0, 0) ∨ c = (2, 1) then 5 else 0) else 0 }

example : (run (init 3 2 false false 12) [.place 0 (1, 1)]).selectCells demoLayers [] true [] [⟨0, .highest⟩] = .ok [(0, 0), (2, 1)] := by
  rfl
example : (run (init 3 2 false false 12) [.place 0 (1, 1)]).selectCells demoLayers [] false [] [⟨0, .highest⟩] = .ok [(1, 1)] := by
  rfl
example : (run (init 3 2 false false 12) [.place 0 (1, 1)]).selectCells demoLayers [] true [⟨0, .ge, 5⟩] [] = .ok [(0, 0), (2, 1)] := by
  rfl
example : (init 3 2 false false 12).selectCells demoLayers [] false [⟨0, .ge, 100⟩] [⟨0, .highest⟩, ⟨1, .lowest⟩] = .ok [] := by rfl
example : (init 3 2 false false 12).selectCells demoLayers [] false [] [⟨0, .highest⟩, ⟨1, .other⟩] = .error .value := by rfl
example : (init 3 2 false false 12).selectCells demoLayers [] false [⟨5, .ge, 1⟩] [] = .error .key := by rfl
example : (⟨0, .highest⟩ : Extreme).valid demoLayers := by simp [Extreme.valid, demoLayers]
/-- the hypotheses of `C08_select_empty_cells_in_range` are satisfiable: the empty cells next to (0, 0), whose neighbour (0, 1) is taken -/
example : nbhdCompute (run (init 3 2 false false 12) [.place 0 (0, 1)]).dim ⟨(0, 0), true, false, 1⟩ = .ok [(0, 1), (1, 0), (1, 1)] := by
  rfl
example : (run (init 3 2 false false 12) [.place 0 (0, 1)]).selectCells demoLayers [nbhdMask [(0, 1), (1, 0), (1, 1)]] true [] [] =
    .ok [(1, 0), (1, 1)] := by rfl

/-- ties among the closest offers: from (2, 2) the offers (2, 3), (0, 0), (3, 2) have two cells at distance 1; the draws 1, 0
    shuffle the offers, the third draw picks from the tie list of the shuffled offers: (2, 3).  With two draws only the generator
    is exhausted and nothing moves.  (The same lines run against the real classes: corpus/C08/R3_draws_and_ties.ops.) -/
example : (run (init 5 5 false true 27) [.place 0 (2, 2), .moveToOneOf 0 [(2, 3), (0, 0), (3, 2)] .closest .none [1, 0, 1]]).pos 0
    = some (2, 3) := by decide +kernel
example : (step (run (init 5 5 false true 27) [.place 0 (2, 2)]) (.moveToOneOf 0 [(2, 4), (0, 0), (3, 3)] .closest .none [1, 0])).2
    = .err .script := by decide +kernel
example : (run (init 5 5 false true 27) [.place 0 (2, 2), .moveToOneOf 0 [(2, 4), (0, 0), (3, 3)] .random .none [7]]).pos 0
    = some (0, 0) := by decide +kernel
/-- the tie list keeps multiplicity and scan order -/
example : (init 5 5 false true 27).closestScan (2, 2) [(3, 2), (0, 0), (2, 3), (3, 2)] none [] = [(3, 2), (2, 3), (3, 2)] := by decide +kernel
/-- `move_to_empty` above the cutoff: a 6x6 grid (cutoff 31) with agent 0 on (1, 1): the pair (7, 13) denotes the occupied (1, 1),
    the pair (2, 3) is free -/
example : (run (init 6 6 false false 31) [.place 0 (1, 1), .moveToEmpty 0 [7, 13, 2, 3, 5]]).pos 0 = some (2, 3) := by decide +kernel
/-- … and below it (3x3, cutoff 18): the draw 5 indexes the sorted list of the 8 empty cells -/
example : (run (init 3 3 false false 18) [.place 0 (1, 1), .moveToEmpty 0 [5]]).pos 0 = some (2, 0) := by decide +kernel

/-- the hypotheses are satisfiable by a non-trivial history: `empties` read mid-history, a wrapped move, a
    rejected move, both random movers -/
def demoOps : List Op :=
  [.place 0 (0, 0), .place 1 (1, 1), .readEmpties, .move 0 (4, -1), .move 0 (1, 1), .swap 0 1,
   .moveToEmpty 1 [5], .moveToOneOf 0 [(21, 0), (4, 0)] .closest .none [0, 0], .remove 1]

example : HistOk (init 3 3 true false 18) demoOps := by
  simp [demoOps, HistOk, OpOk, step, Grid.place, Grid.inGrid, init, Grid.isCellEmpty, updA]

/-- N1 witness (the defect before its repair chose (4,0)): from (0,0) on a 10-wide torus the offer (21,0)
    denotes cell (1,0), which is nearer than (4,0) — for every script of draws that suffices -/
example : (run (init 10 3 true true 29) [.place 0 (0, 0), .moveToOneOf 0 [(21, 0), (4, 0)] .closest .none [0, 0]]).pos 0
    = some (1, 0) := by decide +kernel

/-- S2 witness (the defect before its repair lost the agent): a SingleGrid move onto an occupied cell is
    rejected and the mover stays where it was -/
example : (run (init 3 3 false false 18) [.place 0 (0, 0), .place 1 (1, 1), .move 0 (1, 1)]).pos 0 = some (0, 0) := by decide +kernel
example : (step (run (init 3 3 false false 18) [.place 0 (0, 0), .place 1 (1, 1)]) (.move 0 (1, 1))).2 = .err .full := by decide +kernel

/-- S1 witness: MultiGrid `empty_mask` follows the contents whether or not `empties` was ever built -/
example : (run (init 2 2 false true 13) [.place 0 (0, 0)]).mask (0, 0) = false := by decide +kernel
example : (run (init 2 2 false true 13) [.place 0 (0, 0), .remove 0]).mask (0, 0) = true := by decide +kernel

end Mesa.Legacy
