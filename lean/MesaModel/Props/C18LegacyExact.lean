import MesaModel.Proofs.LegacyHist
import MesaModel.Proofs.LegacyPlaceRaw
import MesaModel.Proofs.LegacyDraws
import MesaModel.Proofs.LegacySelectCong
/-!
# C18 (legacy-grid part) — *when exactly* a call is rejected, placements outside the grid, any later history

`Props/C18Legacy.lean` shows that a rejected call changes nothing.  This file adds the other half: the result of every mutating
call as a function of the state (so a model in which a call always — or never — raises would fail these), `place_agent` with
arbitrary integer coordinates (`Grid.placeRaw`, Model/LegacyPlaceRaw.lean: "placing outside a bounded space" is one of C18's
listed kinds and raises IndexError), histories that contain such placements, and the deletion of rejected calls followed by
any later history.  `removePlace` is `remove_agent` followed by `place_agent` (the tail of `move_agent` / `move_to_empty`).
-/
namespace Mesa.Legacy

/-- **when exactly a call is rejected, and with what** — in every state whose views agree (every reachable one):
    `place_agent` with arbitrary integer coordinates (`placeRaw`, not the in-grid `place`, which answers `.ok` for
    coordinates the code rejects): IndexError exactly beyond `-size .. size-1`, else only on an
    occupied SingleGrid cell (the cell the coordinates index); for in-grid coordinates that cell is `p` and the call is `place`; `remove_agent`: only an unplaced agent on a MultiGrid;
    `move_agent`: a target outside a bounded grid (and only then `out of bounds`), else an unplaced agent on a MultiGrid, else a
    SingleGrid target cell that holds somebody else — otherwise it succeeds; `swap_pos`: only an unplaced agent;
    `remove_agent` + `place_agent` as used by `move_to_empty`: like `move_agent` without the bounds check -/
theorem C18_legacy_rejects_exactly (g : Grid) (hw : 0 < g.w) (hh : 0 < g.h) (hi : Inv g) (a b : Aid) (p : Coord) :
    ((g.placeRaw a p).2 =
      match g.rawCell p with
      | .error e => .err e
      | .ok c => if g.multi = false ∧ g.content c ≠ [] then .err .full else .ok) ∧
    (g.rawCell p = .error .index ↔ g.beyond p) ∧ (g.inGrid p → g.rawCell p = .ok p ∧ g.placeRaw a p = g.place a p) ∧
    ((g.remove a).2 = if g.pos a = none ∧ g.multi = true then .err .type else .ok) ∧
    ((g.move a p).2 =
      match g.torusAdj p with
      | .error e => .err e
      | .ok q =>
        if g.pos a = none ∧ g.multi = true then .err .type
        else if g.multi = false ∧ g.content q ≠ [] ∧ g.content q ≠ [a] then .err .full else .ok) ∧
    (g.torusAdj p = .error .oob ↔ ¬ g.inGrid p ∧ g.torus = false) ∧
    ((g.swap a b).2 = if g.pos a = none ∨ g.pos b = none then .err .noPos else .ok) ∧
    ((removePlace g a p).2 =
      if g.pos a = none ∧ g.multi = true then .err .type
      else if g.multi = false ∧ g.content p ≠ [] ∧ g.content p ≠ [a] then .err .full else .ok) :=
  ⟨placeRaw_res_eq g a p, rawCell_beyond g hw hh p, fun hp => ⟨rawCell_inGrid g p hp, placeRaw_inGrid g a p hp⟩, remove_res g hi a, move_res g hi a p, torusAdj_error_iff g p, swap_res g hi a b,
   removePlace_res g hi a p⟩

/-- `move_agent_to_one_of`, the rejections that do not come from `move_agent`: an empty list (only `handle_empty="error"`
    raises), an invalid selection, `closest` for an unplaced agent (TypeError once the shuffle had its `len - 1` draws).  For a
    valid selection and a placed agent `C08_moveToOneOf_random_draws` / `C08_closest_draws_and_tie_list` give the whole outcome:
    exhausted generator or `move_agent` of the chosen offer, whose result is the one above. -/
theorem C18_legacy_moveToOneOf_rejects_exactly (g : Grid) (a : Aid) (ps : List Coord) (sel : Grid.Selection)
    (he : Grid.HandleEmpty) (s : Grid.Script) :
    (ps = [] → g.moveToOneOf a ps sel he s = (g, if he = .error then .err .value else .ok)) ∧
    (ps ≠ [] → sel = .other → g.moveToOneOf a ps sel he s = (g, .err .value)) ∧
    (ps ≠ [] → sel = .closest → g.pos a = none →
      g.moveToOneOf a ps sel he s = (g, if s.length < ps.length - 1 then .err .script else .err .type)) := by
  refine ⟨fun h => ?_, fun h hs => ?_, fun h hs hp => ?_⟩
  · subst h
    cases he <;> simp [Grid.moveToOneOf]
  · subst hs
    rw [moveToOneOf_nonempty g a h]
    rfl
  · subst hs
    rw [moveToOneOf_nonempty g a h]
    obtain ⟨h1, h2⟩ := shuffle_draws ps s
    by_cases hlt : s.length < ps.length - 1
    · simp [Grid.chooseOneOf, h1 hlt, hlt]
    · obtain ⟨ps', hsp, _⟩ := h2 (by omega)
      simp [Grid.chooseOneOf, hsp, hp, hlt]

/-! ## placing outside the grid -/

/-- **`place_agent` for arbitrary integer coordinates**: inside the grid it is the modelled call; it raises IndexError exactly
    beyond the grid's index range `-size .. size-1` (on a torus too — it never wraps), `Cell not empty` exactly on an occupied
    SingleGrid cell, and succeeds otherwise; whenever it raises, nothing at all has changed -/
theorem C18_legacy_place_any_integers (g : Grid) (hw : 0 < g.w) (hh : 0 < g.h) (a : Aid) (p : Coord) :
    (g.inGrid p → g.placeRaw a p = g.place a p) ∧
    ((g.placeRaw a p).2 = .err .index ↔ g.beyond p) ∧
    ((g.placeRaw a p).2 = .err .full ↔ ∃ c, g.rawCell p = .ok c ∧ g.multi = false ∧ g.content c ≠ []) ∧
    ((g.placeRaw a p).2 = .ok ↔ ∃ c, g.rawCell p = .ok c ∧ (g.multi = true ∨ g.content c = [])) ∧
    (∀ e, (g.placeRaw a p).2 = .err e → (g.placeRaw a p).1 = g) :=
  ⟨placeRaw_inGrid g a p, (placeRaw_res g hw hh a p).1, (placeRaw_res g hw hh a p).2.1, (placeRaw_res g hw hh a p).2.2,
   fun e h => placeRaw_err g a p e h⟩

/-- **a history with placements beyond the grid behaves like the history without them** (`HistOkR`: `place_agent` of an
    unplaced agent at in-grid coordinates *or* beyond the index range; everything else unrestricted): it ends in exactly the
    state of the history with those calls deleted, which is a history of the original quantifier — so the views agree after it
    and every theorem about `run` applies -/
theorem C18_legacy_place_outside_deletable (g : Grid) (hw : 0 < g.w) (hh : 0 < g.h) (hi : Inv g) (ops : List Op)
    (hok : HistOkR g ops) :
    runR g ops = run g (ops.filter (keepOp g.w g.h)) ∧ HistOk g (ops.filter (keepOp g.w g.h)) ∧ Inv (runR g ops) := by
  obtain ⟨h1, h2⟩ := runR_eq_run ops g hw hh hi hok
  exact ⟨h1, h2, by rw [h1]; exact (run_inv_cfg g _ hw hh hi h2).1⟩

/-- **the aliasing band `-size .. -1`** (outside the quantifier; recorded as a hazard, like `C08_remove_foreign_agent`):
    `place_agent` accepts such coordinates, stores the agent in the cell counted from the end, but sets `pos` to the pair as
    given, which is no cell of the grid: the views disagree from then on -/
theorem C08_place_negative_coordinates_break_agreement (g : Grid) (hi : Inv g) (a : Aid) (p c : Coord) (hpos : g.pos a = none)
    (hc : g.rawCell p = .ok c) (hne : c ≠ p) (hok : (g.placeRaw a p).2 = .ok) :
    a ∈ (g.placeRaw a p).1.content c ∧ (g.placeRaw a p).1.pos a = some p ∧ ¬ Inv (g.placeRaw a p).1 := by
  have hnotin : a ∉ g.content c := fun h => by
    have := (hi.pos_content a c).mpr h
    rw [hpos] at this
    cases this
  have key : a ∈ (g.placeRaw a p).1.content c ∧ (g.placeRaw a p).1.pos a = some p := by
    unfold Grid.placeRaw at hok ⊢
    rw [hc] at hok ⊢
    simp only [] at hok ⊢
    unfold Grid.placeAt at hok ⊢
    by_cases hm : g.multi = true
    · simp only [hm, if_true, hpos, true_or] at hok ⊢
      simp [upd, updA]
    · have hmf : g.multi = false := by simpa using hm
      simp only [hmf, Bool.false_eq_true, if_false] at hok ⊢
      split at hok
      · rename_i he
        simp only [he, if_true]
        simp [upd, updA]
      · cases hok
  refine ⟨key.1, key.2, fun hinv => ?_⟩
  have := (hinv.pos_content a c).mpr key.1
  rw [key.2] at this
  exact hne (Option.some.inj this).symm

/-! ## deleting the rejected calls, then any later history -/

/-- **as if the rejected calls had never been made, for ever after**: after a history and after the same history without its
    rejected calls, *every* later history (within the quantifier) returns, call by call, the same results and ends in the same
    observable state -/
theorem C18_legacy_rejected_calls_deletable_any_future (g : Grid) (hw : 0 < g.w) (hh : 0 < g.h) (hi : Inv g) (ops : List Op)
    (hok : HistOk g ops) (later : List Op) (hl : HistOk (run g ops) later) :
    results (run g (accepted g ops)) later = results (run g ops) later ∧
    ObsEq (run (run g ops) later) (run (run g (accepted g ops)) later) ∧ HistOk (run g (accepted g ops)) later := by
  obtain ⟨h1, h2⟩ := run_accepted ops g g hw hh hi hi rfl hok
  obtain ⟨i1, c1⟩ := run_inv_cfg g ops hw hh hi hok
  have i2 := (run_inv_cfg g (accepted g ops) hw hh hi h2).1
  have hw1 : 0 < (run g ops).w := by rw [c1.1]; exact hw
  have hh1 : 0 < (run g ops).h := by rw [c1.2.1]; exact hh
  obtain ⟨e1, e2, e3⟩ := run_cong later (run g ops) (run g (accepted g ops)) hw1 hh1 i1 i2 h1 hl
  exact ⟨e2, (obsEq_iff_forget _ _).mpr e1, e3⟩

/-- **…and `coord_iter` / `select_cells` show the same too**: `coord_iter()` and `select_cells(…)` (any masks, `only_empty`, conditions,
    extreme values, either return form) answer the same after a history and after that history without its rejected calls
    (extends `C18_legacy_reads_same_after_deletion`) -/
theorem C18_legacy_new_reads_same_after_deletion (g : Grid) (hw : 0 < g.w) (hh : 0 < g.h) (hi : Inv g) (ops : List Op)
    (hok : HistOk g ops) :
    (run g (accepted g ops)).coordIter = (run g ops).coordIter ∧
    ∀ ls masks oe conds exts,
      (run g (accepted g ops)).selectCells ls masks oe conds exts = (run g ops).selectCells ls masks oe conds exts ∧
      (run g (accepted g ops)).selectMask ls masks oe conds exts = (run g ops).selectMask ls masks oe conds exts := by
  obtain ⟨h1, _⟩ := run_accepted ops g g hw hh hi hi rfl hok
  exact coordIter_select_obs ((obsEq_iff_forget _ _).mpr h1)

/-! ## non-vacuity -/

/-- the results formula on concrete states: a SingleGrid move onto an occupied cell, onto the own cell, off a bounded grid;
    an unplaced agent on a MultiGrid -/
example : (step (run (init 3 3 false false 18) [.place 0 (0, 0), .place 1 (1, 1)]) (.move 0 (1, 1))).2 = .err .full := by decide +kernel
example : (step (run (init 3 3 false false 18) [.place 0 (0, 0), .place 1 (1, 1)]) (.move 0 (0, 0))).2 = .ok := by decide +kernel
example : (step (run (init 3 3 false false 18) [.place 0 (0, 0)]) (.move 0 (3, 0))).2 = .err .oob := by decide +kernel
example : (step (init 3 3 true true 18) (.move 0 (1, 1))).2 = .err .type := by decide +kernel

/-- placing beyond the grid: IndexError, also on a torus; the aliasing band: accepted, `pos` outside the grid -/
example : (init 3 3 true false 18).placeRaw 0 (3, 0) = (init 3 3 true false 18, .err .index) := by
  simp [Grid.placeRaw, Grid.rawCell, Grid.pyIndex, init]
example : ((init 3 3 false false 18).placeRaw 0 (-1, 0)).2 = .ok := by decide +kernel
example : ((init 3 3 false false 18).placeRaw 0 (-1, 0)).1.pos 0 = some (-1, 0) := by decide +kernel
example : ((init 3 3 false false 18).placeRaw 0 (-1, 0)).1.content (2, 0) = [0] := by decide +kernel

/-- a history of the widened quantifier: two placements beyond the grid (one on each side), a rejected move, reads -/
def demoOpsR : List Op :=
  [.place 0 (3, 0), .place 0 (0, 0), .place 1 (0, -4), .readEmpties, .move 0 (5, 5), .place 1 (2, 2), .swap 0 1]

example : HistOkR (init 3 3 false false 18) demoOpsR := by
  simp [demoOpsR, HistOkR, OpOkR, stepR, step, Grid.placeRaw, Grid.placeAt, Grid.rawCell, Grid.pyIndex, Grid.inGrid, Grid.beyond,
    init, Grid.isCellEmpty, updA, Grid.readEmpties, Grid.move, Grid.torusAdj, Grid.oob]

example : demoOpsR.filter (keepOp 3 3) = [.place 0 (0, 0), .readEmpties, .move 0 (5, 5), .place 1 (2, 2), .swap 0 1] := by
  simp [demoOpsR, keepOp]

end Mesa.Legacy
