import MesaModel.Proofs.Viz
import MesaModel.Proofs.VizLayers
import MesaModel.Proofs.VizAltair
import MesaModel.Proofs.VizInputs
import MesaModel.Proofs.VizKwargs
import MesaModel.Proofs.VizSize
import MesaModel.Proofs.VizCtrl
import MesaModel.Proofs.VizNet
import MesaModel.Proofs.VizFrame
import MesaModel.Proofs.VizPlot
/-!
# C20 — visualisation data shows each agent once, where it is, as portrayed

The property theorems, their witnesses (`v7Space`, `a1Space`, `hexColorsRavel`, …) and test vectors, and two theorems the
documents cite beside them (`defaultSize_undefined_iff`, `v7Space_reachable`).  Model: `Model/Viz*.lean`.  The statements are
written with the spec definitions of the proof modules: `Reachable`, `entryOf`, `markerOf`, `drawEntries`, `rowOf`, `bindsByKeyword`,
`supportedKeys`, `collectInPlace`, `refsOf` (`Proofs/Viz`), `clashes` (`VizKwargs`), `layerRange`, `Shown`, `Picture.cell`, `knownPorts`
(`VizLayers`), `widgetOf` (`VizInputs`), `placeBy` (`VizNet`), `lineOf` (`VizPlot`), `Ctrl.paramsInv`,
`CtrlOp.isThreads`, `lastChange` (`VizCtrl`).

`Reachable sp`: a space of any of the twelve supported classes, freshly built, then changed by any
sequence of successful `place` / `move` / `remove` calls.  Heaps and portrayals are arbitrary: the
portrayal may hand the *same* dict object to several agents (defect V3).
`markerOf fam heap p a`: the marker the property demands for agent `a` — at the drawing position of
its location (`pos`, else `cell.coordinate`), with colour / size / marker / zorder / alpha / edgecolors /
linewidths as its portrayal returned them, defaults otherwise.

Finding V7 (fixed): a portrayal that returned alpha / edgecolors / linewidths for some agents only made
`_scatter` raise IndexError.  Since the fix every agent has a slot in each optional array (`None` if its
portrayal does not specify the key) and `_fill_unspecified` gives those agents matplotlib's default, so
`C20_draw_one_marker_per_agent` holds for every portrayal; `C20_V7_some_agents_optional_drawn` is the witness.
-/
namespace Mesa.Viz

/-- `space.agents`, which every back end walks, lists exactly the agents currently in the space, each
    once (ids are unique), and every one of them has a location. -/
theorem C20_space_agents_exactly_once {sp : Space} (h : Reachable sp) :
    (spaceAgents sp).Perm sp.placed ∧ (sp.placed.map (·.id)).Nodup ∧
    ∀ a ∈ sp.placed, ∃ l, a.location = some l :=
  let w := reachable_wf h
  ⟨spaceAgents_perm w, w.idsNodup, fun a ha => let ⟨l, hl, _⟩ := w.located a ha; ⟨l, hl⟩⟩

/-! ## collect_agent_data -/

/-- `collect_agent_data` returns one entry per agent of `space.agents`, in that order — for every heap and
    every portrayal, shared dict objects included — and as many entries as there are agents in the space. -/
theorem C20_collect_one_entry_per_agent {sp : Space} (h : Reachable sp) (df : Defaults) (heap : Heap) (p : Portrayal) :
    collectAgentData df heap p (spaceAgents sp) = some ((spaceAgents sp).filterMap (entryOf df heap p)) ∧
    ((spaceAgents sp).filterMap (entryOf df heap p)).length = sp.placed.length ∧
    ∀ a ∈ spaceAgents sp, (entryOf df heap p a).isSome := by
  have w := reachable_wf h
  have hl := spaceAgents_located w
  have hs : ∀ a ∈ spaceAgents sp, (entryOf df heap p a).isSome := by
    intro a ha
    obtain ⟨l, e⟩ := hl a ha
    simp [entryOf, e]
  exact ⟨collect_eq_filterMap df heap p _ hl,
    (List.filterMap_length_eq_length.mpr hs).trans (spaceAgents_perm w).length_eq, hs⟩

/-- The entry of an agent holds its location (`pos`, else `cell.coordinate`) and, for each supported key,
    the value its portrayal returned, the default otherwise; the remaining keys are reported as ignored.
    Nothing else enters: in particular not what the portrayal returned for other agents. -/
theorem C20_entry_is_portrayal_or_default (df : Defaults) (heap : Heap) (p : Portrayal) (a : Agent) (l : Loc)
    (hl : a.location = some l) :
    ∃ e, entryOf df heap p a = some e ∧ e.loc = l ∧
      e.s = (Dict.get? (portrayed heap p a.id) "size").getD df.size ∧
      e.c = (Dict.get? (portrayed heap p a.id) "color").getD df.color ∧
      e.marker = (Dict.get? (portrayed heap p a.id) "marker").getD df.marker ∧
      e.zorder = (Dict.get? (portrayed heap p a.id) "zorder").getD df.zorder ∧
      e.alpha = Dict.get? (portrayed heap p a.id) "alpha" ∧
      e.edgecolors = Dict.get? (portrayed heap p a.id) "edgecolors" ∧
      e.linewidths = Dict.get? (portrayed heap p a.id) "linewidths" ∧
      e.ignored = (Dict.keys (portrayed heap p a.id)).filter (fun k => !supportedKeys.contains k) :=
  ⟨_, by simp [entryOf, hl], collectOne_spec df l _⟩

/-- Witness V3: with the pops done in place, a portrayal handing the same dict `{"color": "red"}` to two
    agents gives the second agent the default colour and leaves the dict empty; the repaired code records
    red for both. -/
theorem C20_V3_inplace_pop_refuted :
    let heap : Heap := [[("color", "red")]]
    let p : Portrayal := fun _ => some 0
    let agents := [mkAgent .multi 1 ⟨0, 0⟩, mkAgent .multi 2 ⟨1, 1⟩]
    ((collectInPlace libDefaults p heap agents).map fun r => (r.1.map (·.c), r.2)) = some (["red", "tab:blue"], [[]]) ∧
    (collectAgentData libDefaults heap p agents).map (·.map (·.c)) = some ["red", "red"] := by
  decide +kernel

/-- The boundary of V3: as long as no two agents are handed the same dict object (`refsOf`: the references
    the portrayal returns; a freshly built dict is no reference), popping in place recorded the same
    entries as the repaired code — the defect needed a shared dict. -/
theorem C20_inplace_agrees_on_unshared_dicts (df : Defaults) (p : Portrayal) (heap : Heap) (agents : List Agent)
    (h : (refsOf p agents).Nodup) :
    (collectInPlace df p heap agents).map (·.1) = collectAgentData df heap p agents :=
  collectInPlace_fst df p agents heap h

/-! ## _scatter -/

/-- The scatter calls partition the entries, whatever the portrayals returned: the members of the calls are
    a permutation of the entries (each agent is drawn by exactly one call), every call is non-empty and draws
    only entries with its marker and its z-order, and no (marker, z-order) pair is scattered twice. -/
theorem C20_scatter_partition (es : List Entry) :
    ((scatter es).flatMap (·.members)).Perm es ∧
    (∀ g ∈ scatter es, g.members ≠ [] ∧ ∀ e ∈ g.members, e.marker = g.marker ∧ e.zorder = g.zorder) ∧
    ((scatter es).map fun g => (g.marker, g.zorder)).Nodup := by
  rw [scatter_eq]
  refine ⟨groupsOf_perm es, fun g hg => ?_, groupsOf_keys_nodup es⟩
  obtain ⟨m, z, rfl, h1⟩ := groupsOf_mem hg
  refine ⟨h1, fun e he => ?_⟩
  rw [mkGroup_members, List.mem_filter] at he
  have : e.marker = m ∧ e.zorder = z := by simpa using he.2
  exact this

/-- The optional keywords of a scatter call (fix V7).  For each of alpha / edgecolors / linewidths: the
    keyword is left out exactly when no agent of the call specifies it; otherwise the array has exactly one
    slot per agent of the call — so the masks always fit — holding that agent's value, or the default
    (`none`) if its portrayal does not specify the key.  Hence every marker of the call is drawn with the
    values of the agent it stands for (`drawn`), for every mix of specified and unspecified keys. -/
theorem C20_scatter_optional_args (es : List Entry) :
    ∀ g ∈ scatter es,
      (∀ (f : Entry → Option Val) (arg : Option (List (Option Val))),
        (f = (·.alpha) ∧ arg = g.alpha) ∨ (f = (·.edgecolors) ∧ arg = g.edgecolors) ∨
          (f = (·.linewidths) ∧ arg = g.linewidths) →
        (arg = none ↔ ∀ e ∈ g.members, f e = none) ∧
        ∀ vs, arg = some vs → vs.length = g.members.length ∧ vs = g.members.map f) ∧
      g.drawn = g.members := by
  intro g hg
  rw [scatter_eq] at hg
  obtain ⟨m, z, rfl, _⟩ := groupsOf_mem hg
  have hsub : ∀ e ∈ (mkGroup es m z).members, e ∈ es := fun e he => (List.mem_filter.mp he).1
  -- what a call is handed for a key is `_fill_unspecified` on its own members
  have key : ∀ f : Entry → Option Val,
      (passKey f es (mkGroup es m z).members = none ↔ ∀ e ∈ (mkGroup es m z).members, f e = none) ∧
      ∀ vs, passKey f es (mkGroup es m z).members = some vs →
        vs.length = (mkGroup es m z).members.length ∧ vs = (mkGroup es m z).members.map f :=
    fun f => passKey_eq_fillKey f hsub ▸ fillKey_spec f _
  refine ⟨fun f arg h => ?_, mkGroup_drawn es m z⟩
  rcases h with ⟨rfl, rfl⟩ | ⟨rfl, rfl⟩ | ⟨rfl, rfl⟩
  · exact key _
  · exact key _
  · exact key _

/-! ## draw_space -/

/-- What the property demands of an agent's marker: it sits at the drawing position of the agent's
    location and carries the portrayal's values or the defaults (size default: the space's `s_default`). -/
theorem C20_marker_values (fam : Family) (heap : Heap) (p : Portrayal) (a : Agent) (l : Loc)
    (hl : a.location = some l) :
    ∃ e, markerOf fam heap p a = some e ∧ e.loc = transform fam l ∧
      e.s = (Dict.get? (portrayed heap p a.id) "size").getD "D" ∧
      e.c = (Dict.get? (portrayed heap p a.id) "color").getD "tab:blue" ∧
      e.marker = (Dict.get? (portrayed heap p a.id) "marker").getD "o" ∧
      e.zorder = (Dict.get? (portrayed heap p a.id) "zorder").getD "1" ∧
      e.alpha = Dict.get? (portrayed heap p a.id) "alpha" ∧
      e.edgecolors = Dict.get? (portrayed heap p a.id) "edgecolors" ∧
      e.linewidths = Dict.get? (portrayed heap p a.id) "linewidths" := by
  have hs := collectOne_spec drawDefaults l (portrayed heap p a.id)
  exact ⟨{ collectOne drawDefaults l (portrayed heap p a.id) with loc := transform fam l }, by simp [markerOf, hl],
    rfl, hs.2.1, hs.2.2.1, hs.2.2.2.1, hs.2.2.2.2.1, hs.2.2.2.2.2.1, hs.2.2.2.2.2.2.1, hs.2.2.2.2.2.2.2.1⟩

/-- `draw_space`, for every reachable space of the twelve classes, every heap and every portrayal — shared dicts and
    optional keys returned for some agents only included.  It raises before looking at the agents exactly on the spaces
    `drawRaises` names — a `mesa.space` grid or continuous space of size 0 × 0 (ZeroDivisionError in the default size), a
    network without nodes (ValueError) —, and such a space holds no agent (outside the property's quantifier: no occupancy
    state to show).  On every other space — every space that holds an agent among them — it succeeds, and what ends up on
    the Axes (`drawn`) is, as a multiset, exactly one marker per agent currently in the space, the one the property demands
    (`markerOf`), and nothing else; the calls are non-empty, homogeneous in marker and z-order, and no (marker, z-order)
    pair is scattered twice. -/
theorem C20_draw_one_marker_per_agent {sp : Space} (h : Reachable sp) (heap : Heap) (p : Portrayal) :
    (sp.placed ≠ [] → drawRaises sp = none) ∧
    (∀ e, drawRaises sp = some e → drawSpace sp heap p = .error e ∧ sp.placed = []) ∧
    (drawRaises sp = none → ∃ gs, drawSpace sp heap p = .ok gs ∧
      (gs.flatMap (·.drawn)).Perm (sp.placed.filterMap (markerOf sp.fam heap p)) ∧
      (∀ a ∈ sp.placed, (markerOf sp.fam heap p a).isSome) ∧
      (gs.flatMap (·.drawn)).length = sp.placed.length ∧
      (∀ g ∈ gs, g.drawn = g.members ∧ g.members ≠ [] ∧ ∀ e ∈ g.members, e.marker = g.marker ∧ e.zorder = g.zorder) ∧
      (gs.map fun g => (g.marker, g.zorder)).Nodup) := by
  refine ⟨drawRaises_none_of_placed h, fun e he => ⟨?_, ?_⟩, fun hr => ?_⟩
  · unfold drawSpace
    rw [he]
  · apply Classical.byContradiction
    intro hne
    rw [drawRaises_none_of_placed h hne] at he
    cases he
  have w := reachable_wf h
  have hs := C20_scatter_partition (drawEntries sp heap p)
  have hp := (scatter_drawn_perm _).trans (drawEntries_perm w heap p)
  exact ⟨_, drawSpace_eq w hr heap p, hp, markerOf_isSome w heap p,
    hp.length_eq.trans (List.filterMap_length_eq_length.mpr (markerOf_isSome w heap p)),
    fun g hg => ⟨scatter_drawn hg, hs.2.1 g hg⟩, hs.2.2⟩

/-- `draw_space` never answers anything else: the result is the scatter calls of the entries. -/
theorem C20_draw_ok_one_marker_per_agent {sp : Space} (h : Reachable sp) (heap : Heap) (p : Portrayal)
    {gs : List Group} (hd : drawSpace sp heap p = .ok gs) :
    (gs.flatMap (·.drawn)).Perm (sp.placed.filterMap (markerOf sp.fam heap p)) ∧
    (gs.flatMap (·.drawn)).length = sp.placed.length := by
  have hr : drawRaises sp = none := by
    cases hc : drawRaises sp with
    | none => rfl
    | some e =>
      unfold drawSpace at hd
      rw [hc] at hd
      cases hd
  obtain ⟨gs', h1, h2, _, h4, _⟩ := (C20_draw_one_marker_per_agent h heap p).2.2 hr
  rw [hd] at h1
  injection h1 with h1
  subst h1
  exact ⟨h2, h4⟩

/-- the state of the V7 witness: two agents on a MultiGrid -/
def v7Space : Space :=
  { fam := .multi, w := 2, h := 2, cells := gridCells 2 2,
    placed := [mkAgent .multi 1 ⟨0, 0⟩, mkAgent .multi 2 ⟨1, 1⟩] }

theorem v7Space_reachable : Reachable v7Space :=
  Reachable.of_run .multi 2 2 [] [.place 1 ⟨0, 0⟩, .place 2 ⟨1, 1⟩] (by decide +kernel)

/-- Witness V7 (raised IndexError before the fix): agent 1 returns `{"alpha": "50"}`, agent 2 returns `{}`.
    `collect_agent_data` records `[50, None]`; one scatter call draws both agents, is handed an alpha array
    with a slot for each — agent 2's is the default — and no edgecolors / linewidths keyword. -/
theorem C20_V7_some_agents_optional_drawn :
    let heap : Heap := [[("alpha", "50")]]
    let p : Portrayal := fun a => if a = 1 then some 0 else none
    (collectAgentData libDefaults heap p (spaceAgents v7Space)).map alphas = some [some "50", none] ∧
    (drawSpace v7Space heap p).toOption.map (·.map fun g => (g.marker, g.zorder, g.alpha)) =
      some [("o", "1", some [some "50", none])] ∧
    (drawSpace v7Space heap p).toOption.map (·.map fun g => (g.edgecolors, g.linewidths)) = some [(none, none)] ∧
    (drawSpace v7Space heap p).toOption.map (·.map fun g => g.drawn.map fun e => (e.loc, e.alpha)) =
      some [[(⟨0, 0⟩, some "50"), (⟨1, 1⟩, none)]] := by
  intro heap p
  refine ⟨by decide +kernel, by decide +kernel, by decide +kernel, by decide +kernel⟩

/-- V5: a space without agents (one that `draw_space` does not refuse for its size, see above) is drawn without markers
    and without an exception; Altair gets no rows. -/
theorem C20_empty_space_draws_nothing {sp : Space} (h : Reachable sp) (heap : Heap) (p : Portrayal)
    (he : sp.placed = []) :
    (drawRaises sp = none → drawSpace sp heap p = .ok []) ∧ (altairSupported sp.fam = true → altairRows sp heap p = .ok []) := by
  have w := reachable_wf h
  have hsa := (spaceAgents_eq_nil_iff w).mpr he
  refine ⟨fun hr => ?_, fun hs => ?_⟩
  · rw [drawSpace_eq w hr, drawEntries, hsa]
    rfl
  unfold altairRows
  rw [hs, hsa]
  rfl

/-- On hex grids the marker of an agent in cell (col, row) sits at the centre of the hexagon that
    `_get_hexmesh` draws for that cell (and that the property layer colours for it). -/
theorem C20_hex_marker_at_hexagon_centre (fam : Family) (hf : fam.isHex = true) (col row : Nat) :
    transform fam ⟨col, row⟩ = hexCenter col row := by
  unfold transform hexCenter
  rw [if_pos hf]
  congr 1
  by_cases h : row % 2 = 0
  · have : ((row : Int) - 1) % 2 = 1 := by omega
    simp [h, this]
  · have : ((row : Int) - 1) % 2 = 0 := by omega
    simp [h, this]

/-- Distinct locations are drawn at distinct positions, in every space class. -/
theorem C20_distinct_locations_distinct_positions (fam : Family) {a b : Loc}
    (h : transform fam a = transform fam b) : a = b := by
  unfold transform at h
  split at h
  · injection h with hx hy
    have hy' : a.y = b.y := by omega
    have hx' : a.x = b.x := by
      rw [hy'] at hx
      omega
    cases a
    cases b
    simp_all
  · exact h

/-! ## the default size -/

/-- The default size and `draw_space`: the spaces `draw_space` refuses for their size (`drawRaises`) are exactly those
    whose default size `(180 / extent)²` is undefined — for every space, reachable or not. -/
theorem defaultSize_undefined_iff (sp : Space) : defaultSize sp = .undefined ↔ drawRaises sp ≠ none := by
  rcases sp.fam.trichotomy with hf | hf | hf
  · rw [defaultSize_rect hf, drawRaises_rect hf, sizeOfExtent_undefined_iff]
    constructor
    · intro hu
      rw [if_pos (by omega)]
      exact Option.some_ne_none _
    · intro hn hpos
      exact hn (if_neg (by omega))
  · rw [defaultSize_net hf, drawRaises_net hf]
    cases hc : sp.cells with
    | nil => simp
    | cons c cs =>
      cases cs with
      | nil => simp [sizeOfExtent]
      | cons d ds => simp
  · have hx := spread_nonneg (sp.cells.map (·.x))
    have hy := spread_nonneg (sp.cells.map (·.y))
    obtain ⟨f, hf', _⟩ := sizeOfExtent_or_one (e := max (spread (sp.cells.map (·.x))) (spread (sp.cells.map (·.y)))) (by omega)
    unfold defaultSize drawRaises
    simp only [hf, hf']
    simp

/-- The size of a marker whose portrayal names none (`s_default`) is a positive finite number in every reachable
    space that holds an agent: `(180 / max(width, height))²` on grids and continuous spaces (the extent is positive
    there); `180²` on a network with a single node (fix V12: the layout has no extent — it was (180/0)² = inf) and on a
    Voronoi grid with a single centroid (fix V15: it was a ZeroDivisionError); `(180 / side)²` with the positive larger
    side of the centroids' bounding box on Voronoi grids with more centroids.  (Networks with several nodes: by
    networkx's layout, not modelled.)  In particular `draw_space` does not refuse such a space for its size. -/
theorem C20_default_size_defined {sp : Space} (h : Reachable sp) (hne : sp.placed ≠ []) :
    defaultSize sp ≠ .undefined ∧
    (sp.fam.isOrthogonal = true ∨ sp.fam.isHex = true ∨ sp.fam.cellular = false →
      0 < max (sp.w : Int) (sp.h : Int) ∧
      defaultSize sp = .exact ⟨32400, (max (sp.w : Int) (sp.h : Int) * max (sp.w : Int) (sp.h : Int)).toNat⟩) ∧
    (sp.fam = .net ∨ sp.fam = .netgrid →
      sp.cells.length ≠ 0 ∧ (sp.cells.length = 1 → defaultSize sp = .exact ⟨32400, 1⟩) ∧
      (2 ≤ sp.cells.length → defaultSize sp = .layout)) ∧
    (sp.fam = .vor → (∃ f, defaultSize sp = .exact f ∧ f.num = 32400 ∧ 0 < f.den) ∧
      (sp.cells.length = 1 → defaultSize sp = .exact ⟨32400, 1⟩)) := by
  refine ⟨fun hu => ?_, fun hf => ?_, fun hf => ?_, fun hf => ⟨?_, fun h1 => ?_⟩⟩
  · exact (defaultSize_undefined_iff sp).mp hu (drawRaises_none_of_placed h hne)
  · have hpos := extent_pos h hne hf
    exact ⟨hpos, by rw [defaultSize_rect hf, sizeOfExtent, if_pos hpos]⟩
  · have hcell : sp.fam.cellular = true := by rcases hf with hf | hf <;> rw [hf] <;> rfl
    have hlen : sp.cells.length ≠ 0 :=
      fun h0 => cells_ne_nil_of_placed (reachable_wf h) hcell hne (List.length_eq_zero_iff.mp h0)
    rw [defaultSize_net hf, if_neg hlen]
    exact ⟨hlen, fun h1 => if_pos h1 ▸ rfl, fun h2 => if_neg (by omega)⟩
  · have hx := spread_nonneg (sp.cells.map (·.x))
    have hy := spread_nonneg (sp.cells.map (·.y))
    unfold defaultSize
    simp only [hf]
    exact sizeOfExtent_or_one (by omega)
  · match hc : sp.cells, h1 with
    | [c], _ =>
      unfold defaultSize
      simp only [hf, hc]
      have : spread [c.x] = 0 ∧ spread [c.y] = 0 := by simp [spread, minOf, maxOf]
      simp [this.1, this.2, sizeOfExtent]

/-- `draw_space(space, agent_portrayal, ax=ax, **kw)` with plotting keywords among `alpha` / `edgecolors` /
    `linewidths`, on a space `draw_space` does not refuse for its size (there it raises the same error with keywords as
    without).  The keywords reach the scatter calls of grids and networks only (`kw'`; continuous and Voronoi spaces drop
    them).  The call is refused if and only if the space holds an agent and some keyword is also specified by some agent's
    portrayal (`clashes`) — both directions —, and the keyword named in the error is the first one that clashes in the
    order edgecolors, linewidths, alpha; otherwise the scatter calls are those of `draw_space` without keywords — so
    `C20_draw_one_marker_per_agent` applies to them — and every one is handed `kw'` in addition. -/
theorem C20_draw_kwargs {sp : Space} (h : Reachable sp) (hr : drawRaises sp = none) (heap : Heap) (p : Portrayal)
    (kw : List (Key × Val)) :
    ∃ gs kw', drawSpace sp heap p = .ok gs ∧ kw' = (if forwardsKwargs sp.fam then kw else []) ∧
      ((sp.placed = [] ∨ ∀ kf ∈ optKeys, ¬ clashes (drawEntries sp heap p) kw' kf) →
        drawSpaceKw sp heap p kw = .ok ⟨gs, kw'⟩) ∧
      (sp.placed ≠ [] → (∃ kf ∈ optKeys, clashes (drawEntries sp heap p) kw' kf) →
        ∃ k, drawSpaceKw sp heap p kw = .error (.conflict k)) ∧
      (∀ k, drawSpaceKw sp heap p kw = .error (.conflict k) →
        sp.placed ≠ [] ∧ ∃ kf before after, optKeys = before ++ kf :: after ∧ kf.1 = k ∧
          clashes (drawEntries sp heap p) kw' kf ∧ ∀ kf' ∈ before, ¬ clashes (drawEntries sp heap p) kw' kf') ∧
      drawSpaceKw sp heap p kw ≠ .error .attribute ∧ (∀ e, drawSpaceKw sp heap p kw ≠ .error (.raised e)) := by
  have w := reachable_wf h
  have hnil : drawEntries sp heap p = [] ↔ sp.placed = [] := by
    rw [← List.length_eq_zero_iff, drawEntries_length w heap p, List.length_eq_zero_iff]
  rw [drawSpaceKw_eq w hr]
  refine ⟨_, _, drawSpace_eq w hr heap p, rfl, fun hc => ?_, fun hne hcl => ?_, fun k hk => ?_, fun hk => ?_, fun e hk => ?_⟩
  · exact (scatterKw_ok_iff _ _ _).mpr ⟨rfl, hc.imp hnil.mpr (kwConflict_none_iff _ _).mpr⟩
  · cases hc : kwConflict (drawEntries sp heap p) (if forwardsKwargs sp.fam then kw else []) with
    | some k => exact ⟨k, (scatterKw_error_iff _ _ _).mpr ⟨fun h => hne (hnil.mp h), k, hc, rfl⟩⟩
    | none =>
      obtain ⟨kf, hm, hcl⟩ := hcl
      exact absurd hcl ((kwConflict_none_iff _ _).mp hc kf hm)
  · obtain ⟨hne, k', hc, he⟩ := (scatterKw_error_iff _ _ _).mp hk
    cases he
    exact ⟨fun hp => hne (hnil.mpr hp), kwConflict_first hc⟩
  · obtain ⟨_, _, _, he⟩ := (scatterKw_error_iff _ _ _).mp hk
    cases he
  · obtain ⟨_, _, _, he⟩ := (scatterKw_error_iff _ _ _).mp hk
    cases he

/-- Every agent of a reachable space is drawn inside the axis limits `draw_space` sets.  Grids, hex grids and continuous
    spaces: strictly inside — half a cell, the hexagons' padding, a twentieth of the space around it.  Voronoi grids: inside
    or on the limits (the centroids' bounding box plus a twentieth of its sides), strictly inside in a direction in which
    the centroids have an extent. -/
theorem C20_markers_inside_the_limits {sp : Space} (h : Reachable sp) {a : Agent} (ha : a ∈ sp.placed) :
    (sp.fam.isOrthogonal = true ∨ sp.fam.isHex = true ∨ sp.fam.cellular = false →
      ∃ l f, a.location = some l ∧ frameOf sp = some f ∧ f.shows (transform sp.fam l)) ∧
    (sp.fam = .vor → ∃ l f, a.location = some l ∧ frameOf sp = some f ∧ f.touches (transform sp.fam l) ∧
      (0 < spread (sp.cells.map (·.x)) → f.xlo < f.den * l.x ∧ f.den * l.x < f.xhi) ∧
      (0 < spread (sp.cells.map (·.y)) → f.ylo < f.den * l.y ∧ f.den * l.y < f.yhi)) := by
  refine ⟨fun hf => ?_, fun hf => ?_⟩
  · obtain ⟨l, hloc, h1, h2, h3, h4⟩ := located_in_bounds h ha hf
    refine ⟨l, ?_⟩
    rcases hf with hf | hf | hf
    · obtain ⟨hfr, hhex⟩ := frameOf_orthogonal hf
      refine ⟨_, hloc, hfr, ?_⟩
      simp only [Frame.shows, transform, hhex, Bool.false_eq_true, if_false]
      omega
    · -- in units of (√3/2, 1/2): x = 2·col + ((row − 1) mod 2) lies in (−2, 2·w + h mod 2 + 1), y = 3·row in (−4, 3·h + 2)
      refine ⟨_, hloc, frameOf_hex hf, ?_⟩
      simp only [Frame.shows, transform, hf, if_true]
      omega
    · obtain ⟨hfr, hhex⟩ := frameOf_continuous hf
      refine ⟨_, hloc, hfr, ?_⟩
      simp only [Frame.shows, transform, hhex, Bool.false_eq_true, if_false]
      omega
  · obtain ⟨l, hloc, hl⟩ := (reachable_wf h).located a ha
    have hmem := hl (hf ▸ rfl)
    obtain ⟨x0, x1, h1, h2, a1, a2⟩ := minOf_maxOf_of_mem (List.mem_map.mpr ⟨l, hmem, rfl⟩ : l.x ∈ sp.cells.map (·.x))
    obtain ⟨y0, y1, h3, h4, a3, a4⟩ := minOf_maxOf_of_mem (List.mem_map.mpr ⟨l, hmem, rfl⟩ : l.y ∈ sp.cells.map (·.y))
    refine ⟨l, ⟨20, 20 * x0 - (x1 - x0), 20 * x1 + (x1 - x0), 20 * y0 - (y1 - y0), 20 * y1 + (y1 - y0)⟩, hloc, ?_, ?_, ?_, ?_⟩
    · unfold frameOf
      simp only [hf, h1, h2, h3, h4]
    · simp only [Frame.touches, transform, Family.isHex, hf, Bool.false_eq_true, if_false]
      omega
    · intro hsp
      simp only [spread, h1, h2] at hsp
      simp only
      omega
    · intro hsp
      simp only [spread, h3, h4] at hsp
      simp only
      omega

/-- `draw_network` with `layout_alg` a callable (the layout `ly`: node label ↦ position, not empty), for every reachable
    space, heap and portrayal.  The only way it fails is a KeyError: exactly when some agent stands on a node the layout
    has no entry for, and the error names the node of the first such agent in `space.agents` order.  Otherwise what ends
    up on the Axes is, as a multiset, one marker per agent in the space — its entry (`C20_entry_is_portrayal_or_default`)
    moved to the position the layout registers under the *label* of the agent's node (`placeBy`; fix V6: not under the
    node's rank in the graph) —, and the default marker size is `(180 / extent)²` of the layout's bounding box, a positive
    finite number also for a layout without extent (fix V12). -/
theorem C20_network_markers_at_layout_positions {sp : Space} (h : Reachable sp) (heap : Heap) (p : Portrayal)
    (ly : Layout) (hne : ly ≠ []) :
    (∀ n, drawNetwork sp heap p ly = .error (.key n) ↔
      ∃ before e after, (spaceAgents sp).filterMap (entryOf drawDefaults heap p) = before ++ e :: after ∧
        e.loc.x = n ∧ ly.lookup n = none ∧ ∀ b ∈ before, (ly.lookup b.loc.x).isSome) ∧
    ((∃ d, drawNetwork sp heap p ly = .ok d) ∨ ∃ n, drawNetwork sp heap p ly = .error (.key n)) ∧
    (∀ d, drawNetwork sp heap p ly = .ok d →
      d.size = layoutSize ly ∧ (∃ f, d.size = .exact f ∧ f.num = 32400 ∧ 0 < f.den) ∧
      ((d.groups.flatMap (·.drawn)).map some).Perm ((sp.placed.filterMap (entryOf drawDefaults heap p)).map (placeBy ly)) ∧
      (d.groups.flatMap (·.drawn)).length = sp.placed.length) := by
  have w := reachable_wf h
  have hdn := drawNetwork_eq w heap p hne
  generalize hes : (spaceAgents sp).filterMap (entryOf drawDefaults heap p) = es at *
  refine ⟨fun n => ?_, ?_, fun d hd => ?_⟩
  · rw [hdn, ← relocate_error_iff ly es n]
    cases relocate ly es with
    | ok es' => simp
    | error err =>
      exact ⟨fun hx => by rw [Except.error.inj hx], fun hx => by rw [Except.error.inj hx]⟩
  · rw [hdn]
    cases hr : relocate ly es with
    | ok es' => exact Or.inl ⟨_, rfl⟩
    | error err =>
      obtain ⟨n, rfl⟩ := relocate_error_key hr
      exact Or.inr ⟨n, rfl⟩
  · rw [hdn] at hd
    cases hr : relocate ly es with
    | error err =>
      rw [hr] at hd
      cases hd
    | ok es' =>
      rw [hr] at hd
      injection hd with hd
      subst hd
      have hmap := (relocate_ok_iff ly es es').mp hr
      have hperm : es.Perm (sp.placed.filterMap (entryOf drawDefaults heap p)) := by
        rw [← hes]
        exact (spaceAgents_perm w).filterMap _
      have hlen : es'.length = sp.placed.length := by
        have := congrArg List.length hmap
        rw [List.length_map, List.length_map, ← hes, (C20_collect_one_entry_per_agent h drawDefaults heap p).2.1] at this
        exact this.symm
      have hx := spread_nonneg (ly.map (·.2.x))
      have hy := spread_nonneg (ly.map (·.2.y))
      refine ⟨rfl, sizeOfExtent_or_one (by omega), ?_, (scatter_drawn_perm es').length_eq.trans hlen⟩
      refine (((scatter_drawn_perm es').map some).trans ?_)
      rw [← hmap]
      exact hperm.map _

/-! ## measure plots -/

/-- `PlotMatplotlib` for a measure given as a string, a dict measure ↦ colour, a list or a tuple, over every table of
    collected model variables.  It fails exactly when a requested measure is not in the table — a KeyError naming the first
    such measure in the order of the request —, and otherwise draws exactly one line per requested measure, in that order,
    each carrying the values collected for *its* measure, labelled with the measure (no label for a single string) and
    coloured as the dict says (the colour cycle otherwise); a legend exactly for dict / list / tuple requests, the y label
    exactly for a string; anything else plots nothing. -/
theorem C20_plot_one_line_per_requested_measure (t : Table) (spec : MeasureSpec) :
    (∀ m, plotMeasure t spec = .error m ↔
      ∃ before r after, spec.requests = before ++ r :: after ∧ r.1 = m ∧ t.lookup m = none ∧
        ∀ b ∈ before, (t.lookup b.1).isSome) ∧
    (∀ pl, plotMeasure t spec = .ok pl →
      spec.requests.map (lineOf t) = pl.lines.map some ∧ pl.lines.length = spec.requests.length ∧
      (pl.legend = true ↔ (∃ ms, spec = .dict ms) ∨ (∃ ms, spec = .list ms) ∨ (∃ ms, spec = .tuple ms)) ∧
      (∀ m, pl.ylabel = some m ↔ spec = .str m)) ∧
    ((∀ r ∈ spec.requests, (t.lookup r.1).isSome) → ∃ pl, plotMeasure t spec = .ok pl) := by
  refine ⟨fun m => (plotMeasure_error_iff t spec m).trans (plotLines_error_iff t _ m), fun pl h => ?_, fun hall => ?_⟩
  · obtain ⟨hr, hl, hy⟩ := plotMeasure_ok h
    have hm := (plotLines_ok_iff t _ _).mp hr
    have hlen := congrArg List.length hm
    rw [List.length_map, List.length_map] at hlen
    exact ⟨hm, hlen.symm, hl, hy⟩
  · cases hp : plotMeasure t spec with
    | ok pl => exact ⟨pl, rfl⟩
    | error e =>
      obtain ⟨before, r, after, hsplit, hx, hnone, _⟩ :=
        (plotLines_error_iff t _ e).mp ((plotMeasure_error_iff t spec e).mp hp)
      have := hall r (hsplit ▸ List.mem_append_right _ List.mem_cons_self)
      rw [hx, hnone] at this
      cases this

/-- How the lines of a measure plot are labelled and coloured, form by form: a string is plotted without label and colour
    (the y label names it), a dict entry `m: colour` as the line of `m`'s values labelled `m` in that colour, a list /
    tuple entry labelled with the measure in the next colour of the cycle; anything else plots nothing. -/
theorem C20_plot_lines_labelled_and_coloured (t : Table) (spec : MeasureSpec) (pl : Plot) (h : plotMeasure t spec = .ok pl) :
    (∀ m, spec = .str m → pl.lines.map (fun l => (l.label, l.color)) = [(none, none)] ∧ [t.lookup m] = pl.lines.map (fun l => some l.ys)) ∧
    (∀ ms, spec = .dict ms → pl.lines.map (fun l => (l.label, l.color)) = ms.map (fun mc => (some mc.1, some mc.2)) ∧
      ms.map (fun mc => t.lookup mc.1) = pl.lines.map (fun l => some l.ys)) ∧
    (∀ ms, spec = .list ms ∨ spec = .tuple ms → pl.lines.map (fun l => (l.label, l.color)) = ms.map (fun m => (some m, none)) ∧
      ms.map (fun m => t.lookup m) = pl.lines.map (fun l => some l.ys)) ∧
    (spec = .other → pl.lines = []) := by
  obtain ⟨h1, h2⟩ := plotLines_labels t _ _ (plotMeasure_ok h).1
  refine ⟨fun m hs => ?_, fun ms hs => ?_, fun ms hs => ?_, fun hs => ?_⟩
  · subst hs
    exact ⟨h1, h2⟩
  · subst hs
    simp only [MeasureSpec.requests, List.map_map] at h1 h2
    exact ⟨h1, h2⟩
  · rcases hs with hs | hs <;> subst hs <;> simp only [MeasureSpec.requests, List.map_map] at h1 h2 <;> exact ⟨h1, h2⟩
  · subst hs
    simp only [MeasureSpec.requests, List.map_nil] at h1
    simpa using h1

/-- What the plot and network entry points refuse: `make_plot_component` takes the backend "matplotlib", answers
    NotImplementedError for "altair" and ValueError for every other name; `draw_network` with a caller's layout raises
    ValueError exactly when the layout is empty (whatever the agents and their portrayals are). -/
theorem C20_plot_backend_and_empty_layout (backend : String) (sp : Space) (heap : Heap) (p : Portrayal) (ly : Layout) :
    (plotBackend backend = .ok () ↔ backend = "matplotlib") ∧
    (plotBackend backend = .error .notImplemented ↔ backend = "altair") ∧
    (plotBackend backend = .error .value ↔ backend ≠ "matplotlib" ∧ backend ≠ "altair") ∧
    (drawNetwork sp heap p ly = .error .value ↔ ly = []) := by
  refine ⟨(plotBackend_eq_iff _ _).trans (by simp), (plotBackend_eq_iff _ _).trans (by simp),
    (plotBackend_eq_iff _ _).trans (by simp), drawNetwork_value_iff sp heap p ly⟩

/-! ## Altair -/

/-- `_draw_grid` hands Altair one row per agent currently in the space (for the space classes Altair
    supports; the others are refused with NotImplementedError), for every portrayal, shared dicts included. -/
theorem C20_altair_one_row_per_agent {sp : Space} (h : Reachable sp) (heap : Heap) (p : Portrayal) :
    (altairSupported sp.fam = true →
      altairRows sp heap p = .ok ((spaceAgents sp).filterMap (rowOf heap p)) ∧
      ((spaceAgents sp).filterMap (rowOf heap p)).Perm (sp.placed.filterMap (rowOf heap p)) ∧
      ((spaceAgents sp).filterMap (rowOf heap p)).length = sp.placed.length) ∧
    (altairSupported sp.fam = false → altairRows sp heap p = .error .notImplemented) := by
  have w := reachable_wf h
  refine ⟨fun hs => ?_, fun hs => ?_⟩
  · have hl := spaceAgents_located w
    refine ⟨?_, (spaceAgents_perm w).filterMap _, ?_⟩
    · unfold altairRows
      rw [hs, altairRowsOf_eq_filterMap heap p _ hl]
      rfl
    · have hsome : ∀ a ∈ spaceAgents sp, (rowOf heap p a).isSome := by
        intro a ha
        obtain ⟨l, e⟩ := hl a ha
        simp [rowOf, e]
      exact (List.filterMap_length_eq_length.mpr hsome).trans (spaceAgents_perm w).length_eq
  · unfold altairRows
    rw [hs]
    rfl

/-- The row of an agent carries its coordinates under `x` and `y` and every other key exactly as its
    portrayal returned it. -/
theorem C20_altair_row_values (heap : Heap) (p : Portrayal) (a : Agent) (l : Loc) (hl : a.location = some l) :
    ∃ row, rowOf heap p a = some row ∧
      Dict.get? row "x" = some (toString l.x) ∧ Dict.get? row "y" = some (toString l.y) ∧
      ∀ k, k ≠ "x" → k ≠ "y" → Dict.get? row k = Dict.get? (portrayed heap p a.id) k :=
  ⟨_, by simp [rowOf, hl], altairRow_spec _ l⟩

/-- The Altair chart (`_draw_grid`): its data are the rows of `C20_altair_one_row_per_agent`; the encoding is read off
    the row of the *first* agent of `space.agents` — a colour / size channel iff that agent's portrayal has the key,
    tooltips for its other keys (all but colour, size, x, y) in the portrayal's order — and of `{}` for a space without
    agents; the marks get the default size `30000 / min(width, height)²` exactly when sizes do not come from the rows;
    x and y are ordinal (nominal for `mesa.space.ContinuousSpace`).  On a supported space of width or height 0 (only
    `mesa.space` classes can be built that small; it holds no agent) that default size is a ZeroDivisionError. -/
theorem C20_altair_chart_encoding {sp : Space} (h : Reachable sp) (heap : Heap) (p : Portrayal)
    (hs : altairSupported sp.fam = true) :
    (sp.placed ≠ [] → min sp.w sp.h ≠ 0) ∧
    (min sp.w sp.h = 0 → altairChart sp heap p = .error .zeroDivision) ∧
    (min sp.w sp.h ≠ 0 → ∃ c, altairChart sp heap p = .ok c ∧
      c.rows = (spaceAgents sp).filterMap (rowOf heap p) ∧
      (spaceAgents sp = [] → c.color = false ∧ c.size = false ∧ c.tooltip = []) ∧
      (∀ a rest, spaceAgents sp = a :: rest →
        c.color = Dict.hasKey (portrayed heap p a.id) "color" ∧
        c.size = Dict.hasKey (portrayed heap p a.id) "size" ∧
        c.tooltip = (Dict.keys (portrayed heap p a.id)).filter fun k => !invalidTooltips.contains k) ∧
      (c.markSize = none ↔ c.size = true) ∧
      (c.size = false → c.markSize = some ⟨30000, (min sp.w sp.h) * (min sp.w sp.h)⟩) ∧
      c.xyType = (if sp.fam = .cs then "nominal" else "ordinal")) := by
  have hr := ((C20_altair_one_row_per_agent h heap p).1 hs).1
  have hposp : sp.placed ≠ [] → min sp.w sp.h ≠ 0 := min_pos_of_placed h hs
  refine ⟨hposp, fun hz => ?_, fun hpos => ?_⟩
  · have hpl : sp.placed = [] := Classical.byContradiction fun hne => hposp hne hz
    have hsa := (spaceAgents_eq_nil_iff (reachable_wf h)).mpr hpl
    rw [hsa] at hr
    exact altairChart_zero hr hz
  refine ⟨_, altairChart_eq hr hpos, rfl, fun he => ?_, fun a rest he => ?_, ?_, ?_, rfl⟩
  · simp only [he, List.filterMap_nil]
    exact ⟨rfl, rfl, rfl⟩
  · obtain ⟨l, hl⟩ := spaceAgents_located (reachable_wf h) a (he ▸ List.mem_cons_self)
    simp only [he, firstRow_filterMap heap p a rest hl]
    exact ⟨hasKey_altairRow _ l (by decide) (by decide), hasKey_altairRow _ l (by decide) (by decide),
      keys_altairRow_filter _ l _ (by decide) (by decide)⟩
  · simp only
    split <;> simp_all
  · intro hsz
    simp only at hsz ⊢
    rw [hsz]
    rfl

/-- PARTIAL (open finding A1).  The full statement — "an agent whose portrayal returns a colour (a size) is drawn with
    it", i.e. the chart has the channel as soon as some agent's row has the key — is false for `_draw_grid`, which reads
    the encoding off the first row only (`C20_A1_first_row_encoding_refuted` below).  What holds: a portrayal that gives
    every agent a colour (a size) is encoded with it, one that gives none is not — whatever the order of the agents; and
    the rows (`C20_altair_row_values`) carry every agent's values in all cases. -/
theorem C20_altair_portrayal_encoded_partial {sp : Space} (h : Reachable sp) (heap : Heap) (p : Portrayal)
    (hs : altairSupported sp.fam = true) {c : AltairChart} (hc : altairChart sp heap p = .ok c) :
    (sp.placed ≠ [] → (∀ a ∈ sp.placed, Dict.hasKey (portrayed heap p a.id) "color" = true) → c.color = true) ∧
    ((∀ a ∈ sp.placed, Dict.hasKey (portrayed heap p a.id) "color" = false) → c.color = false) ∧
    (sp.placed ≠ [] → (∀ a ∈ sp.placed, Dict.hasKey (portrayed heap p a.id) "size" = true) → c.size = true) ∧
    ((∀ a ∈ sp.placed, Dict.hasKey (portrayed heap p a.id) "size" = false) → c.size = false) := by
  have hpos : min sp.w sp.h ≠ 0 := by
    intro hz
    rw [(C20_altair_chart_encoding h heap p hs).2.1 hz] at hc
    cases hc
  obtain ⟨c', hc', _, hnil, hcons, _⟩ := (C20_altair_chart_encoding h heap p hs).2.2 hpos
  rw [hc] at hc'
  injection hc' with hc'
  subst hc'
  have w := reachable_wf h
  cases he : spaceAgents sp with
  | nil =>
    obtain ⟨h1, h2, _⟩ := hnil he
    have hp := (spaceAgents_eq_nil_iff w).mp he
    exact ⟨fun hne => absurd hp hne, fun _ => h1, fun hne => absurd hp hne, fun _ => h2⟩
  | cons a rest =>
    obtain ⟨h1, h2, _⟩ := hcons a rest he
    have ha : a ∈ sp.placed := (spaceAgents_perm w).subset (he ▸ List.mem_cons_self)
    rw [h1, h2]
    exact ⟨fun _ hall => hall a ha, fun hall => hall a ha, fun _ hall => hall a ha, fun hall => hall a ha⟩

/-- the state of the A1 witness: three agents on a 2 × 3 hex grid, two of them in one cell -/
def a1Space : Space :=
  { fam := .hexm, w := 2, h := 3, cells := gridCells 2 3,
    placed := [mkAgent .hexm 1 ⟨1, 2⟩, mkAgent .hexm 2 ⟨0, 1⟩, mkAgent .hexm 3 ⟨1, 2⟩] }
def a1Heap : Heap := [[("color", "red"), ("size", "5")], [("zorder", "2")]]
def a1Portrayal : Portrayal := fun a => if a = 2 then some 1 else some 0
def a1Portrayal' : Portrayal := fun a => if a = 2 then some 0 else some 1

/-- Open finding A1, the refutation of the full statement: on the hex grid `a1Space` agent 2 — the first of `space.agents` —
    is portrayed by a z-order only and agents 1 and 3 by colour red and size 5: their rows carry colour and size, the
    chart has neither channel (all marks get the default colour and the default size 30000 / 2²).  The other way round
    (`a1Portrayal'`: only the first agent returns a size) the chart has a quantitative size channel that two of the
    three rows have no value for. -/
theorem C20_A1_first_row_encoding_refuted :
    (∃ c, altairChart a1Space a1Heap a1Portrayal = .ok c ∧ c.color = false ∧ c.size = false ∧ c.markSize = some ⟨30000, 4⟩ ∧
      (c.rows.filter fun r => Dict.hasKey r "color" && Dict.hasKey r "size").length = 2) ∧
    (∃ c, altairChart a1Space a1Heap a1Portrayal' = .ok c ∧ c.size = true ∧ c.markSize = none ∧
      (c.rows.filter fun r => !Dict.hasKey r "size").length = 2) := by
  refine ⟨⟨_, rfl, ?_⟩, ⟨_, rfl, ?_⟩⟩ <;> decide +kernel

/-! ## property layers -/

/-- Orthogonal grids: the image handed to `imshow(origin="lower")` shows `data[x, y]` in column `x` of image
    row `y`, i.e. at the cell's own place. -/
theorem C20_layer_image_orientation (L : Layer) (hw : L.wellFormed = true) {x y : Nat} (hx : x < L.w) (hy : y < L.h) :
    ∃ row v, (imshowRows L)[y]? = some row ∧ row[x]? = some (some v) ∧ L.at x y = some v := by
  obtain ⟨row, h1, h2⟩ := imshowRows_getElem L hy hx
  obtain ⟨v, hv⟩ := Layer.at_isSome hw hx hy
  exact ⟨row, v, h1, by rw [h2, hv], hv⟩

/-- Hex grids: `_get_hexmesh` (`hexMesh`) yields one hexagon per cell, row by row; the hexagon number `y * w + x` is the
    one centred at `hexCenter x y` — where the agents of cell `(x, y)` are drawn (`C20_hex_marker_at_hexagon_centre`) —, and
    the colour with the same number (`hexColors`: `data.T.ravel()`, fix V8) is that of `data[x, y]`: the two lists that
    `PolyCollection(hexagons, facecolors=…)` pairs up by position agree cell by cell, and there are as many of each as cells. -/
theorem C20_layer_hex_orientation (L : Layer) (hw : L.wellFormed = true) {x y : Nat} (hx : x < L.w) (hy : y < L.h) :
    (hexMesh L.w L.h).length = L.h * L.w ∧ (hexColors L).length = (hexMesh L.w L.h).length ∧
    (hexMesh L.w L.h)[y * L.w + x]? = some (hexCenter x y) ∧
    ∃ v, (hexColors L)[y * L.w + x]? = some (some v) ∧ L.at x y = some v := by
  obtain ⟨v, hv⟩ := Layer.at_isSome hw hx hy
  exact ⟨hexMesh_length _ _, by rw [hexMesh_length, hexColors_length], hexMesh_getElem L.w L.h hy hx, v,
    by rw [hexColors_getElem L hy hx, hv], hv⟩

/-- `data.ravel()`, what the code used before fix V8 -/
def hexColorsRavel (L : Layer) : List (Option Int) :=
  (List.range L.w).flatMap fun c => (List.range L.h).map fun r => L.at c r

/-- Witness V8: on a 2 × 3 layer `data.ravel()` colours the hexagon of cell (1, 0) with the value of
    cell (0, 1). -/
theorem C20_V8_ravel_refuted :
    let L : Layer := { w := 2, h := 3, vals := [0, 1, 2, 3, 4, 5] }
    (hexColorsRavel L)[0 * L.w + 1]? = some (L.at 0 1) ∧ L.at 0 1 ≠ L.at 1 0 ∧
    (hexColors L)[0 * L.w + 1]? = some (L.at 1 0) := by
  decide +kernel

/-! ## property layers: which layers, over which range, at which level -/

/-- The level of a value over a range `vmin < vmax` (`np.clip(Normalize(vmin, vmax)(v), 0, 1)`, as a fraction of
    the span): it lies in `[0, 1]`, is 0 exactly for the values up to `vmin` and 1 exactly from `vmax` on. -/
theorem C20_layer_level_bounds (v vmin vmax : Int) (h : vmin < vmax) :
    ((normLevel v vmin vmax).den : Int) = vmax - vmin ∧ 0 ≤ (normLevel v vmin vmax).num ∧
    (normLevel v vmin vmax).num ≤ (normLevel v vmin vmax).den ∧
    ((normLevel v vmin vmax).num = 0 ↔ v ≤ vmin) ∧
    ((normLevel v vmin vmax).num = (normLevel v vmin vmax).den ↔ vmax ≤ v) := by
  have hp : 0 < vmax - vmin := Int.sub_pos.mpr h
  have hd : (((vmax - vmin).toNat : Nat) : Int) = vmax - vmin := Int.toNat_of_nonneg (Int.le_of_lt hp)
  have hb := clamp_bounds (a := v - vmin) (lo := 0) (hi := vmax - vmin) (Int.le_of_lt hp)
  have h0 := clamp_eq_lo (a := v - vmin) (lo := 0) (hi := vmax - vmin) hp
  have h1 := clamp_eq_hi (a := v - vmin) (lo := 0) (hi := vmax - vmin) hp
  simp only [normLevel, if_neg (Int.ne_of_gt hp)]
  rw [hd]
  exact ⟨rfl, hb.1, hb.2, h0.trans ⟨Int.le_of_sub_nonpos, Int.sub_nonpos_of_le⟩, h1.trans Int.sub_le_sub_right_iff⟩

/-- The level is monotone in the value, and strictly monotone between `vmin` and `vmax`: there a larger value
    is drawn at a strictly higher level, so different values of the layer look different. -/
theorem C20_layer_level_monotone (vmin vmax : Int) (h : vmin < vmax) {v v' : Int} :
    (v ≤ v' → (normLevel v vmin vmax).num ≤ (normLevel v' vmin vmax).num) ∧
    (vmin ≤ v → v < v' → v' ≤ vmax → (normLevel v vmin vmax).num < (normLevel v' vmin vmax).num) ∧
    (normLevel v vmin vmax).den = (normLevel v' vmin vmax).den := by
  have hs : vmax - vmin ≠ 0 := Int.ne_of_gt (Int.sub_pos.mpr h)
  simp only [normLevel, if_neg hs]
  refine ⟨fun hv => clamp_mono (Int.sub_le_sub_right hv _), fun h1 h2 h3 => ?_, trivial⟩
  rw [clamp_eq_self (Int.sub_nonneg_of_le h1) (Int.sub_le_sub_right (Int.le_trans (Int.le_of_lt h2) h3) _),
    clamp_eq_self (Int.sub_nonneg_of_le (Int.le_trans h1 (Int.le_of_lt h2))) (Int.sub_le_sub_right h3 _)]
  exact Int.sub_lt_sub_right h2 _

/-- Between `vmin` and `vmax` the level is linear in the value and determines it: `v = vmin + level · (vmax − vmin)`
    (the numerator of the level is `v − vmin`). -/
theorem C20_layer_level_determines_value (v vmin vmax : Int) (h : vmin < vmax) (h1 : vmin ≤ v) (h2 : v ≤ vmax) :
    v = vmin + (normLevel v vmin vmax).num := by
  have hs : vmax - vmin ≠ 0 := Int.ne_of_gt (Int.sub_pos.mpr h)
  simp only [normLevel, if_neg hs]
  rw [clamp_eq_self (Int.sub_nonneg_of_le h1) (Int.sub_le_sub_right h2 _)]
  omega

/-- Under the automatic range (no `vmin` / `vmax` in the portrayal) the range is the layer's own minimum and
    maximum, both are values of the layer and every cell lies in the range — so, by the two theorems above, the
    picture determines the layer. -/
theorem C20_layer_auto_range (L : Layer) (pt : LayerPortrayal) (hmin : pt.vmin = none) (hmax : pt.vmax = none)
    {vmin vmax : Int} (hr : layerRange L pt = some (vmin, vmax)) :
    vmin ∈ L.vals ∧ vmax ∈ L.vals ∧ vmin ≤ vmax ∧ ∀ x y v, L.at x y = some v → vmin ≤ v ∧ v ≤ vmax := by
  unfold layerRange at hr
  cases h1 : minOf L.vals <;> cases h2 : maxOf L.vals <;> rw [h1, h2] at hr <;> try (cases hr; done)
  rename_i lo hi
  simp only [hmin, hmax, Option.getD_none, Option.some.injEq, Prod.mk.injEq] at hr
  obtain ⟨rfl, rfl⟩ := hr
  have ⟨hm1, hm2⟩ := minOf_spec h1
  have ⟨hM1, hM2⟩ := maxOf_spec h2
  exact ⟨hm1, hM1, hm2 _ hM1, fun x y v hv => ⟨hm2 v (Layer.at_mem hv), hM2 v (Layer.at_mem hv)⟩⟩

/-- What a drawn layer shows (all four ways of drawing; `Picture.cell`: image row `y`, column `x` for the
    orthogonal grids — `imshow(…, origin="lower")` —, hexagon `y·w + x` for the hex grids): at the place of cell
    `(x, y)` the layer's current value `data[x, y]`, normalised over `[vmin, vmax]` (`layerRange`: the portrayal's
    bounds, else the layer's own minimum / maximum), at opacity `alpha`; the colour bar, if requested, spans the
    same `[vmin, vmax]`; on hex grids the range is not inverted. -/
theorem C20_layer_cells_show_their_values {fam : Family} {name : String} {L : Layer} {pt : LayerPortrayal} {d : DrawnLayer}
    (hw : L.wellFormed = true) (hd : drawLayer fam name L pt = .ok d) {x y : Nat} (hx : x < L.w) (hy : y < L.h) :
    ∃ v vmin vmax, L.at x y = some v ∧ layerRange L pt = some (vmin, vmax) ∧ d.name = name ∧
      d.cbar = (if pt.colorbar then some (vmin, vmax) else none) ∧
      (fam.isHex = true → vmin ≤ vmax) ∧
      (∀ c, pt.mode = .color c → fam.isHex = false →
        d.pic.cell L.w x y = some (.opacity (orthoShade pt.alpha v vmin vmax))) ∧
      (∀ c, pt.mode = .color c → fam.isHex = true →
        d.pic.cell L.w x y = some (.opacity (hexShade pt.alpha v vmin vmax))) ∧
      (∀ c, pt.mode = .colormap c → fam.isHex = false →
        d.pic.cell L.w x y = some (.raw v pt.alpha vmin vmax)) ∧
      (∀ c, pt.mode = .colormap c → fam.isHex = true →
        d.pic.cell L.w x y = some (.level (normLevel v vmin vmax) pt.alpha)) ∧
      pt.mode ≠ .neither := by
  obtain ⟨v, hv⟩ := Layer.at_isSome hw hx hy
  obtain ⟨vmin, vmax, hr, hn, hc, ho, hm, hcell⟩ := drawLayer_ok hd
  have hcell := hcell hx hy hv
  unfold shownAt at hcell
  refine ⟨v, vmin, vmax, hv, hr, hn, hc, ho, ?_, ?_, ?_, ?_, hm⟩ <;> intro c hmode hf <;> rw [hcell, hmode, hf] <;> rfl

/-- `draw_property_layers` draws exactly the requested layers the space has, once each and in the order of the
    request (`knownPorts`); names without a layer are skipped; every picture is the one of its own layer and its
    own portrayal. -/
theorem C20_layers_drawn_are_the_requested_ones (fam : Family) (layers : List (String × Layer))
    (ports : List (String × LayerPortrayal)) {ds : List DrawnLayer} (h : drawLayers fam layers ports = .ok ds) :
    (fam.isOrthogonal = true ∨ fam.isHex = true) ∧
    ds.map (·.name) = (knownPorts layers ports).map (·.1) ∧
    ∀ d ∈ ds, ∃ pt L, (d.name, pt) ∈ knownPorts layers ports ∧ layers.lookup d.name = some L ∧
      drawLayer fam d.name L pt = .ok d := by
  unfold drawLayers at h
  split at h
  · rename_i hg
    exact ⟨by simpa using hg, drawLayersLoop_spec fam layers ports ds h⟩
  · cases h

/-- `draw_space(space, agent_portrayal, propertylayer_portrayal, ax)` puts both on one Axes: the agents exactly as
    without layers (so `C20_draw_one_marker_per_agent` applies), then the layers exactly as `draw_property_layers`
    draws them; an empty request is skipped (on every class), a refused one raises after the agents are drawn. -/
theorem C20_draw_space_with_layers {sp : Space} (h : Reachable sp) (hr : drawRaises sp = none) (heap : Heap) (p : Portrayal)
    (layers : List (String × Layer)) (ports : List (String × LayerPortrayal)) :
    ∃ gs, drawSpace sp heap p = .ok gs ∧
      (ports = [] → drawSpaceFull sp heap p layers ports = .ok (gs, [])) ∧
      (ports ≠ [] → ∀ ds, drawLayers sp.fam layers ports = .ok ds → drawSpaceFull sp heap p layers ports = .ok (gs, ds)) ∧
      (ports ≠ [] → ∀ e, drawLayers sp.fam layers ports = .error e →
        drawSpaceFull sp heap p layers ports = .error (.layers e)) := by
  have hgs := drawSpace_eq (reachable_wf h) hr heap p
  refine ⟨_, hgs, fun he => ?_, fun hne ds hd => ?_, fun hne e hd => ?_⟩
  · unfold drawSpaceFull
    rw [hgs, he]
    rfl
  · have := List.isEmpty_eq_false_iff.mpr hne
    unfold drawSpaceFull
    rw [hgs]
    simp only [this, hd]
    rfl
  · have := List.isEmpty_eq_false_iff.mpr hne
    unfold drawSpaceFull
    rw [hgs]
    simp only [this, hd]
    rfl

/-- What is refused: a space class without property layers (AttributeError), a layer whose portrayal names neither
    a colour nor a colormap, a hex layer over an inverted range (ValueError, raised by `Normalize`). -/
theorem C20_layers_refused (fam : Family) (layers : List (String × Layer)) (name : String) (L : Layer) (pt : LayerPortrayal) :
    ((fam.isOrthogonal || fam.isHex) = false → ∀ ports, drawLayers fam layers ports = .error .attribute) ∧
    (pt.mode = .neither → drawLayer fam name L pt = .error .value) ∧
    (fam.isHex = true → ∀ vmin vmax, layerRange L pt = some (vmin, vmax) → vmax < vmin →
      drawLayer fam name L pt = .error .value) := by
  refine ⟨fun h ports => ?_, fun hm => ?_, fun hf vmin vmax hr hlt => ?_⟩
  · unfold drawLayers
    rw [h]
    rfl
  · unfold drawLayer
    cases minOf L.vals <;> cases maxOf L.vals <;> simp [hm]
  · unfold layerRange at hr
    unfold drawLayer
    cases h1 : minOf L.vals <;> cases h2 : maxOf L.vals <;> rw [h1, h2] at hr <;> try (cases hr; done)
    simp only [Option.some.injEq, Prod.mk.injEq] at hr
    obtain ⟨rfl, rfl⟩ := hr
    cases hm : pt.mode <;> simp [hf, hlt]

/-- Colour mode, orthogonal against hex grids: inside the range (and for `alpha ≤ 1`) both draw the cell at
    opacity `level · alpha`; they differ only in where they cut (`np.clip` of the product against `np.clip` of the
    level): a value above `vmax` is drawn more opaque on an orthogonal grid (witness: value 3 over `[0, 2]` at
    alpha 0.5: 3/4 against 1/2). -/
theorem C20_layer_color_modes_agree_in_range (alpha : Nat) (ha : alpha ≤ 100) (v vmin vmax : Int) (h : vmin < vmax)
    (h1 : vmin ≤ v) (h2 : v ≤ vmax) :
    orthoShade alpha v vmin vmax = hexShade alpha v vmin vmax ∧
    (orthoShade alpha v vmin vmax).num = (v - vmin) * alpha ∧
    ((orthoShade alpha v vmin vmax).den : Int) = (vmax - vmin) * 100 ∧
    orthoShade 50 3 0 2 = ⟨150, 200⟩ ∧ hexShade 50 3 0 2 = ⟨100, 200⟩ := by
  have hp : 0 < vmax - vmin := Int.sub_pos.mpr h
  have hs : vmax - vmin ≠ 0 := Int.ne_of_gt hp
  have hv : 0 ≤ v - vmin := Int.sub_nonneg_of_le h1
  have hmul : (v - vmin) * (alpha : Int) ≤ (vmax - vmin) * 100 :=
    Int.mul_le_mul (Int.sub_le_sub_right h2 _) (Int.ofNat_le.mpr ha) (Int.natCast_nonneg _) (Int.le_of_lt hp)
  have hnn : 0 ≤ (v - vmin) * (alpha : Int) := Int.mul_nonneg hv (Int.natCast_nonneg _)
  have hden : ((vmax - vmin) * 100).toNat = (vmax - vmin).toNat * 100 := by
    have : 0 ≤ vmax - vmin := by omega
    omega
  refine ⟨?_, ?_, ?_, by decide +kernel, by decide +kernel⟩
  · simp only [orthoShade, hexShade, normLevel, if_neg hs, if_pos hp]
    rw [clamp_eq_self hnn hmul, clamp_eq_self hv (Int.sub_le_sub_right h2 _), hden]
  · simp only [orthoShade, if_neg hs, if_pos hp]
    exact clamp_eq_self hnn hmul
  · simp only [orthoShade, if_neg hs, if_pos hp]
    exact Int.toNat_of_nonneg (Int.mul_nonneg (Int.le_of_lt hp) (by decide))

/-! ## the model-parameter check -/

/-- `_check_model_params` accepts a parameter set exactly when the constructor takes no `*args` (refused by
    policy) and Python can bind the instance positionally and the parameters by keyword (`bindsByKeyword`:
    the binding rule written out — `**kw` under any name, positional-only parameters, keyword-only
    parameters, defaults, the instance parameter under any name). -/
theorem C20_check_accepts_iff_binds_by_keyword (sig : List Param) (keys : List String) :
    checkModelParams sig keys = .ok () ↔ hasVarPositional sig = false ∧ bindsByKeyword sig keys :=
  checkModelParams_ok_iff sig keys

/-- The check told about keywords the caller of the constructor passes anyway (fix P3: `simulator`, which a
    `SimulatorController` adds on every reset) accepts exactly when the call `init(instance, **extra, **params)` can be
    made: no parameter has the name of such a keyword (it would be passed twice), and the constructor binds the extra
    keywords together with the parameters — a class that cannot take `simulator=` is refused, a class that requires it is
    not reported as missing it. -/
theorem C20_check_with_controller_keywords (sig : List Param) (extra keys : List String) :
    (checkModelParamsExtra sig extra keys = .ok () ↔
      hasVarPositional sig = false ∧ (∀ k ∈ extra, k ∉ keys) ∧ bindsByKeyword sig (extra ++ keys)) ∧
    checkModelParamsExtra sig [] keys = checkModelParams sig keys :=
  ⟨checkModelParamsExtra_ok_iff sig extra keys, checkModelParamsExtra_nil sig keys⟩

/-- The split into user-adjustable and fixed parameters loses and invents nothing, keeps the order inside
    each part, puts a parameter into the fixed part exactly when `check_param_is_fixed` says so, and — the
    names of a dict being distinct — no name lands in both parts. -/
theorem C20_split_lossless_disjoint (ps : List (String × PyVal)) :
    ((splitModelParams ps).1 ++ (splitModelParams ps).2).Perm ps ∧
    (splitModelParams ps).1.Sublist ps ∧ (splitModelParams ps).2.Sublist ps ∧
    (∀ kv ∈ (splitModelParams ps).1, isFixed kv.2 = false) ∧
    (∀ kv ∈ (splitModelParams ps).2, isFixed kv.2 = true) ∧
    ((ps.map (·.1)).Nodup → ∀ k, k ∈ (splitModelParams ps).1.map (·.1) → k ∉ (splitModelParams ps).2.map (·.1)) := by
  refine ⟨split_perm ps, List.filter_sublist, List.filter_sublist, ?_, ?_, ?_⟩
  · intro kv h
    have := (List.mem_filter.mp h).2
    simpa using this
  · intro kv h
    exact (List.mem_filter.mp h).2
  · intro hnd k h1 h2
    have hp := ((split_perm ps).map (·.1)).nodup_iff.mpr hnd
    rw [List.map_append, List.nodup_append] at hp
    exact hp.2.2 k h1 k h2 rfl

/-- `ModelCreator` (fix P2) checks the constructor against all parameters, the user-adjustable ones
    included: it accepts exactly when `_check_model_params` accepts the whole parameter dict (with the keywords of the
    controller, if any). -/
theorem C20_creator_checks_all_params (sig : List Param) (ps : List (String × PyVal)) (extra : List String) :
    (creatorCheck sig ps extra = .ok () ↔ checkModelParamsExtra sig extra (ps.map (·.1)) = .ok ()) ∧
    (creatorCheck sig ps = .ok () ↔ checkModelParams sig (ps.map (·.1)) = .ok ()) :=
  ⟨creatorCheck_ok_iff sig ps extra, by rw [creatorCheck_ok_iff sig ps [], checkModelParamsExtra_nil]⟩

/-! ## ModelCreator: from `model_params` to the parameters the model is (re-)created with -/

/-- The parameter set `ModelCreator` hands on for creating the model (`model_parameters`): every name of
    `model_params` exactly once — the fixed ones first, then the user-adjustable ones, each part in the order of the
    dict —, a fixed value as it was given, an input at its `value`.  Nothing is lost in the split and nothing is added. -/
theorem C20_creator_params_lossless (ps : List (String × ParamVal)) :
    (initialParams ps).map (·.1) = (splitParams ps).2.map (·.1) ++ (splitParams ps).1.map (·.1) ∧
    ((initialParams ps).map (·.1)).Perm (ps.map (·.1)) ∧
    (initialParams ps).Perm (ps.map fun kv => (kv.1, kv.2.initial)) ∧
    (∀ kv ∈ (splitParams ps).1, isFixed kv.2.toPy = false) ∧ (∀ kv ∈ (splitParams ps).2, isFixed kv.2.toPy = true) := by
  refine ⟨initialParams_keys ps, ?_, ?_, ?_, ?_⟩
  · rw [initialParams_keys, ← List.map_append]
    exact (splitParams_perm ps).map _
  · rw [initialParams_eq]
    exact (splitParams_perm ps).map _
  · intro kv h
    have := (List.mem_filter.mp h).2
    simpa using this
  · intro kv h
    exact (List.mem_filter.mp h).2

/-- `UserInputs` creates one input per user-adjustable parameter, in the order of the dict, reporting under the
    parameter's name: for a `Slider` a float or an int slider as the slider says, for an option dict the input its
    `type` names, labelled with its `label` (the parameter's name if it has none), starting at its `value`; it
    raises exactly when some option dict names an unsupported type. -/
theorem C20_user_inputs_one_per_adjustable_param (us : List (String × ParamVal)) :
    (∀ ws, userInputs us = .ok ws →
      ws.map (·.name) = us.map (·.1) ∧ us.map (fun kv => widgetOf kv.1 kv.2) = ws.map some) ∧
    ((∃ t, userInputs us = .error t) ↔ ∃ kv ∈ us, widgetOf kv.1 kv.2 = none) := by
  refine ⟨userInputs_ok us, ⟨fun ⟨t, h⟩ => userInputs_error us t h, fun ⟨kv, hm, hw⟩ => ?_⟩⟩
  cases h : userInputs us with
  | error t => exact ⟨t, rfl⟩
  | ok ws =>
    have h2 := (userInputs_ok us ws h).2
    have : widgetOf kv.1 kv.2 ∈ us.map (fun kv => widgetOf kv.1 kv.2) := List.mem_map.mpr ⟨kv, hm, rfl⟩
    rw [h2, hw] at this
    simp at this

/-- `ModelCreator` renders without an error exactly when every input type is supported and the constructor can be
    called by keyword with the parameter set it hands on (`initialParams`) together with the keywords `extra` the
    controller adds — the check of the full `model_params` is a check of the call `Model(**model_parameters)`
    (`Model(simulator=simulator, **model_parameters)`) that a reset makes. -/
theorem C20_creator_accepts_iff_model_can_be_created (sig : List Param) (ps : List (String × ParamVal)) (extra : List String) :
    (∃ r, modelCreator sig ps extra = .ok r) ↔
      (∃ ws, userInputs (splitParams ps).1 = .ok ws) ∧ hasVarPositional sig = false ∧
        (∀ k ∈ extra, k ∉ (initialParams ps).map (·.1)) ∧
        bindsByKeyword sig (extra ++ (initialParams ps).map (·.1)) := by
  have hkeys : ∀ k, k ∈ (ps.map fun kv => (kv.1, kv.2.toPy)).map (·.1) ↔ k ∈ (initialParams ps).map (·.1) := by
    intro k
    rw [((C20_creator_params_lossless ps).2.1).mem_iff, List.map_map]
    rfl
  have hcheck : creatorCheck sig (ps.map fun kv => (kv.1, kv.2.toPy)) extra = .ok () ↔
      hasVarPositional sig = false ∧ (∀ k ∈ extra, k ∉ (initialParams ps).map (·.1)) ∧
        bindsByKeyword sig (extra ++ (initialParams ps).map (·.1)) := by
    rw [creatorCheck_ok_iff sig _ extra, checkModelParamsExtra_congr sig extra hkeys, checkModelParamsExtra_ok_iff]
  constructor
  · rintro ⟨r, hr⟩
    obtain ⟨_, hu, hc⟩ := (modelCreator_ok_iff sig ps extra r).mp hr
    exact ⟨⟨_, hu⟩, hcheck.mp hc⟩
  · rintro ⟨⟨ws, hu⟩, hc⟩
    exact ⟨(initialParams ps, ws), (modelCreator_ok_iff sig ps extra _).mpr ⟨rfl, hu, hcheck.mpr hc⟩⟩

/-- A change of an input (`on_change(name, value)` for a name the parameter set has) replaces the value under that
    name and nothing else: the names — hence whether the constructor can be called with the set — stay the same. -/
theorem C20_input_change_keeps_the_parameter_set (sig : List Param) (params : List (String × Option Val))
    (name : String) (value : Val) (h : name ∈ params.map (·.1)) :
    (onChange params name value).map (·.1) = params.map (·.1) ∧
    (∀ kv ∈ onChange params name value, kv.1 = name → kv.2 = some value) ∧
    (∀ kv, kv.1 ≠ name → (kv ∈ onChange params name value ↔ kv ∈ params)) ∧
    (bindsByKeyword sig ((onChange params name value).map (·.1)) ↔ bindsByKeyword sig (params.map (·.1))) := by
  have hk := onChange_keys params name value h
  obtain ⟨h1, h2⟩ := onChange_spec params name value h
  exact ⟨hk, h1, h2, by rw [hk]⟩

/-! ## The controls of `SolaraViz`: Step, ▶ / ❚❚, Reset, the play loop, and the model a reset creates

`Ctrl` is the state `ModelController` / `SimulatorController` and `ModelCreator` share (`Model/VizCtrl.lean`); a model class
is a `Behaviour` (is the instance created with these arguments still `running` after its k-th step?) and every theorem
holds for all of them. -/

/-- The Step button is disabled exactly while playing or when the model has stopped; a click advances the model by
    exactly `render_interval` steps (it does not stop early when the model stops in between), updates the display
    once, leaves the model and its arguments in place, and the flag the buttons are drawn from is the model's
    `running` after the last of these steps. -/
theorem C20_ctrl_step_button (beh : Behaviour) (c : Ctrl) :
    (c.apply beh .step = none ↔ (c.playing = true ∨ c.running = false)) ∧
    (∀ c', c.apply beh .step = some c' →
      c'.steps = c.steps + c.render ∧ c'.updates = c.updates + 1 ∧ c'.gen = c.gen ∧ c'.kwargs = c.kwargs ∧
      c'.playing = false ∧ c'.params = c.params ∧
      (0 < c.render → c'.running = beh c.kwargs (c.steps + c.render) ∧ c'.mrunning = c'.running)) := by
  constructor
  · simp only [Ctrl.apply]
    cases c.playing <;> cases c.running <;> simp
  · intro c' h
    simp only [Ctrl.apply] at h
    split at h
    · exact absurd h (by simp)
    · rename_i hc
      have hp : c.playing = false := by cases hpl : c.playing <;> simp_all
      injection h with h
      subst h
      obtain ⟨g1, g2, g3⟩ := doStep_none_steps beh c
      have hs := (doStep_spec beh none c).1
      refine ⟨g1, ?_, hs.gen, hs.kwargs, g2.trans hp, hs.params, fun hr => ?_⟩
      · rw [g3, hp]
        rfl
      · rw [doStep_none beh c hr]
        exact ⟨rfl, rfl⟩

/-- Over every history of clicks, slider moves, input changes and play loops (with whatever the user does during
    them): the controller never goes back to an earlier model, and as long as no reset replaced the model its step
    count never decreases and its constructor arguments stay what they were. -/
theorem C20_ctrl_steps_never_go_back (beh : Behaviour) (c : Ctrl) (ops : List CtrlOp) :
    c.gen ≤ (c.run beh ops).gen ∧
    ((c.run beh ops).gen = c.gen → c.steps ≤ (c.run beh ops).steps ∧ (c.run beh ops).kwargs = c.kwargs) :=
  run_before beh ops c

/-- If `SolaraViz` renders (the inputs are supported and `ModelCreator`'s check accepts `model_params`) — with a
    `ModelController` (`sim = false`) or with a `SimulatorController` (`sim = true`) —, then after every history of user
    actions the parameter set still has exactly the names `ModelCreator` handed on, every model a reset has created was
    called with exactly these names besides the controller's own keywords (`extraKeywords`: `simulator` under a
    `SimulatorController`, nothing otherwise), no parameter has the name of such a keyword, and the constructor binds
    the controller's keywords together with the parameters: no reset can fail on its arguments, whatever the inputs
    were changed to. -/
theorem C20_ctrl_every_reset_gets_the_whole_parameter_set (beh : Behaviour) (sig : List Param)
    (ps : List (String × ParamVal)) (kw0 : Params) (r : Nat) (t sim : Bool) (c0 : Ctrl)
    (h : Ctrl.init beh sig ps kw0 r t sim = .ok c0) (ops : List CtrlOp) :
    (c0.run beh ops).params.map (·.1) = (initialParams ps).map (·.1) ∧
    (0 < (c0.run beh ops).gen → (c0.run beh ops).kwargs.map (·.1) = (initialParams ps).map (·.1)) ∧
    (c0.run beh ops).extraKeywords = (if sim then ["simulator"] else []) ∧
    hasVarPositional sig = false ∧
    (∀ k ∈ (c0.run beh ops).extraKeywords, k ∉ (c0.run beh ops).params.map (·.1)) ∧
    bindsByKeyword sig ((c0.run beh ops).extraKeywords ++ (c0.run beh ops).params.map (·.1)) := by
  unfold Ctrl.init at h
  cases hm : modelCreator sig ps (if sim then ["simulator"] else []) with
  | error e =>
    rw [hm] at h
    exact absurd h (by simp)
  | ok res =>
    obtain ⟨mp, ws⟩ := res
    rw [hm] at h
    injection h with h
    have hacc := (C20_creator_accepts_iff_model_can_be_created sig ps _).mp ⟨_, hm⟩
    have hmp : mp = initialParams ps ∧ userInputs (splitParams ps).1 = .ok ws :=
      let ⟨h1, h2, _⟩ := (modelCreator_ok_iff sig ps _ (mp, ws)).mp hm
      ⟨h1, h2⟩
    have hinv : c0.paramsInv ((initialParams ps).map (·.1)) := by
      subst h
      refine ⟨by rw [hmp.1], fun n hn => ?_, fun hg => absurd hg (Nat.lt_irrefl 0)⟩
      simp only at hn
      rw [(userInputs_ok _ ws hmp.2).1] at hn
      rw [initialParams_keys]
      exact List.mem_append_right _ hn
    have hrun := run_paramsInv beh _ ops c0 hinv
    have hsim : (c0.run beh ops).extraKeywords = (if sim then ["simulator"] else []) := by
      unfold Ctrl.extraKeywords
      rw [run_sim beh ops c0]
      subst h
      rfl
    refine ⟨hrun.1, hrun.2.2, hsim, hacc.2.1, ?_, ?_⟩
    · rw [hrun.1, hsim]
      exact hacc.2.2.1
    · rw [hrun.1, hsim]
      exact hacc.2.2.2

/-- A reset after any sequence of input changes creates a fresh model (step 0, not playing, the flag of the buttons on
    — whatever the new model says of itself: `mrunning` is the class's answer for these arguments at step 0) whose keyword
    arguments are the whole parameter set — every name once — with, for each name, the value its input reported last,
    and the value it had before for a name no input reported. -/
theorem C20_ctrl_reset_uses_latest_inputs (beh : Behaviour) (c : Ctrl) (names : List String) (hi : c.paramsInv names)
    (changes : List (String × Val)) (hin : ∀ ch ∈ changes, ch.1 ∈ c.inputs) :
    let c' := c.run beh (changes.map (fun ch => CtrlOp.change ch.1 ch.2) ++ [.reset])
    c'.gen = c.gen + 1 ∧ c'.steps = 0 ∧ c'.playing = false ∧ c'.running = true ∧ c'.mrunning = beh c'.kwargs 0 ∧
    c'.kwargs.map (·.1) = names ∧
    ∀ name, c'.kwargs.lookup name = match lastChange changes name with
      | some v => some (some v)
      | none => c.params.lookup name :=
  run_changes_reset beh names changes c hi hin

/-- The play loop on a model that stops when it reaches step `S`, left alone for at least `m` ticks, where `m` is the
    number of ticks that takes (`steps + render·(m−1) < S ≤ steps + render·m`): it makes exactly `m` ticks of
    `render_interval` steps each — a tick is never cut short, so the model may be stepped up to `render_interval − 1`
    steps past `S` —, then ends by itself with the run flag off (`playing` stays on, the ▶ / ❚❚ button is disabled),
    having updated the display once per tick (never, while the threads option leaves that to the other thread). -/
theorem C20_ctrl_play_runs_to_the_models_stop (beh : Behaviour) (S m n : Nat) (c : Ctrl)
    (hbeh : ∀ j, beh c.kwargs j = decide (j < S)) (hp : c.playing = true) (hr : c.running = true)
    (hm : 0 < m) (hmn : m ≤ n) (hlo : c.steps + c.render * (m - 1) < S) (hhi : S ≤ c.steps + c.render * m) :
    let c' := playLoop beh (List.replicate n (Ev.idle, none)) c
    c'.steps = c.steps + c.render * m ∧ S ≤ c'.steps ∧ c'.steps < S + c.render ∧
    c'.running = false ∧ c'.mrunning = false ∧ c'.playing = true ∧ c'.gen = c.gen ∧
    c'.updates = (if c.threads then c.updates else c.updates + m) := by
  obtain ⟨k, rfl⟩ : ∃ k, m = k + 1 := ⟨m - 1, by omega⟩
  simp only [Nat.add_sub_cancel] at hlo
  have hmul : c.render * (k + 1) = c.render * k + c.render := Nat.mul_succ _ _
  simp only [playLoop_idle_run beh S k n c hbeh hp hr hmn hlo hhi]
  exact ⟨trivial, hhi, by omega, trivial, trivial, hp, trivial, trivial⟩

/-- Pausing.  (a) A click on ❚❚ while the loop sleeps between two ticks: the loop still makes one whole tick of
    `render_interval` steps (by then on the not-playing branch: one update), then ends.  (b) A click on ❚❚ during
    the `j`-th step of a tick (the model still running up to there): the tick ends right after that step. -/
theorem C20_ctrl_pause (beh : Behaviour) (c : Ctrl) (hp : c.playing = true) (hr : c.running = true) :
    (∀ rest, let c' := playLoop beh ((Ev.pause, none) :: rest) c
      c'.steps = c.steps + c.render ∧ c'.playing = false ∧ c'.updates = c.updates + 1 ∧ c'.gen = c.gen) ∧
    (∀ j, 1 ≤ j → j ≤ c.render → (∀ k, 1 ≤ k → k < j → beh c.kwargs (c.steps + k) = true) →
      (doStep beh (some j) c).steps = c.steps + j ∧ (doStep beh (some j) c).playing = false ∧
      (doStep beh (some j) c).gen = c.gen) := by
  constructor
  · intro rest
    have hc1 : applyEv beh c .pause = { c with playing := false } := by
      simp [applyEv, Ctrl.clickPlay, hr, hp]
    have hgo : (c.running && c.playing) = true := by
      rw [hr, hp]
      rfl
    rw [playLoop, if_pos hgo, hc1]
    obtain ⟨g1, g2, g3⟩ := doStep_none_steps beh { c with playing := false }
    rw [playLoop_not_running beh rest _ (g2 ▸ Bool.and_false _)]
    exact ⟨g1, g2, g3, (doStep_spec beh none { c with playing := false }).1.gen⟩
  · intro j h1 hj hb
    have hk := stepLoop_hook beh j (j - 1) c.render 1 c (by omega) hp hr (by omega)
      (fun k hk1 hk2 => hb k hk1 (by omega))
    rw [doStep_eq, hp]
    exact ⟨hk.1.trans (by omega), hk.2, (stepLoop_spec beh true (some j) c.render 1 c).1.gen⟩

/-- As long as the threads checkbox is left alone, after every history of user actions `model.running` is what the
    model class says of the current model at its current step, and the flag the buttons are drawn from (`running`: Step
    and ▶ / ❚❚ are disabled without it) is the model's own `running` — with one exception: a model that has not been
    stepped since a reset (or the first render) created it has the flag on whatever it says of itself, because
    `do_reset` sets `running.value = True` and never reads `model.running`.  For a class whose instances start
    `running` (what `mesa.Model.__init__` does) the flag is the model's throughout.  (Toggling the checkbox mounts the
    controller anew with the flag on — `ctrlThreadsWitness` below: the buttons of a stopped model come back.) -/
theorem C20_ctrl_running_flag_is_the_models (beh : Behaviour) (c : Ctrl) (ops : List CtrlOp)
    (hops : ∀ op ∈ ops, op.isThreads = false) (hm : c.mrunning = beh c.kwargs c.steps)
    (h : c.running = c.mrunning ∨ (c.steps = 0 ∧ c.running = true)) :
    let c' := c.run beh ops
    c'.mrunning = beh c'.kwargs c'.steps ∧
    (c'.running = c'.mrunning ∨ (c'.steps = 0 ∧ c'.running = true ∧ beh c'.kwargs 0 = false)) ∧
    ((∀ kw, beh kw 0 = true) → c'.running = c'.mrunning) := by
  obtain ⟨h1, h2⟩ := run_flagInv beh ops c hops ⟨hm, h⟩
  refine ⟨h1, ?_, fun hb => ?_⟩
  · rcases h2 with h2 | ⟨h3, h4⟩
    · exact Or.inl h2
    · cases hb : beh (c.run beh ops).kwargs 0 with
      | true =>
        left
        rw [h1, h3, hb, h4]
      | false => exact Or.inr ⟨h3, h4, rfl⟩
  · rcases h2 with h2 | ⟨h3, h4⟩
    · exact h2
    · rw [h1, h3, hb, h4]

/-- The exception is real: a model class that stops in its constructor when created with `stop=0`, Reset:
    the new model is not running, the flag is on and Step can be clicked. -/
theorem C20_ctrl_reset_flag_ignores_a_stopped_model :
    let beh : Behaviour := fun kw _ => decide (kw.lookup "stop" ≠ some (some "0"))
    let c : Ctrl := { params := [("stop", some "0")], kwargs := [] }
    ((c.run beh [.reset]).mrunning, (c.run beh [.reset]).running, ((c.run beh [.reset]).apply beh .step).isSome) =
      (false, true, true) := by
  decide +kernel

/-! ## non-vacuity -/

/-- a hex grid with three agents, two of them in one cell and sharing one portrayal dict -/
def exSpace : Space :=
  { fam := .hexm, w := 2, h := 3, cells := gridCells 2 3,
    placed := [mkAgent .hexm 1 ⟨1, 2⟩, mkAgent .hexm 2 ⟨0, 1⟩, mkAgent .hexm 3 ⟨1, 2⟩] }

def exHeap : Heap := [[("color", "red"), ("marker", "s"), ("id", "7")], [("zorder", "2")]]
def exPortrayal : Portrayal := fun a => if a = 2 then some 1 else some 0

example : Reachable exSpace :=
  Reachable.of_run .hexm 2 3 [] [.place 1 ⟨1, 2⟩, .place 2 ⟨0, 1⟩, .place 3 ⟨1, 2⟩] (by decide +kernel)

-- `space.agents` walks the cells: agent 2 (cell (0,1)) comes before agents 1 and 3 (cell (1,2))
example : (spaceAgents exSpace).map (·.id) = [2, 1, 3] := by decide +kernel

-- several agents, markers and z-orders, one portrayal dict shared: the drawing consists of two non-empty
-- scatter calls
example : (drawSpace exSpace exHeap exPortrayal).toOption.map (·.map fun g => (g.marker, g.zorder, g.members.length)) =
    some [("o", "2", 1), ("s", "1", 2)] := by decide +kernel

-- a signature with every parameter kind but *args, accepted with a keyword that goes to **options
example : checkModelParams
    [⟨"self", .posOnly, false⟩, ⟨"a", .posOnly, true⟩, ⟨"n", .posOrKw, false⟩, ⟨"k", .kwOnly, false⟩,
     ⟨"options", .varKw, false⟩] ["n", "k", "a", "zz"] = .ok () := by decide +kernel

example : bindsByKeyword [⟨"self", .posOrKw, false⟩, ⟨"n", .posOrKw, false⟩] ["n"] :=
  ⟨_, _, rfl, rfl, by simp [Kind.takesKeyword], by simp⟩

example : ¬ bindsByKeyword [⟨"self", .posOrKw, false⟩, ⟨"kwargs", .posOrKw, false⟩] [] := by
  rintro ⟨inst, rest, e, _, _, hr⟩
  injection e with e1 e2
  subst e1
  subst e2
  have := hr ⟨"kwargs", .posOrKw, false⟩ (by simp) rfl (by simp) (by simp)
  simp at this

-- the default size: 180² on a one-node network (V12), (180/3)² = 32400/9 on the 2 × 3 hex grid, by the centroids'
-- bounding box (8 × 6) on a Voronoi grid
example : defaultSize { fam := .net, w := 1, h := 1, cells := [⟨7, 0⟩], placed := [mkAgent .net 1 ⟨7, 0⟩] } = .exact ⟨32400, 1⟩ := by
  decide +kernel
example : defaultSize exSpace = .exact ⟨32400, 9⟩ := by decide +kernel
example : defaultSize { fam := .vor, w := 1, h := 1, cells := [⟨0, 0⟩, ⟨8, 3⟩, ⟨1, 6⟩], placed := [] } = .exact ⟨32400, 64⟩ := by
  decide +kernel

-- plotting keywords on the V7 space: alpha as a keyword clashes with agent 1's own alpha; linewidths does not and
-- reaches both markers
example : drawSpaceKw v7Space [[("alpha", "50")]] (fun a => if a = 1 then some 0 else none) [("linewidths", "3"), ("alpha", "25")] =
    .error (.conflict "alpha") := by decide +kernel

example : (drawSpaceKw v7Space [[("alpha", "50")]] (fun a => if a = 1 then some 0 else none) [("linewidths", "3")]).toOption.map
    (·.drawn.map (·.map fun e => (e.alpha, e.linewidths))) = some [[(some "50", some "3"), (none, some "3")]] := by decide +kernel

-- ModelCreator: a required parameter given as a Slider, an option dict, two fixed values (one of them a dict)
def exParams : List (String × ParamVal) :=
  [("n", .slider false "N" "5"), ("fixed", .plain "3"), ("k", .spec "SliderFloat" (some "3") none), ("fd", .plainDict)]

example : modelCreator [⟨"self", .posOrKw, false⟩, ⟨"n", .posOrKw, false⟩, ⟨"k", .posOrKw, true⟩, ⟨"kw", .varKw, false⟩] exParams =
    .ok ([("fixed", some "3"), ("fd", some "dict"), ("n", some "5"), ("k", some "3")],
         [⟨.sliderInt, "n", "N", some "5"⟩, ⟨.sliderFloat, "k", "k", some "3"⟩]) := by decide +kernel

example : modelCreator [⟨"self", .posOrKw, false⟩, ⟨"n", .posOrKw, false⟩] [("n", .spec "Foo" (some "1") none), ("zz", .plain "1")] =
    .error (.unsupported "Foo") := by decide +kernel

example : onChange (initialParams exParams) "k" "7" = [("fixed", some "3"), ("fd", some "dict"), ("n", some "5"), ("k", some "7")] := by
  decide +kernel

-- measure plots: a dict request draws its measures in the dict's order with the dict's colours; a missing measure is a KeyError
example : plotMeasure [("a", [1, 2]), ("b", [3, 4])] (.dict [("b", "red"), ("a", "blue")]) =
    .ok ⟨[⟨some "b", some "red", [3, 4]⟩, ⟨some "a", some "blue", [1, 2]⟩], none, true⟩ := by decide +kernel
example : plotMeasure [("a", [1, 2])] (.list ["a", "zz", "yy"]) = .error "zz" := by decide +kernel

-- the limits: the 2 × 3 hex grid shows (-2, 6) × (-4, 11) in hex units, the agent in cell (1, 2) is drawn at (3, 6); a 3 × 2
-- continuous space shows (-3/20, 63/20) × (-2/20, 42/20)
example : frameOf exSpace = some ⟨1, -2, 6, -4, 11⟩ ∧ (⟨1, -2, 6, -4, 11⟩ : Frame).shows (transform .hexm ⟨1, 2⟩) := by decide +kernel
example : frameOf { fam := .cs, w := 3, h := 2, cells := [], placed := [] } = some ⟨20, -3, 63, -2, 42⟩ := by decide +kernel

-- a network whose nodes are labelled 7, 2, 5 (in graph order) drawn with the layout 2 ↦ (0,0), 7 ↦ (4,1): the agent on node 7 is
-- drawn at (4,1) — the position under its label, not that of the first node —, the default size is (180/4)²; an agent on
-- node 5, which the layout lacks, is a KeyError
def exNet : Space :=
  { fam := .net, w := 1, h := 1, cells := [⟨7, 0⟩, ⟨2, 0⟩, ⟨5, 0⟩], placed := [mkAgent .net 1 ⟨7, 0⟩, mkAgent .net 2 ⟨2, 0⟩] }
def exLayout : Layout := [(2, ⟨0, 0⟩), (7, ⟨4, 1⟩)]

example : (drawNetwork exNet [] (fun _ => none) exLayout).toOption.map (fun d => (d.groups.map (·.drawn.map (·.loc)), d.size)) =
    some ([[⟨4, 1⟩, ⟨0, 0⟩]], .exact ⟨32400, 16⟩) := by decide +kernel

example : drawNetwork { exNet with placed := exNet.placed ++ [mkAgent .net 3 ⟨5, 0⟩] } [] (fun _ => none) exLayout = .error (.key 5) := by
  decide +kernel

-- the controls: a model class that stops when it reaches its `stop` argument
def exStopOf : String → Option Nat
  | "3" => some 3 | "4" => some 4 | "5" => some 5 | "7" => some 7 | _ => none

def exBeh : Behaviour := fun kw k => match kw.lookup "stop" with
  | some (some v) => ((exStopOf v).map fun s => decide (k < s)).getD true
  | _ => true

def exCtrlSig : List Param := [⟨"self", .posOrKw, false⟩, ⟨"kw", .varKw, false⟩]

/-- `SolaraViz(Model(stop=3), model_params={"stop": Slider(value=5), "n": 2}, render_interval=2)` -/
def exCtrl : Ctrl :=
  { params := [("n", some "2"), ("stop", some "5")], inputs := ["stop"], kwargs := [("stop", some "3")], render := 2 }

example : Ctrl.init exBeh exCtrlSig [("stop", .slider false "Stop" "5"), ("n", .plain "2")] [("stop", some "3")] 2 false = .ok exCtrl := by
  decide +kernel

-- with a `SimulatorController`: a class that cannot take `simulator=` is refused, a class that requires it renders and the
-- resets pass it; the same class under a `ModelController` is refused as missing it; `simulator` among the parameters
-- would be passed twice
def exSimSig : List Param := [⟨"self", .posOrKw, false⟩, ⟨"simulator", .posOrKw, false⟩, ⟨"n", .posOrKw, true⟩]
example : Ctrl.init exBeh [⟨"self", .posOrKw, false⟩, ⟨"n", .posOrKw, true⟩] [("n", .plain "2")] [] 1 false true =
    .error (.check (.invalid "simulator")) := by decide +kernel
example : (Ctrl.init exBeh exSimSig [("n", .plain "2")] [] 1 false true).toOption.map (fun c => (c.extraKeywords, c.params)) =
    some (["simulator"], [("n", some "2")]) := by decide +kernel
example : Ctrl.init exBeh exSimSig [("n", .plain "2")] [] 1 false false = .error (.check (.missing "simulator")) := by decide +kernel
example : Ctrl.init exBeh exSimSig [("n", .plain "2"), ("simulator", .plain "1")] [] 1 false true =
    .error (.check (.invalid "simulator")) := by decide +kernel

example : exCtrl.paramsInv ["n", "stop"] := ⟨rfl, by decide +kernel, fun h => absurd h (by decide +kernel)⟩

-- Step twice: 4 steps, the model stopped at step 3 in the middle of the second click; both buttons are disabled now
example : ((exCtrl.run exBeh [.step, .step]).steps, (exCtrl.run exBeh [.step, .step]).running,
    (exCtrl.run exBeh [.step, .step]).apply exBeh .step, (exCtrl.run exBeh [.step, .step]).apply exBeh .play) =
    (4, false, none, none) := by decide +kernel

-- the input reports 7, then 4; Reset: the next model is created with n=2, stop=4; played from there it runs 2 ticks
example : (exCtrl.run exBeh [.change "stop" "7", .change "stop" "4", .reset]).kwargs = [("n", some "2"), ("stop", some "4")] := by
  decide +kernel

example : let c := exCtrl.run exBeh [.change "stop" "7", .change "stop" "4", .reset, .play, .loop [(.idle, none), (.idle, none), (.idle, none)]]
    (c.steps, c.running, c.playing, c.updates, c.gen) = (4, false, true, 2, 1) := by decide +kernel

-- the hypothesis of `C20_ctrl_play_runs_to_the_models_stop` is met by this class: created with stop=4 it runs while steps < 4
example : ∀ j, exBeh [("n", some "2"), ("stop", some "4")] j = decide (j < 4) := fun _ => rfl

-- ❚❚ during the sleep: one more whole tick; ❚❚ during the first step of a tick: one step
example : let c := exCtrl.run exBeh [.reset, .play, .loop [(.pause, none)]]
    (c.steps, c.playing, c.updates) = (2, false, 1) := by decide +kernel
example : let c := exCtrl.run exBeh [.reset, .play, .loop [(.idle, some 1)]]
    (c.steps, c.playing) = (1, false) := by decide +kernel

/-- the threads checkbox mounts the controller anew: the flag is on although the model has stopped -/
def ctrlThreadsWitness : Ctrl := exCtrl.run exBeh [.step, .step, .threads true]
example : (ctrlThreadsWitness.running, ctrlThreadsWitness.mrunning, (ctrlThreadsWitness.apply exBeh .step).isSome) =
    (true, false, true) := by decide +kernel

-- Altair: the encoding follows the first agent of `space.agents` (agent 2, cell (0,1)): its dict has a z-order only, so
-- neither colour nor size is encoded and the marks get the default size 30000 / 2²; the tooltips are its other keys
example : (altairChart exSpace exHeap exPortrayal).toOption.map (fun c => (c.color, c.size, c.tooltip)) =
      some (false, false, ["zorder"]) ∧
    (altairChart exSpace exHeap exPortrayal).toOption.map (fun c => (c.markSize, c.xyType, c.rows.length)) =
      some (some ⟨30000, 4⟩, "ordinal", 3) := by
  refine ⟨by decide +kernel, by decide +kernel⟩

-- property layers: a 2 × 2 grid with two layers; the request names one of them, an unknown layer and the other
def exLayers : List (String × Layer) := [("a", ⟨2, 2, [0, 1, 2, 3]⟩), ("b", ⟨2, 2, [5, 5, 5, 5]⟩)]

example : drawLayers .moore exLayers
    [("a", { mode := .color "red", alpha := 50, vmin := some 0, vmax := some 2, colorbar := false }),
     ("zz", { mode := .neither }), ("b", { mode := .colormap "viridis" })] =
    .ok [⟨"a", .imgRgba "red" [[some ⟨0, 200⟩, some ⟨100, 200⟩], [some ⟨50, 200⟩, some ⟨150, 200⟩]], none⟩,
         ⟨"b", .imgCmap "viridis" 100 5 5 [[some 5, some 5], [some 5, some 5]], some (5, 5)⟩] := by decide +kernel

example : (drawLayers .hex exLayers [("a", { mode := .color "red", alpha := 50, vmin := some 0, vmax := some 2 })]).toOption.map
    (·.map fun d => (d.pic.cell 2 1 0, d.pic.cell 2 1 1, d.cbar)) =
    some [(some (.opacity ⟨100, 200⟩), some (.opacity ⟨100, 200⟩), some (0, 2))] := by decide +kernel

example : drawLayers .hex exLayers [("a", { mode := .colormap "viridis", vmin := some 3, vmax := some 1 })] = .error .value := by
  decide +kernel

example : (drawSpaceFull v7Space [] (fun _ => none) [("a", ⟨2, 2, [0, 1, 2, 3]⟩)]
      [("a", { mode := .color "red", colorbar := false })]).toOption.map (fun r => (r.1.length, r.2.map (·.name))) =
    some (1, ["a"]) := by decide +kernel

example : drawLayers .net exLayers [] = .error .attribute := by decide +kernel

example : layerRange ⟨2, 2, [4, 1, 7, 3]⟩ { mode := .color "red" } = some (1, 7) := by decide +kernel

end Mesa.Viz
