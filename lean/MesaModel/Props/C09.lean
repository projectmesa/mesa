import MesaModel.Proofs.Legacy
import MesaModel.Proofs.LegacyOrth
import MesaModel.Proofs.LegacyHex
import MesaModel.Proofs.LegacyNet
import MesaModel.Proofs.LegacyDist
import MesaModel.Proofs.LegacyNetState
import MesaModel.Proofs.LegacyIndex
import MesaModel.Proofs.LegacyHexTorus
import MesaModel.Proofs.LegacyCompose
import MesaModel.Proofs.LegacyTruth
/-!
# C09 — legacy neighbourhood queries return exactly the cells/agents in range

The lemmas used are in `MesaModel/Proofs/Legacy*.lean`.  The model
(`Model/LegacyNbhd.lean`) follows `_Grid.get_neighborhood` (fast interior path, slow border path,
insertion-ordered dict, centre pop, cache keyed by the argument tuple), `_HexGrid.get_neighborhood`
(breadth-first expansion over the *generated* offset tables) and `NetworkGrid.get_neighborhood`.
`InRange`, `Reach`, `hexNbrs`, `askAll` are defined in `Proofs/LegacyDefs.lean`.
-/
namespace Mesa.Legacy

/-- **Orthogonal grids: exactly the cells in range, no duplicates.**  For every width and height from 1 up
    (also smaller than the radius, where wrapped offsets collide), torus on/off, every centre, every radius,
    Moore / von Neumann, both `include_center` values: a cell is returned iff it is in the grid and is the
    centre displaced by an offset of Chebyshev resp. Manhattan norm ≤ r (taken modulo width and height on a
    torus); the centre itself is returned exactly when `include_center` is set. -/
theorem C09_orth_spec (d : Dim) (hw : 0 < d.w) (hh : 0 < d.h) (k : NKey) (l : List Coord) (h : nbhdCompute d k = .ok l) :
    l.Nodup ∧ ∀ c, c ∈ l ↔ d.inGrid c ∧ (c = k.pos → k.ic = true) ∧ (c ≠ k.pos → InRange d k.pos k.moore k.r c) :=
  orth_spec d hw hh k l h

/-- **"in range" is a distance bound**: on a bounded grid the Chebyshev (Moore) / Manhattan (von Neumann)
    distance to the centre is at most r; on a torus the same with the per-axis distance taken modulo the
    size (`IsTorusDist`: the least distance between the residue classes) -/
theorem C09_in_range_is_distance (d : Dim) (pos : Coord) (moore : Bool) (r : Nat) (c : Coord) :
    (d.torus = false → (InRange d pos moore r c ↔
      Grid.iabs (c.1 - pos.1) ≤ r ∧ Grid.iabs (c.2 - pos.2) ≤ r ∧
        (moore = true ∨ Grid.iabs (c.1 - pos.1) + Grid.iabs (c.2 - pos.2) ≤ r))) ∧
    (d.torus = true → d.inGrid c → ∀ mx my, IsTorusDist d.w c.1 pos.1 mx → IsTorusDist d.h c.2 pos.2 my →
      (InRange d pos moore r c ↔ mx ≤ r ∧ my ≤ r ∧ (moore = true ∨ mx + my ≤ r))) :=
  ⟨fun h => inRange_bounded d h pos moore r c, fun ht hc mx my hx hy => inRange_torus d ht pos moore r c hc mx my hx hy⟩

/-- the query is answered for every centre in the grid and rejected (`out of bounds`) for every other -/
theorem C09_orth_defined_iff_in_grid (d : Dim) (k : NKey) :
    (d.inGrid k.pos → ∃ l, nbhdCompute d k = .ok l) ∧ (nbhdCompute d k = .error .oob ↔ ¬ d.inGrid k.pos) :=
  ⟨nbhdCompute_ok d k, nbhdCompute_oob d k⟩

/-- **the two paths agree**: on interior centres the fast path inserts the very same list of cells, in the
    same order, as the border/torus path would -/
theorem C09_fast_eq_slow (d : Dim) (pos : Coord) (moore : Bool) (r : Nat) (hint : interior d pos r = true) :
    fastKeys pos moore r = slowKeys d pos moore r :=
  fast_eq_slow d pos moore r hint

/-- **every answer is independent of the queries asked before** (the cache is keyed by all four
    arguments and only ever holds what a fresh computation returns): any history of queries on one grid
    instance gets, query by query, the answers of fresh computations -/
theorem C09_cache_transparent (d : Dim) (qs : List NKey) : askAll d [] qs = qs.map (nbhdCompute d) :=
  askAll_inv d qs [] (by intro k v h; simp at h)

/-- **the cache key the code uses is the whole argument tuple** (the parameter list and the key tuple are regenerated from
    mesa/space.py on every run, like the hex tables): every argument of `get_neighborhood` is part of the key under which its
    result is stored, for both classes, and the arguments are the fields of the model's `NKey` / `HKey` — so the model's cache
    (keyed by the whole `NKey`) is the code's; a key that forgets an argument, or a new argument, breaks this obligation -/
theorem C09_cache_key_is_every_argument :
    (∀ x ∈ Gen.nbhdParams, x ∈ Gen.nbhdCacheKey) ∧ (∀ x ∈ Gen.nbhdCacheKey, x ∈ Gen.nbhdParams) ∧
    (∀ x ∈ Gen.hexParams, x ∈ Gen.hexCacheKey) ∧ (∀ x ∈ Gen.hexCacheKey, x ∈ Gen.hexParams) ∧
    Gen.nbhdParams = ["pos", "moore", "include_center", "radius"] ∧ Gen.hexParams = ["pos", "include_center", "radius"] := by
  decide

/-- the same for `_HexGrid.get_neighborhood`, whose cache is keyed by `(pos, include_center, radius)` -/
theorem C09_hex_cache_transparent (d : Dim) (qs : List HKey) :
    askAllHex d [] qs = qs.map (fun k => hexCompute d k.pos k.ic k.r) :=
  askAllHex_inv d qs [] (by intro k v h; simp at h)

/-- **hex grids: exactly the cells within r steps of touching hexagons** (steps through hexagons of the
    grid, wrapped on a torus), centre by flag, as a strictly sorted duplicate-free tuple -/
theorem C09_hex_spec (d : Dim) (pos : Coord) (ic : Bool) (r : Nat) :
    SortedSet (hexCompute d pos ic r) ∧
    ∀ c, c ∈ hexCompute d pos ic r ↔ (c = pos → ic = true) ∧ (c ≠ pos → Reach (hexNbrs d) r pos c) :=
  hex_spec d pos ic r

/-- **touching is symmetric on the grids of the quantifier** — bounded hex grids of any size and hex tori of *even* width — so
    "within r steps of touching hexagons" (`Reach (hexNbrs d)` in `C09_hex_spec`) is a distance there.  This is where the even
    width enters: on a torus of odd width the wrapped tables are not symmetric (witness below), which is why such grids are
    outside the property's quantifier (they are modelled and tied, but no oracle judges them) -/
theorem C09_hex_touching_symmetric (d : Dim) (hq : d.torus = false ∨ d.w % 2 = 0) (c n : Coord) (hc : d.inGrid c)
    (hn : d.inGrid n) : n ∈ hexNbrs d c ↔ c ∈ hexNbrs d n := by
  cases ht : d.torus with
  | false => exact hexNbrs_symm_bounded d ht c n hc hn
  | true =>
    rcases hq with hq | hq
    · rw [ht] at hq
      cases hq
    · exact hexNbrs_symm_even_torus d ht hq c n hc hn

/-- a 3x3 hex torus: (2, 1) is listed as touching (0, 0), but (0, 0) is not listed as touching (2, 1) -/
example : ((2, 1) : Coord) ∈ hexNbrs ⟨3, 3, true⟩ (0, 0) ∧ ((0, 0) : Coord) ∉ hexNbrs ⟨3, 3, true⟩ (2, 1) := by decide +kernel
/-- a 4x3 hex torus: (3, 1) touches (0, 0) across the seam, and back -/
example : ((3, 1) : Coord) ∈ hexNbrs ⟨4, 3, true⟩ (0, 0) ∧ ((0, 0) : Coord) ∈ hexNbrs ⟨4, 3, true⟩ (3, 1) := by decide +kernel

/-- `_HexGrid.get_neighborhood` of a cell of the grid returns cells of the grid only (wrapped on a torus, dropped otherwise) -/
theorem C09_hex_cells_in_grid (d : Dim) (hw : 0 < d.w) (hh : 0 < d.h) (pos : Coord) (hpos : d.inGrid pos) (ic : Bool) (r : Nat) :
    ∀ c ∈ hexCompute d pos ic r, d.inGrid c :=
  hex_inGrid d hw hh pos hpos ic r

/-- **the offset tables the code uses (regenerated from mesa/space.py on every run) are a hexagonal
    adjacency**: for every hexagon the six `adjacent` coordinates are distinct, exclude the hexagon itself,
    are exactly its six unit-step neighbours in axial coordinates, and touching is symmetric -/
theorem C09_hex_tables_are_hexagonal (c : Coord) :
    (hexAdjacent c).length = 6 ∧ (hexAdjacent c).Nodup ∧ c ∉ hexAdjacent c ∧
    (∀ n, n ∈ hexAdjacent c ↔ ∃ dd ∈ axialDirs, axial n = ((axial c).1 + dd.1, (axial c).2 + dd.2)) ∧
    (∀ n, n ∈ hexAdjacent c ↔ c ∈ hexAdjacent n) :=
  ⟨(hexAdjacent_six c).1, (hexAdjacent_six c).2.1, (hexAdjacent_six c).2.2, hexAdjacent_axial c, hexAdjacent_symm c⟩

/-- **`get_neighbors` / `iter_neighbors` / `get_cell_list_contents` return exactly the agents occupying
    the listed cells**, each once, on both cell disciplines (for any grid state whose views agree — every
    reachable one, by `C08_views_agree_all_histories`) -/
theorem C09_neighbors_spec (g : Grid) (hi : Inv g) (cells : List Coord) (hnd : cells.Nodup) :
    (cellsContents g cells).Nodup ∧ (∀ a, a ∈ cellsContents g cells ↔ ∃ c ∈ cells, g.pos a = some c) ∧
    cellsContents g cells = cells.flatMap g.content :=
  ⟨(cellsContents_spec g hi cells hnd).1, (cellsContents_spec g hi cells hnd).2, cellsContents_eq g hi cells⟩

/-- **`get_cell_list_contents` / `iter_cell_list_contents` for arbitrary integer coordinates** (they index
    `self._grid[x][y]` directly): in-grid coordinates are read as they are — the answer is `cellsContents` of the
    list, specified by `C09_neighbors_spec` —; whenever the call returns, the cells read are, position by position, the
    cells the coordinates denote under Python's aliasing of `-size .. -1` (`Grid.aliasCell`: a negative index counts from the
    end), all of them cells of the grid; a coordinate beyond that raises IndexError and nothing is returned -/
theorem C09_cell_list_contents_any_integers (g : Grid) (hw : 0 < g.w) (hh : 0 < g.h) (ps : List Coord) :
    ((∀ p ∈ ps, g.inGrid p) → g.rawCells ps = .ok ps) ∧
    (∀ cs, g.rawCells ps = .ok cs → cs = ps.map g.aliasCell ∧ cs.length = ps.length ∧ ∀ c ∈ cs, g.inGrid c) ∧
    ((∃ p ∈ ps, p.1 < -g.w ∨ g.w ≤ p.1 ∨ p.2 < -g.h ∨ g.h ≤ p.2) → ∃ e, g.rawCells ps = .error e) :=
  ⟨rawCells_inGrid g ps, fun cs h => ⟨rawCells_ok_alias g ps cs h, rawCells_ok g ps cs h⟩, rawCells_error g hw hh ps⟩

/-- so the neighbours of a query are the agents standing on cells in range -/
theorem C09_get_neighbors_exact (g : Grid) (hi : Inv g) (hw : 0 < g.w) (hh : 0 < g.h) (k : NKey) (l : List Coord)
    (h : nbhdCompute g.dim k = .ok l) (a : Aid) :
    a ∈ cellsContents g l ↔ ∃ c, g.pos a = some c ∧ (c = k.pos → k.ic = true) ∧ (c ≠ k.pos → InRange g.dim k.pos k.moore k.r c) := by
  obtain ⟨hnd, hmem⟩ := orth_spec g.dim hw hh k l h
  rw [(cellsContents_spec g hi l hnd).2 a]
  constructor
  · rintro ⟨c, hc, hp⟩
    exact ⟨c, hp, ((hmem c).mp hc).2⟩
  · rintro ⟨c, hp, h1, h2⟩
    have hcg : g.inGrid c := hi.in_grid c (List.ne_nil_of_mem ((hi.pos_content a c).mp hp))
    exact ⟨c, (hmem c).mpr ⟨hcg, h1, h2⟩, hp⟩

/-- **cached `get_neighbors` interleaved with moves**: on one grid instance, any history of mutating calls
    (within C08's quantifier) interleaved with `get_neighbors` queries — answered through the cache, which is filled by the
    earlier queries and never invalidated — returns, query by query, what a fresh neighbourhood computation on the grid *as it is
    at that moment* returns (`freshQ`); the cache cannot go stale because its entries depend on the shape of the grid only, which
    no call changes.  Each such state satisfies `Inv` (`C08_views_agree_all_histories`), so `C09_get_neighbors_exact` says what
    every answer is: the agents standing in range at that moment. -/
theorem C09_cached_neighbors_with_moves (w h : Int) (hw : 1 ≤ w) (hh : 1 ≤ h) (torus multi : Bool) (cutoff : Nat)
    (hist : List GQ) (hok : HistOkQ (init w h torus multi cutoff) hist) :
    runQ (init w h torus multi cutoff) [] hist = freshQ (init w h torus multi cutoff) hist :=
  runQ_eq_freshQ hist _ [] (by simp [init]; omega) (by simp [init]; omega) (inv_init w h torus multi cutoff)
    (by intro k v hl; simp at hl) hok

/-- two agents next to each other, a query (cached), the neighbour moves away, the same query again: first [1], then [] -/
example : runQ (init 4 4 false false 23) []
    [.op (.place 0 (1, 1)), .op (.place 1 (1, 2)), .nbrs ⟨(1, 1), true, false, 1⟩, .op (.move 1 (3, 3)), .nbrs ⟨(1, 1), true, false, 1⟩]
    = [.ok [1], .ok []] := by rfl

/-- **an agent occupies its cell whatever its truth value**: agents are ordinary objects, a
    subclass may give them `__bool__` / `__len__` (a dead animal, a depot with an empty stock).  The readers of the model take the
    emptiness test as a parameter (`cellsContentsBy`, Model/LegacyTruth.lean: comparison with the empty value, or truthiness) and
    `runT` reads the contents with the test that the *generated* table names for mesa/space.py (`contentsTest`), handing it the set
    of falsy agents.  In any history in which agents become falsy or truthy (`TQ.truth`) between mutating calls and cached
    `get_neighbors` queries, whatever set `fz` of agents is falsy at the start, every query returns what a fresh computation returns
    on the grid as it is at that moment, in the history with the truth changes left out — the agents standing in range
    (`C09_get_neighbors_exact`), falsy or not.  A reader that goes by truthiness changes the table and breaks this obligation
    (`C09_truthiness_test_loses_falsy_agents` says what it would return instead). -/
theorem C09_neighbors_whatever_truth_value (w h : Int) (hw : 1 ≤ w) (hh : 1 ≤ h) (torus multi : Bool) (cutoff : Nat)
    (fz : Falsy) (hist : List TQ) (hok : HistOkQ (init w h torus multi cutoff) (eraseTruth hist)) :
    runT (init w h torus multi cutoff) [] fz hist = freshQ (init w h torus multi cutoff) (eraseTruth hist) := by
  rw [runT_eq_runQ]
  exact C09_cached_neighbors_with_moves w h hw hh torus multi cutoff _ hok

/-- **the readers of the code compare with the empty value** (table regenerated from mesa/space.py on every run by probing the
    four classes with a falsy agent), **and that test never consults a truth value**: for every grid state, every set of falsy
    agents and every list of cells the contents read are `cellsContents` (specified by `C09_neighbors_spec`), also through the raw
    indexing of the hex readers -/
theorem C09_contents_read_by_comparison_with_default (g : Grid) (fz : Falsy) (cells : List Coord) :
    contentsTest = .eqDefault ∧ cellsContentsBy .eqDefault fz g cells = cellsContents g cells ∧
    cellsContentsT fz g cells = cellsContents g cells ∧ hexNeighborsT fz g cells = hexNeighbors g cells :=
  ⟨contentsTest_eq, cellsContentsBy_eqDefault fz g cells, cellsContentsT_eq fz g cells, hexNeighborsT_eq fz g cells⟩

/-- **what the other test would do** (the refutation of "truthiness is as good"): on a single-occupancy grid a reader that writes
    `if cell` returns exactly the occupants that are not falsy — so it differs from the code on every falsy agent in range —; on a
    MultiGrid, whose cells are lists, the two tests agree -/
theorem C09_truthiness_test_loses_falsy_agents (g : Grid) (fz : Falsy) (cells : List Coord) :
    (g.multi = false → ∀ a, a ∈ cellsContentsBy .truthy fz g cells ↔ a ∈ cellsContents g cells ∧ a ∉ fz) ∧
    (g.multi = true → cellsContentsBy .truthy fz g cells = cellsContents g cells) :=
  ⟨fun hm a => mem_cellsContentsBy_truthy_single fz g hm cells a, fun hm => cellsContentsBy_truthy_multi fz g hm cells⟩

/-- agent 1 stands next to agent 0 and is made falsy, then truthy again: it is a neighbour all along -/
example : runT (init 4 4 false false 23) [] []
    [.q (.op (.place 0 (1, 1))), .q (.op (.place 1 (1, 2))), .truth 1 false, .q (.nbrs ⟨(1, 1), true, false, 1⟩), .truth 1 true,
     .q (.nbrs ⟨(1, 1), true, false, 1⟩)] = [.ok [1], .ok [1]] := by rfl
example (fz : Falsy) (a x : Aid) (b : Bool) : x ∈ setTruth fz a b ↔ (x = a ∧ b = false) ∨ (x ≠ a ∧ x ∈ fz) := mem_setTruth fz a b x
/-- the truth value is not idle in the model: the truthiness instance of the reader leaves the falsy agent 0 out, the code's keeps it -/
example : cellsContentsBy .truthy [0] (run (init 3 3 false false 8) [.place 0 (1, 1), .place 1 (0, 2)]) [(0, 2), (1, 1)] = [1] := by decide +kernel
example : cellsContentsBy .eqDefault [0] (run (init 3 3 false false 8) [.place 0 (1, 1), .place 1 (0, 2)]) [(0, 2), (1, 1)] = [1, 0] := by decide +kernel

/-- **hex `get_neighbors` / `iter_neighbors`**: for a centre in the grid every cell of the neighbourhood is a cell
    of the grid, so the raw indexing of `iter_cell_list_contents` reads exactly those cells, and the agents returned
    are exactly the agents standing on hexagons within r steps (centre by flag), each once -/
theorem C09_hex_get_neighbors_exact (g : Grid) (hi : Inv g) (hw : 0 < g.w) (hh : 0 < g.h) (pos : Coord) (hpos : g.inGrid pos)
    (ic : Bool) (r : Nat) :
    hexNeighbors g (hexCompute g.dim pos ic r) = .ok (cellsContents g (hexCompute g.dim pos ic r)) ∧
    (cellsContents g (hexCompute g.dim pos ic r)).Nodup ∧
    ∀ a, a ∈ cellsContents g (hexCompute g.dim pos ic r) ↔
      ∃ c, g.pos a = some c ∧ (c = pos → ic = true) ∧ (c ≠ pos → Reach (hexNbrs g.dim) r pos c) := by
  obtain ⟨hsorted, hmem⟩ := hex_spec g.dim pos ic r
  have hin : ∀ c ∈ hexCompute g.dim pos ic r, g.inGrid c := hex_inGrid g.dim hw hh pos hpos ic r
  obtain ⟨h1, h2⟩ := cellsContents_spec g hi _ hsorted.nodup
  refine ⟨by unfold hexNeighbors; rw [rawCells_inGrid g _ hin], h1, fun a => ?_⟩
  rw [h2]
  constructor
  · rintro ⟨c, hc, hp⟩
    exact ⟨c, hp, (hmem c).mp hc⟩
  · rintro ⟨c, hp, hc⟩
    exact ⟨c, (hmem c).mpr hc, hp⟩

/-- **NetworkGrid: exactly the nodes within r hops**, for any implementation `within` of
    `single_source_shortest_path_length(G, v, r).keys()` that meets its specification; the radius-1 special
    case (`G.neighbors`) obeys the same rule as the general case; centre by flag -/
theorem C09_network_spec (adj : Nat → List Nat) (within : Nat → Nat → List Nat)
    (hspec : ∀ v r u, u ∈ within v r ↔ Reach adj r v u) (hnd : ∀ v r, (within v r).Nodup)
    (hloop : ∀ v, v ∉ adj v) (v : Nat) (ic : Bool) (r : Nat) (u : Nat) :
    u ∈ netNbhd adj within v ic r ↔ (u = v → ic = true) ∧ (u ≠ v → Reach adj r v u) :=
  network_spec adj within hspec hnd hloop v ic r u

/-- for every simple undirected graph (the model's own proved expansion standing in for networkx) -/
theorem C09_network_all_simple_graphs (t : Net) (hs : SimpleEdges t.edges) (v : Nat) (ic : Bool) (r : Nat) :
    (t.nbhd v ic r).Nodup ∧ ∀ u, u ∈ t.nbhd v ic r ↔ (u = v → ic = true) ∧ (u ≠ v → Reach (adjOf t.edges) r v u) :=
  net_nbhd_spec t hs v ic r

/-- **NetworkGrid `get_neighbors` / `get_cell_list_contents` return exactly the agents occupying those nodes**:
    for any state whose views agree (every reachable one, `C08_network_views_agree_all_histories`) and any
    duplicate-free list of nodes, the agents returned are the agents whose `pos` is one of the nodes, each once,
    node by node in list order; a node that does not exist raises KeyError -/
theorem C09_network_contents_spec (t : Net) (hi : NetInv t) (nodes : List Nat) :
    (nodes.Nodup → (t.cellsContents nodes).Nodup ∧ ∀ a, a ∈ t.cellsContents nodes ↔ ∃ u ∈ nodes, t.pos a = some u) ∧
    t.cellsContents nodes = nodes.flatMap t.content ∧
    ((∀ u ∈ nodes, u < t.n) → t.getCellListContents nodes = .ok (t.cellsContents nodes)) ∧
    ((∃ u ∈ nodes, ¬ u < t.n) → t.getCellListContents nodes = .error .key) := by
  refine ⟨net_cellsContents_spec t hi nodes, net_cellsContents_eq t nodes, ?_, ?_⟩
  · intro h
    unfold Net.getCellListContents
    rw [if_pos]
    simpa using h
  · rintro ⟨u, hu, hlt⟩
    unfold Net.getCellListContents
    rw [if_neg]
    simp only [List.all_eq_true, decide_eq_true_eq]
    intro h
    exact hlt (h u hu)

/-- so the NetworkGrid neighbours of a query are the agents standing on nodes within r hops (centre by flag) -/
theorem C09_network_neighbors_exact (t : Net) (hi : NetInv t) (hs : SimpleEdges t.edges) (v : Nat) (ic : Bool) (r : Nat) :
    (t.cellsContents (t.nbhd v ic r)).Nodup ∧
    ∀ a, a ∈ t.cellsContents (t.nbhd v ic r) ↔
      ∃ u, t.pos a = some u ∧ (u = v → ic = true) ∧ (u ≠ v → Reach (adjOf t.edges) r v u) := by
  obtain ⟨hnd, hmem⟩ := net_nbhd_spec t hs v ic r
  obtain ⟨h1, h2⟩ := net_cellsContents_spec t hi _ hnd
  refine ⟨h1, fun a => ?_⟩
  rw [h2]
  constructor
  · rintro ⟨u, hu, hp⟩
    exact ⟨u, hp, (hmem u).mp hu⟩
  · rintro ⟨u, hp, hu⟩
    exact ⟨u, (hmem u).mpr hu, hp⟩

/-! ## non-vacuity -/

/-- a 2-wide torus with radius 2 > size: wrapped offsets collide, the result still has each cell once -/
example : nbhdCompute ⟨2, 3, true⟩ ⟨(0, 0), true, false, 2⟩ = .ok [(0, 1), (0, 2), (1, 1), (1, 2), (1, 0)] := by rfl
example : interior ⟨5, 5, false⟩ (2, 2) 2 = true := by decide +kernel
example : nbhdCompute ⟨3, 3, false⟩ ⟨(3, 0), true, false, 1⟩ = .error .oob := by rfl
example : hexCompute ⟨4, 4, true⟩ (0, 0) false 1 = [(0, 1), (0, 3), (1, 0), (1, 1), (3, 0), (3, 1)] := by decide +kernel
example : SimpleEdges [(2, 1), (1, 0), (3, 1)] := by unfold SimpleEdges; decide
example : (Net.init 4 [(2, 1), (1, 0), (3, 1)]).nbhd 1 true 1 = [2, 0, 3, 1] := by decide +kernel
example : 3 ∈ ball (adjOf [(2, 1), (1, 0), (3, 1)]) 2 0 := by decide +kernel
example : (init 3 2 false true 11).rawCells [(-1, -1), (0, 0)] = .ok [(2, 1), (0, 0)] := by rfl
example : (init 3 2 false true 11).rawCells [(0, 0), (3, 0)] = .error .index := by rfl
/-- MultiGrid with several agents on the centre cell: with `include_center` the cell mates (and the asking agent itself)
    are returned, in the cell's list order at the centre's place in the neighbourhood; without it none of them -/
example : (match nbhdCompute ⟨3, 3, false⟩ ⟨(1, 1), false, true, 1⟩ with
    | .ok l => cellsContents (run (init 3 3 false true 18) [.place 0 (1, 1), .place 1 (1, 1), .place 2 (0, 1), .place 3 (1, 1)]) l
    | .error _ => []) = [2, 0, 1, 3] := by decide +kernel
example : (match nbhdCompute ⟨3, 3, false⟩ ⟨(1, 1), false, false, 1⟩ with
    | .ok l => cellsContents (run (init 3 3 false true 18) [.place 0 (1, 1), .place 1 (1, 1), .place 2 (0, 1), .place 3 (1, 1)]) l
    | .error _ => []) = [2] := by decide +kernel
/-- a centre outside a bounded hex grid with `include_center`: the centre is in the list and `get_neighbors` aliases it -/
example : hexCompute ⟨3, 3, false⟩ (-1, 0) true 1 = [(-1, 0), (0, 0)] := by decide +kernel
example : hexNeighbors (run (init 3 3 false true 18) [.place 0 (2, 0)]) [(-1, 0), (0, 0)] = .ok [0] := by rfl
/-- two agents on one node, one on another: the neighbours of node 0 within one hop, in `G.neighbors` order -/
example : (nrun (Net.init 4 [(2, 1), (1, 0), (3, 1)]) [.place 0 1, .place 1 3, .place 2 1]).cellsContents
    ((Net.init 4 [(2, 1), (1, 0), (3, 1)]).nbhd 0 true 1) = [0, 2] := by decide +kernel

end Mesa.Legacy
