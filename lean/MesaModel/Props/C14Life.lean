import MesaModel.Model.DevsLife
import MesaModel.Proofs.DevsAbm
import MesaModel.Proofs.DevsRaise
/-!
C14 / C15 over the simulator's whole lifecycle (`Model/DevsLife.lean`): the theorems of `Props/C14.lean` and `Props/C15.lean`
start from `init …` (`ReachableAbm`: from `setup (init .abm …)`) and speak about `Reachable` / `ReachableAbm` states of the event core.  The real object can be
driven differently — scheduling before `setup`, running before `setup`, `setup` twice, `setup` after a run, `reset` at any
time.  The theorems here show that the guards of `simulator.py` reduce every such history to the ones the core theorems cover:

* `C14_life_core_reachable`   every state any lifecycle history reaches has an event core that is `Reachable`
                              (so every invariant of `Props/C14.lean` holds there);
* `C14_life_idle_is_pristine` while no model is attached the clock is at the start, nothing has executed, `model.steps = 0`;
* `C14_life_refused_unchanged` a refused call (`run_*` without a model, `setup` on a used simulator) returns the state as it was;
* `C14_life_run_refused_iff`, `C14_life_setup_refused_iff` exactly which calls are refused;
* `C14_life_setup_starts_pristine` a successful `setup` of an idle simulator yields exactly the core start state
                              `setup (init …)`-shaped: clock 0, nothing executed, the event list empty (DEVS) or holding the
                              single step event for tick 1 (ABM);
* `C15_life_abm_step_invariant` under the ABM simulator every state with a model attached satisfies the step invariant of
                              `Proofs/DevsAbm.lean` (one live step event, armed for tick `steps + 1`; the steps logged so far are
                              the ticks 1 … `steps`) whatever the lifecycle history was;
* `C15_life_steps_track_clock` … hence `model.steps` equals the clock after every `run_until` to a whole tick, in every history;
* `C15_life_abm_second_setup_refused` under the ABM simulator a second `setup` is always refused (the step event is pending).

`LReach` (the states a program can bring the simulator object to) and `LReach.induct` (the induction all theorems here go
through) are defined in this file.
-/
namespace Mesa.Devs

/-- the property's quantifier: horizons not before the clock -/
def Life.admits (l : Life) : LOp → Prop
  | .until _ T => l.sim.now ≤ T
  | .for _ d => 0 ≤ d
  | _ => True

/-- every state a program can bring the simulator object to -/
inductive LReach : Life → Prop where
  | fresh (k : Kind) (p : Nat → List Cmd) (sp : List Cmd) : LReach (fresh k p sp)
  | step {l : Life} (o : LOp) : LReach l → l.admits o → LReach (l.step o).1

/-- Induction over lifecycle histories by what a call does to the event core: a refused call (and a run out of fuel) does
    nothing; what remains are the operations of the core, `setup` on a simulator at the start time with an empty list, the run
    methods with a model attached and a horizon not before the clock, and `reset`. -/
theorem LReach.induct {P : Life → Prop} (init : ∀ k p sp, P (Devs.fresh k p sp))
    (setup : ∀ l, LReach l → P l → l.sim.now = 0 → l.sim.pending = [] → P { up := true, sim := Devs.setup l.sim })
    (reset : ∀ l : Life, P l.reset)
    (next : ∀ l, LReach l → P l → l.up = true → P { l with sim := Devs.runNext l.sim })
    (caught : ∀ l, LReach l → P l → P l.caught)
    (run : ∀ l f T s', LReach l → P l → l.up = true → l.sim.now ≤ T → Devs.runUntil f l.sim T = some s' →
      P { l with sim := s' })
    (cmd : ∀ l c, LReach l → P l → P (l.cmd c)) {l : Life} (h : LReach l) : P l := by
  induction h with
  | fresh k p sp => exact init k p sp
  | @step l o hl ha ih =>
    have hrun : ∀ f T, l.sim.now ≤ T → P (match l.runUntil f T with
        | .ok (some l') => (l', none) | .ok none => (l, none) | .error e => (l, some e)).1 := by
      intro f T hT
      simp only [Life.runUntil]
      cases hu : l.up
      · exact ih
      · cases hr : Devs.runUntil f l.sim T with
        | none => exact ih
        | some s' => simpa [hu] using run l f T s' hl ih hu hT hr
    cases o with
    | setup =>
      simp only [Life.step, Life.setup]
      by_cases h0 : l.sim.now = 0
      · cases hp : l.sim.pending with
        | nil => simpa [h0, hp] using setup l hl ih h0 hp
        | cons x xs => simpa [h0, hp] using ih
      · simpa [h0] using ih
    | reset => exact reset l
    | next =>
      simp only [Life.step, Life.runNext]
      cases hu : l.up
      · exact ih
      · simpa [hu] using next l hl ih hu
    | caught => exact caught l hl ih
    | «until» f T => exact hrun f T ha
    | «for» f d => exact hrun f (l.sim.now + d) (by have : (0 : Int) ≤ d := ha; omega)
    | cmd c => exact cmd l c hl ih

/-- Every lifecycle history — scheduling before `setup`, refused calls, repeated `setup`, `reset` anywhere — leaves an event
    core that is `Reachable` in the sense of `Props/C14.lean`: all C14 invariants hold in every state of every history. -/
theorem C14_life_core_reachable {l : Life} (h : LReach l) : Reachable l.sim :=
  LReach.induct (P := fun l => Reachable l.sim) (fun k p sp => .init k p sp) (fun _ _ ih _ _ => .setup ih) (fun _ => .init _ _ _)
    (fun _ _ ih _ => .next ih) (fun _ _ ih => .caught ih) (fun _ _ _ _ _ ih _ hT hr => .until ih hT hr)
    (fun _ c _ ih => .cmd c ih) h

/-- While no model is attached (before the first `setup`, after every `reset`) the simulator is pristine: the clock is at the
    start time, nothing has executed, `model.steps` is 0 — whatever was attempted meanwhile. -/
theorem C14_life_idle_is_pristine {l : Life} (h : LReach l) (hu : l.up = false) :
    l.sim.now = 0 ∧ l.sim.steps = 0 ∧ l.sim.log = [] := by
  refine LReach.induct (P := fun l => l.up = false → l.sim.now = 0 ∧ l.sim.steps = 0 ∧ l.sim.log = [])
    (fun _ _ _ _ => ⟨rfl, rfl, rfl⟩) (fun _ _ _ _ _ hu => nomatch hu) (fun _ _ => ⟨rfl, rfl, rfl⟩)
    (fun _ _ _ hup hu => nomatch hup.symm.trans hu) (fun _ _ ih hu => ih hu)
    (fun _ _ _ _ _ _ hup _ _ hu => nomatch hup.symm.trans hu) (fun l c _ ih hu => ?_) h hu
  have hf := doCmd_frame l.sim c
  have := ih hu
  exact ⟨hf.now.trans this.1, hf.steps.trans this.2.1, hf.log.trans this.2.2⟩

/-- A refused call returns the simulator exactly as it was. -/
theorem C14_life_refused_unchanged (l : Life) (o : LOp) (e : LErr) (h : (l.step o).2 = some e) : (l.step o).1 = l := by
  cases o with
  | setup =>
    simp only [Life.step] at h ⊢
    split at h <;> simp_all
  | reset => simp [Life.step] at h
  | next =>
    simp only [Life.step] at h ⊢
    split at h <;> simp_all
  | caught => simp [Life.step] at h
  | «until» f T =>
    simp only [Life.step] at h ⊢
    split at h <;> simp_all
  | «for» f d =>
    simp only [Life.step] at h ⊢
    split at h <;> simp_all
  | cmd c => simp [Life.step] at h

/-- The run methods are refused exactly while no model is attached. -/
theorem C14_life_run_refused_iff (l : Life) (f : Nat) (T d : Int) :
    ((l.step (.until f T)).2 = some .notSetup ↔ l.up = false) ∧
    ((l.step (.for f d)).2 = some .notSetup ↔ l.up = false) ∧
    ((l.step .next).2 = some .notSetup ↔ l.up = false) := by
  refine ⟨?_, ?_, ?_⟩
  · simp only [Life.step, Life.runUntil]
    cases l.up
    · simp
    · cases Devs.runUntil f l.sim T <;> simp
  · simp only [Life.step, Life.runFor, Life.runUntil]
    cases l.up
    · simp
    · cases Devs.runUntil f l.sim (l.sim.now + d) <;> simp
  · simp only [Life.step, Life.runNext]
    cases l.up <;> simp

/-- `setup` is refused exactly when the clock has left the start time or the event list holds an entry (cancelled ones
    included). -/
theorem C14_life_setup_refused_iff (l : Life) :
    ((l.step .setup).2 = some .notAtStart ↔ l.sim.now ≠ 0) ∧
    ((l.step .setup).2 = some .hasEvents ↔ l.sim.now = 0 ∧ l.sim.pending ≠ []) ∧
    ((l.step .setup).2 = none ↔ l.sim.now = 0 ∧ l.sim.pending = []) := by
  simp only [Life.step, Life.setup]
  by_cases h0 : l.sim.now = 0
  · cases hp : l.sim.pending <;> simp [h0]
  · simp [h0]

/-- A successful `setup` of an idle simulator starts the run where the core theorems start it: clock 0, nothing executed,
    and the event list is what `setup (init …)` holds, with the ids shifted by the id counter — empty for DEVS, the single step
    event for tick 1 under ABM. -/
theorem C14_life_setup_starts_pristine {l : Life} (h : LReach l) (hu : l.up = false) (hok : (l.step .setup).2 = none) :
    let l' := (l.step .setup).1
    l'.up = true ∧ l'.sim.now = 0 ∧ l'.sim.steps = 0 ∧ l'.sim.log = [] ∧
    l'.sim.pending = (setup (init l.sim.kind l.sim.prog l.sim.stepProg)).pending.map
        (fun e => { e with id := e.id + l.sim.nextId }) := by
  obtain ⟨h0, hs, hl⟩ := C14_life_idle_is_pristine h hu
  obtain ⟨_, hp⟩ := (C14_life_setup_refused_iff l).2.2.1 hok
  have hst : (l.step .setup).1 = { up := true, sim := Devs.setup l.sim } := by
    simp [Life.step, Life.setup, h0, hp]
  simp only [hst]
  have hf := rearm_frame l.sim
  refine ⟨trivial, hf.now.trans h0, hf.steps.trans hs, hf.log.trans hl, ?_⟩
  simp only [setup, rearm, init]
  cases hk : l.sim.kind <;> simp [pushStep, hp, h0, insert]

/-- Under the ABM simulator, every state with a model attached satisfies the step invariant (exactly one live step event,
    armed for tick `steps + 1`; the steps executed so far were the ticks 1 … `steps`), in every lifecycle history. -/
theorem C15_life_abm_step_invariant {l : Life} (h : LReach l) (hu : l.up = true) (hk : l.sim.kind = .abm) : StepInv l.sim := by
  have hw := fun {l} (hl : LReach l) => (reachable_inv (C14_life_core_reachable hl)).1
  refine LReach.induct (P := fun l => l.up = true → l.sim.kind = .abm → StepInv l.sim) (fun _ _ _ hu => nomatch hu) ?_
    (fun _ hu => nomatch hu) ?_ ?_ ?_ ?_ h hu hk
  · intro l hl ih h0 hp _ hk
    replace hk : l.sim.kind = .abm := (rearm_frame l.sim).kind.symm.trans hk
    cases hup : l.up
    · obtain ⟨_, hs, hlog⟩ := C14_life_idle_is_pristine hl hup
      exact setup_stepInv hk hp h0 hs hlog
    · -- a model is attached: the step event is pending, so this `setup` cannot have succeeded
      obtain ⟨st, ha⟩ := (ih hup hk).armed
      have : stepEvs l.sim.pending = [st] := ha.only
      rw [hp] at this
      simp [stepEvs] at this
  · intro l hl ih hup _ hk
    replace hk := ((static_kept l.sim).ofNext ⟨rfl, rfl, rfl⟩).kind.symm.trans hk
    exact (stepInv_kept.ofNext ⟨hw hl, ih hup hk⟩).2
  · exact fun l hl ih hu hk => (stepInv_kept.caught ⟨hw hl, ih hu hk⟩).2
  · intro l f T s' hl ih hup hT hr _ hk
    replace hk := ((static_kept l.sim).ofUntil ⟨rfl, rfl, rfl⟩ hT hr).kind.symm.trans hk
    exact (stepInv_kept.ofUntil ⟨hw hl, ih hup hk⟩ hT hr).2
  · exact fun l c hl ih hu hk =>
      (stepInv_kept.ofCmd c trivial ⟨hw hl, ih hu ((doCmd_frame l.sim c).kind.symm.trans hk)⟩).2

/-- `model.steps` equals the clock after every `run_until` to a whole tick, whatever the lifecycle history before
    it (refused calls, resets, repeated setups, scheduling without a model). -/
theorem C15_life_steps_track_clock {l : Life} (h : LReach l) (hu : l.up = true) (hk : l.sim.kind = .abm)
    {f k : Nat} {s' : Sim} (hT : l.sim.now ≤ (k : Int) * U) (hr : runUntil f l.sim ((k : Int) * U) = some s')
    (hcalm : s'.raised = none) :
    s'.steps = k ∧ s'.now = (k : Int) * U :=
  steps_eq_clock (reachable_inv (C14_life_core_reachable h)).1 (C15_life_abm_step_invariant h hu hk) hT hr hcalm

/-- Under the ABM simulator a second `setup` is always refused: the step event is pending. -/
theorem C15_life_abm_second_setup_refused {l : Life} (h : LReach l) (hu : l.up = true) (hk : l.sim.kind = .abm) :
    (l.step .setup).2 ≠ none := by
  intro hok
  obtain ⟨_, hp⟩ := (C14_life_setup_refused_iff l).2.2.1 hok
  obtain ⟨st, ha⟩ := (C15_life_abm_step_invariant h hu hk).armed
  have : stepEvs l.sim.pending = [st] := ha.only
  rw [hp] at this
  simp [stepEvs] at this

/-! ### non-vacuity: a history with every kind of refusal in it -/

/-- schedule without a model, refused setup, refused run, reset, setup, run two ticks, refused second setup -/
def lifeDemo : Life :=
  (fresh .abm (fun _ => []) []).run
    [.cmd (.schedAbs (2 * U) 5 0), .setup, .until 100 (3 * U), .reset, .setup, .until 100 (2 * U), .setup]

example : lifeDemo.up = true ∧ lifeDemo.sim.now = 2 * U ∧ lifeDemo.sim.steps = 2 := by decide +kernel
example : ((fresh .abm (fun _ => []) []).step (.until 100 (3 * U))).2 = some .notSetup := by decide +kernel
example : (((fresh .abm (fun _ => []) []).cmd (.schedAbs (2 * U) 5 0)).step .setup).2 = some .hasEvents := by decide +kernel
example : (lifeDemo.step .setup).2 = some .notAtStart := by decide +kernel
example : LReach ((fresh .devs (fun _ => []) []).step .setup).1 := .step _ (.fresh _ _ _) trivial

end Mesa.Devs
