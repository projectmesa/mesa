import MesaModel.Proofs.CellDicts
import MesaModel.Proofs.CellEdit
/-!
# C07 — connections and neighbourhoods of cell spaces are exactly the geometry's

Property theorems only (models: `Model/CellGeometry.lean`; helper lemmas: `Proofs/Cell{Assoc,Offsets,Connect,Grid,Symm,Nbhd,Edit,Dicts}.lean`;
generated constants: `Gen/CellTables.lean`, rewritten from grid.py / cell_agent.py on every check).

Reading guide: `gridConn k dims torus c` is `Cell.connections` of cell `c` (a list of (offset, cell));
`InB c dims` says `c` is a cell of the grid; `nbhd nb r ic c` is `c.get_neighborhood(r, ic)` without the
memo tables, for *any* connection structure `nb` (so it covers grids, `Network`, `VoronoiGrid`);
`Reach nb r c c'` is "c' is within r connection hops of c" (0 hops = c itself).
-/
namespace Mesa.Cells

/-- The n-dimensional Moore table (`product([-1,0,1], repeat=n)` minus the origin) is, for every n, exactly
    the set of vectors of Chebyshev norm 1, without repetition. -/
theorem C07_moore_offsets_spec (n : Nat) (d : List Int) :
    (d ∈ mooreOffsets n ↔ d.length = n ∧ chebNorm d = 1) ∧ (mooreOffsets n).Nodup :=
  ⟨mem_mooreOffsets_norm n d, mooreOffsets_nodup n⟩

/-- The n-dimensional von Neumann table is, for every n, exactly the set of vectors of Manhattan norm 1. -/
theorem C07_vn_offsets_spec (n : Nat) (d : List Int) :
    d ∈ vnOffsets n ↔ d.length = n ∧ manhNorm d = 1 := mem_vnOffsets_norm n d

/-- What grid.py says *now* (AST-extracted literals and tables probed from the running code on 5^n grids)
    equals the generic tables: the literal 2-D Moore table is `mooreOffsets 2`, the literal 2-D von Neumann
    table is a permutation of `vnOffsets 2`, the probed n-D tables for n ≤ 4 are `mooreOffsets n` /
    `vnOffsets n`, the probed 2-D tables are the literals, and the n-D code paths build from `[-1,0,1]` /
    `[-1,1]`.  A changed sign or a dropped entry in the source breaks this proof obligation. -/
theorem C07_generated_tables_are_generic :
    pairsToVecs Gen.moore2d = mooreOffsets 2 ∧ (pairsToVecs Gen.vn2d).Perm (vnOffsets 2) ∧
    Gen.mooreProbe1 = mooreOffsets 1 ∧ Gen.mooreProbe2 = pairsToVecs Gen.moore2d ∧
    Gen.mooreProbe3 = mooreOffsets 3 ∧ Gen.mooreProbe4 = mooreOffsets 4 ∧
    Gen.vnProbe1 = vnOffsets 1 ∧ Gen.vnProbe2 = pairsToVecs Gen.vn2d ∧
    Gen.vnProbe3 = vnOffsets 3 ∧ Gen.vnProbe4 = vnOffsets 4 ∧
    Gen.mooreNdBase = [-1, 0, 1] ∧ Gen.vnNdDeltas = [-1, 1] := by
  refine ⟨gen_moore2d, gen_vn2d, ?_⟩
  decide +kernel

/-- Hexagons: for all integers i, j the table the code selects for column parity `j % 2` lists exactly the
    offsets (di, dj) whose hexagon touches the hexagon at (i, j) (cube distance 1); the probed tables of the
    running code are these literals and the parity is taken from `coordinate[1]`.  Touching is symmetric. -/
theorem C07_hex_touching (i j di dj : Int) :
    ((di, dj) ∈ hexTable j ↔ hexTouch i j di dj) ∧
    (hexTouch i j di dj → hexTouch (i + di) (j + dj) (-di) (-dj)) ∧
    (Gen.hexProbeEven = pairsToVecs Gen.hexWhenEven ∧ Gen.hexProbeOdd = pairsToVecs Gen.hexWhenOdd ∧
      Gen.hexProbeOdd3 = pairsToVecs Gen.hexWhenOdd ∧ Gen.hexParityAxis = 1) :=
  ⟨hexTable_touching i j di dj, hexTouch_symm i j di dj, by decide +kernel⟩

/-- Connecting one cell under one offset (n-D code path, all dimension vectors incl. sizes 1 and 2):
    the result is `c + d`, wrapped component-wise on a torus, and present iff that lies in bounds;
    on a torus it is always present; without wrapping it is absent exactly beyond the edge. -/
theorem C07_connect_spec {dims : List Nat} {torus : Bool} {c d : List Int}
    (hc : c.length = dims.length) (hd : d.length = dims.length) :
    (∀ c', connectNd dims torus c d = some c' ↔
        c' = (if torus then wrapv (addv c d) dims else addv c d) ∧ InB c' dims) ∧
    ((∀ w ∈ dims, 0 < w) → connectNd dims true c d = some (wrapv (addv c d) dims)) ∧
    (connectNd dims false c d = none ↔ ¬ InB (addv c d) dims) :=
  ⟨fun _ => connectNd_spec hc hd, fun hpos => connectNd_torus_total hpos hc hd, connectNd_plain_none hc hd⟩

/-- The 2-D code path (`_connect_single_cell_2d`) computes what the n-D one does. -/
theorem C07_connect_2d_is_nd (h w : Nat) (torus : Bool) (i j di dj : Int) :
    (connect2d h w torus i j di dj).map (fun p => [p.1, p.2]) = connectNd [h, w] torus [i, j] [di, dj] :=
  connect2d_eq_nd h w torus i j di dj

/-- Connection under an offset is undone by the negated offset, with and without wrapping. -/
theorem C07_connect_symm {dims : List Nat} {torus : Bool} {c d c' : List Int} (hpos : ∀ w ∈ dims, 0 < w)
    (hc : InB c dims) (hd : d.length = dims.length) (h : connectNd dims torus c d = some c') :
    connectNd dims torus c' (negv d) = some c := connectNd_symm hpos hc hd h

/-- `Cell.connections` of every cell of every grid (Moore / von Neumann in any number of axes through
    either code path, hex in 2-D): `key ↦ c'` is a connection iff `key` is an offset of the geometry at `c`
    (Chebyshev norm 1 / Manhattan norm 1 / touching hexagon) and `c'` is `c + key`, wrapped on a torus,
    in bounds. -/
theorem C07_grid_connections (k : GridKind) (dims : List Nat) (torus : Bool) (c : List Int) (hc : InB c dims)
    (hk : k = .hex → dims.length = 2) (key c' : List Int) :
    (key, c') ∈ gridConn k dims torus c ↔
      IsOffset k dims.length c key ∧
      c' = (if torus then wrapv (addv c key) dims else addv c key) ∧ InB c' dims := by
  rw [mem_gridConn k dims torus c hc hk]
  exact and_congr_right fun ho => connectNd_spec hc.length_eq ho.length_eq

/-- The cells of a grid are exactly the in-bounds coordinates, and connections never leave the grid. -/
theorem C07_grid_cells (k : GridKind) (dims : List Nat) (torus : Bool) (c : List Int) :
    (c ∈ allCoords dims ↔ InB c dims) ∧
    (InB c dims → (k = .hex → dims.length = 2) → ∀ key c', (key, c') ∈ gridConn k dims torus c → c' ∈ allCoords dims) :=
  ⟨mem_allCoords dims c, fun hc hk key c' h => (mem_allCoords dims c').mpr (gridConn_InB k dims torus c hc hk key c' h)⟩

/-- Grid connections are symmetric: if `key` leads from `c` to `c'` then `-key` leads from `c'` to `c`
    (hex tori: under the hypothesis that the size along the offset axis is even). -/
theorem C07_grid_symmetric (k : GridKind) (dims : List Nat) (torus : Bool) (c : List Int)
    (hpos : ∀ w ∈ dims, 0 < w) (hc : InB c dims) (hk : k = .hex → dims.length = 2)
    (hx : HexTorusOK k dims torus) (key c' : List Int) (h : (key, c') ∈ gridConn k dims torus c) :
    (negv key, c) ∈ gridConn k dims torus c' := gridConn_symm k dims torus c hpos hc hk hx key c' h

/-- `Network`: the connections of node `u` are the graph's edges at `u`, keyed by the neighbour, each once;
    for an undirected graph they are symmetric. -/
theorem C07_network_connections (directed : Bool) (edges : List (Nat × Nat)) (u : Nat) :
    (∀ key c', (key, c') ∈ netConn directed edges [(u : Int)] ↔
      ∃ v : Nat, key = [(v : Int)] ∧ c' = [(v : Int)] ∧
        ((u, v) ∈ edges ∨ (directed = false ∧ (v, u) ∈ edges))) ∧
    (netAdj directed edges u).Nodup ∧
    (directed = false → ∀ v, v ∈ netAdj directed edges u → u ∈ netAdj directed edges v) := by
  refine ⟨fun key c' => ?_, netAdj_nodup directed edges u, fun hd v hv => ?_⟩
  · simp only [mem_netConn, mem_netAdj]
  · rw [mem_netAdj] at hv ⊢
    rcases hv with h | ⟨_, h⟩
    · exact Or.inr ⟨hd, h⟩
    · exact Or.inl h

/-- `VoronoiGrid._connect_cells` over an arbitrary exported triangle list: cells i and j are connected
    (key `(i, j)`) iff some triangle has both as vertices (at different positions); symmetric.
    PARTIAL: that the triangle list the code computes (float Bowyer–Watson inside a ±9999 frame) is the
    Delaunay triangulation of the centroids is not proved; the check validates it against an exact
    empty-circumcircle computation on small integer point sets. -/
theorem C07_voronoi_connections_partial (tris : List (Nat × Nat × Nat)) (i : Nat) :
    (∀ key c', (key, c') ∈ vorConn tris [(i : Int)] ↔
      ∃ j : Nat, key = [(i : Int), (j : Int)] ∧ c' = [(j : Int)] ∧ ∃ t ∈ tris, (i, j) ∈ triPairs t) ∧
    (∀ j, j ∈ vorAdj tris i → i ∈ vorAdj tris j) := by
  refine ⟨fun key c' => ?_, fun j hj => ?_⟩
  · simp only [mem_vorConn, mem_vorAdj]
  · rw [mem_vorAdj] at hj ⊢
    obtain ⟨t, ht, hm⟩ := hj
    exact ⟨t, ht, (triPairs_symm t i j).mp hm⟩

/-- The radius-r neighbourhood, for every connection structure, every cell, every radius ≥ 1:
    with `include_center` it is exactly the set of cells within r hops; without it, the same set minus the
    cell itself (also when the cell is connected to itself, S15, or has no connections, S14);
    no cell is listed twice. -/
theorem C07_nbhd_spec {α : Type} [DecidableEq α] (nb : α → List α) (r : Nat) (c c' : α) :
    (c' ∈ nbhd nb (r+1) true c ↔ Reach nb (r+1) c c') ∧
    (c' ∈ nbhd nb (r+1) false c ↔ c' ≠ c ∧ Reach nb (r+1) c c') ∧
    (∀ ic, (nbhd nb (r+1) ic c).Nodup) :=
  ⟨nbhd_true_spec nb r c c', nbhd_false_spec nb r c c', fun ic => nbhd_nodup nb (r+1) ic c⟩


/-- "Within r hops" is the usual notion: `Reach nb r c c'` iff there is a walk of at most r connection steps
    from `c` to `c'`. -/
theorem C07_reach_is_path {α : Type} (nb : α → List α) (r : Nat) (c c' : α) :
    Reach nb r c c' ↔ ∃ p : List α, p.length ≤ r ∧ IsPath nb c p c' := reach_iff_path nb r c c'

/-- Memo tables are transparent: for every connection structure and every sequence of
    `get_neighborhood` / `neighborhood` queries (any order, any repetition), starting from fresh tables
    the answers the code gives — each call and each recursive call first consulting
    `_neighborhood`'s, `get_neighborhood`'s and the `neighborhood` property's memo — are the answers of the
    uncached function. -/
theorem C07_cache_transparent {α : Type} [DecidableEq α] (nb : α → List α) (qs : List (Query α)) :
    runQueries nb {} qs = qs.map (Query.answer nb) :=
  runQueries_spec nb {} (cachesOK_empty nb) qs

/-- …and the same from any memo state a history of queries can have produced. -/
theorem C07_cache_transparent_from {α : Type} [DecidableEq α] (nb : α → List α) (cs : Caches α)
    (h : CachesOK nb cs) (q : Query α) (qs : List (Query α)) :
    CachesOK nb (q.run nb cs).2 ∧ runQueries nb cs (q :: qs) = (q :: qs).map (Query.answer nb) :=
  ⟨(q.run_spec nb cs h).2, runQueries_spec nb cs h _⟩

/-- The memo key of the model is the memo key of the source (generated obligation, re-checked on every run): in
    `cell.py` as it is now `get_neighborhood` and `_neighborhood` are memoised on all their arguments (`functools.cache` / `lru_cache`) and their parameters — hence
    whose memo key — are exactly `(self, radius, include_center)` (the `Memo` key `(cell, r, ic)` of `nbhdC` / `getNbhd`: no
    argument is missing from the key, none is added), `neighborhood` is a `cached_property` of the cell alone (`Caches.prop`),
    `get_neighborhood` hands both arguments on to `_neighborhood`, and the running class agrees with the source. -/
theorem C07_memo_keys_generated :
    Gen.nbhdMemo = [("get_neighborhood", ["memo-on-all-arguments"], ["self", "radius", "include_center"]),
                    ("_neighborhood", ["memo-on-all-arguments"], ["self", "radius", "include_center"]),
                    ("neighborhood", ["cached_property"], ["self"])] ∧
    Gen.nbhdMemoProbe = Gen.nbhdMemo ∧
    Gen.nbhdInnerCall = ["radius=radius", "include_center=include_center"] := ⟨rfl, rfl, rfl⟩

/-- `Cell.connections` is a dict in the model too: in every grid (any kind, dimension vector, torus flag), every
    `Network` and every `VoronoiGrid` no key occurs twice among a cell's connections, so "the cell under key k"
    (`connections.get(k)`, what `move_relative` follows) and the listed items say the same. -/
theorem C07_connections_are_dicts :
    (∀ k dims torus c, KeysNodup (gridConn k dims torus c)) ∧
    (∀ directed edges c, KeysNodup (netConn directed edges c)) ∧
    (∀ tris c, KeysNodup (vorConn tris c)) :=
  ⟨gridConn_keysNodup, netConn_keysNodup, vorConn_keysNodup⟩

/-- `Cell.connect(other, key)` and `Cell.disconnect(other)` after construction, on any connection structure:
    `connect` is the dict assignment `connections[key] = other` on that one cell (the lookup of `key` now gives
    `other`, every other lookup is unchanged; on a dict: the items are the old ones with `key` re-bound or added),
    `disconnect` deletes exactly the items leading to `other`; both leave every other cell's connections alone
    and keep the dict a dict; afterwards `other` is / is not among the cell's neighbours. -/
theorem C07_connect_disconnect_spec {α κ : Type} [DecidableEq α] [DecidableEq κ] (conn : α → List (κ × α))
    (c other : α) (key : κ) :
    (∀ k', assocGet (connectConn conn c other key c) k' = if key = k' then some other else assocGet (conn c) k') ∧
    (∀ x, x ≠ c → connectConn conn c other key x = conn x ∧ disconnectConn conn c other x = conn x) ∧
    (∀ p, p ∈ disconnectConn conn c other c ↔ p ∈ conn c ∧ p.2 ≠ other) ∧
    (KeysNodup (conn c) →
      KeysNodup (connectConn conn c other key c) ∧ KeysNodup (disconnectConn conn c other c) ∧
      (∀ k' v', (k', v') ∈ connectConn conn c other key c ↔ (k' = key ∧ v' = other) ∨ (k' ≠ key ∧ (k', v') ∈ conn c)) ∧
      (∀ k', assocGet (disconnectConn conn c other c) k' =
        (assocGet (conn c) k').bind fun v => if v = other then none else some v)) ∧
    other ∈ nbOfConn (connectConn conn c other key) c ∧ other ∉ nbOfConn (disconnectConn conn c other) c := by
  simp only [nbOfConn, connectConn_same, disconnectConn_same]
  refine ⟨assocGet_dictSet _ _ _,
    fun x hx => ⟨connectConn_other conn c other key hx, disconnectConn_other conn c other hx⟩,
    mem_dictDropValue _ _,
    fun hk => ⟨keysNodup_dictSet hk _ _, keysNodup_dictDropValue hk _, mem_dictSet hk _ _, assocGet_dictDropValue hk _⟩,
    List.mem_map.mpr ⟨(key, other), dictSet_mem_self _ _ _, rfl⟩, ?_⟩
  simp only [List.mem_map, not_exists, not_and]
  intro p hp
  exact ((mem_dictDropValue _ _ _).mp hp).2

/-- Memo tables stay transparent when connections are edited (repair SC2): for every connection structure and
    every history of `get_neighborhood` / `neighborhood` queries *interleaved in any order with `connect` /
    `disconnect` calls on any cells*, the answers the code gives — consulting the three memo tables, dropping
    them (`_forget_neighborhoods`) at every edit — are the answers of the uncached function on the connections
    as they are at the moment of the query (`C07_nbhd_spec`: exactly the cells within r hops of the *edited*
    structure); from fresh tables and from any memo state a history can have produced. -/
theorem C07_cache_transparent_under_edits {α κ : Type} [DecidableEq α] [DecidableEq κ] (conn : α → List (κ × α))
    (acts : List (Act α κ)) :
    runActs conn {} acts = specActs conn acts ∧
    ∀ cs, CachesOK (nbOfConn conn) cs → runActs conn cs acts = specActs conn acts :=
  ⟨runActs_spec conn {} (cachesOK_empty _) acts, fun cs h => runActs_spec conn cs h acts⟩

/-! ### non-vacuity: the hypotheses are satisfiable and the statements bite -/

-- a 1×3 Moore torus: cell (0,1) is connected to itself (S15) and to both others under several offsets
example : (gridConn .moore [1, 3] true [0, 1]).map (·.2) =
    [[0, 0], [0, 1], [0, 2], [0, 0], [0, 2], [0, 0], [0, 1], [0, 2]] := by decide +kernel
example : InB [0, 1] [1, 3] ∧ HexTorusOK .moore [1, 3] true := by
  refine ⟨by simp [InB], fun h => by cases h⟩
-- S15 witness on the repaired semantics: the self-connected cell is not its own neighbour
example : nbhd (fun c => (gridConn .moore [1, 3] true c).map (·.2)) 1 false [0, 1] = [[0, 0], [0, 2]] := by decide +kernel
-- S14 witness: an isolated cell is within any radius of itself
example : nbhd (fun _ : Nat => []) 2 true 0 = [0] := by decide +kernel
example : Reach (fun _ : Nat => []) 2 0 0 := Or.inl rfl
-- radius 2 on a path 0 - 1 - 2 - 3
example : nbhd (netAdj false [(0, 1), (1, 2), (2, 3)]) 2 false 0 = [2, 1] := by decide +kernel
-- a hex torus with even width: offsets of the two parities
example : HexTorusOK .hex [3, 4] true := by
  intro _ _ h w hd
  simp at hd
  omega
example : (gridConn .hex [3, 4] true [0, 0]).map (·.2) = [[0, 3], [1, 3], [2, 0], [1, 0], [0, 1], [1, 1]] := by decide +kernel
-- beyond the edge: absent
example : connectNd [2, 2] false [0, 0] [-1, 0] = none := by decide +kernel
-- memo tables hit in both directions give the uncached answers
example : runQueries (netAdj false [(0, 1), (1, 2)]) {} [.get 0 2 true, .prop 1, .get 0 2 false, .get 1 1 true, .get 0 2 true]
    = [[0, 2, 1], [0, 2], [2, 1], [0, 2, 1], [0, 2, 1]] := by decide +kernel
-- SC2: on the path 0 - 1 - 2, cell 0 is asked, then connected to cell 2 (key [2]), then asked again: the second
-- answers see the new connection, also at radius 2 from cell 1's side after a disconnect …
private def path3 : List Int → List (Key × Coord) := netConn false [(0, 1), (1, 2)]
example : runActs path3 {} [.ask (.get [0] 1 false), .ask (.prop [0]), .connect [0] [2] [2], .ask (.get [0] 1 false),
      .ask (.prop [0]), .disconnect [1] [2], .ask (.get [0] 2 false), .ask (.get [1] 1 true)]
    = [[[1]], [[1]], [[1], [2]], [[1], [2]], [[1], [2]], [[0], [1]]] := by decide +kernel
-- … whereas keeping the memo table across the edit (the code before the repair) returns the stale answer
example : (getNbhd (nbOfConn (connectConn path3 [0] [2] [2])) 1 false [0] (getNbhd (nbOfConn path3) 1 false [0] {}).2).1
    ≠ nbhd (nbOfConn (connectConn path3 [0] [2] [2])) 1 false [0] := by decide +kernel
example : KeysNodup (path3 [1]) ∧ assocGet (connectConn path3 [1] [0] [2] [1]) [2] = some [0] :=
  ⟨netConn_keysNodup _ _ _, by decide +kernel⟩

end Mesa.Cells
