import MesaModel.Proofs.AgentSetHist
/-!
# C18 (agents group) — a rejected AgentSet call leaves the store unchanged

Material for C18 ("a mutating call that raises leaves all observable state unchanged") from the `agents`
group.  None of these calls is in C18's own list of rejecting calls (they are not space / table / scheduling
/ subscription operations); they are the raising calls of `AgentSet`: `remove` of a non-member (`KeyError`),
`sort` / `groupby` by a key some member lacks (`AttributeError`), `pop` on an empty set (`KeyError`), plus the
non-mutating raising queries.
In the model a raising call returns `Except.error` and carries no new store at all, so "unchanged" is stated
through `applyOp`, the state a history continues from; harness/c03.py `generate_rejecting` exercises the same
calls on the implementation, followed by further valid operations, and its oracle clause `reject:` compares
the full dump (all sets, all attributes) before and after.
`Key.reads` names the attribute a key function reads; `mapM_option_eq_none` says when a comprehension over optional values fails.
-/
namespace Mesa.ASet

/-- `AgentSet.remove(agent)` of a non-member raises `KeyError` and changes nothing. -/
theorem C18_agents_remove_absent_reject_unchanged (st : Store) (s a : Nat) (h : a ∉ st.get s) :
    remove st s a = .error .key ∧ applyOp st (.remove s a) = st := by
  simp [remove, applyOp, h]

/-- `AgentSet.sort(key, inplace=…)` with a key that some member lacks raises `AttributeError` before
    anything is rebuilt: no set changes, no new set appears, in place or not. -/
theorem C18_agents_sort_missing_key_reject_unchanged (st : Store) (s : Nat) (key : Key) (asc inplace : Bool)
    (h : keysOf st key (st.get s) = none) :
    sort st s key asc inplace = .error .attr ∧ applyOp st (.sort s key asc inplace) = st := by
  simp [sort, applyOp, h]

/-- `AgentSet.groupby(by)` with a key that some member lacks raises `AttributeError`; no group set is created. -/
theorem C18_agents_groupby_missing_key_reject_unchanged (st : Store) (s : Nat) (key : Key) (asSets : Bool)
    (h : keysOf st key (st.get s) = none) :
    group st s key asSets = .error .attr ∧ applyOp st (.group s key asSets) = st := by
  simp [group, applyOp, h]

/-- `AgentSet.pop()` on an empty set raises `KeyError` and changes nothing. -/
theorem C18_agents_pop_empty_reject_unchanged (st : Store) (s : Nat) (h : st.get s = []) :
    (pop st s).toOption = none ∧ applyOp st (.pop s) = st := by
  simp [pop, applyOp, h, popL, Except.toOption]

/-- Every raising call of the model returns an error *instead of* a store: whatever follows in a history
    starts from the store as it was (`applyOp` of a raising operation is the identity). -/
theorem C18_agents_any_reject_unchanged (st : Store) (op : SOp) :
    (match op with
     | .sort s key asc i => (sort st s key asc i).toOption.isNone
     | .group s key b => (group st s key b).toOption.isNone
     | .remove s a => (remove st s a).toOption.isNone
     | .pop s => (pop st s).toOption.isNone
     | _ => false) = true → applyOp st op = st := by
  cases op with
  | sort | group | remove | pop =>
    intro h
    simp only [applyOp]
    split
    · rename_i hs
      simp [hs, Except.toOption] at h
    · rfl
  | _ =>
    intro h
    cases h

theorem mapM_option_eq_none {α β : Type} (f : α → Option β) (l : List α) :
    l.mapM f = none ↔ ∃ x ∈ l, f x = none := by
  induction l with
  | nil => simp
  | cons a l ih =>
    rw [List.mapM_cons]
    cases ha : f a with
    | none => simp [ha]
    | some b =>
      -- `a` has a value: whether the comprehension raises is decided by the rest
      have hx : (∃ x ∈ a :: l, f x = none) ↔ ∃ x ∈ l, f x = none := by simp [ha]
      rw [hx, ← ih]
      cases l.mapM f <;> simp

/-- what a key function reads: the attribute whose absence makes it raise `AttributeError` (`none`: it reads none) -/
def Key.reads : Key → Option Nat
  | .attr k | .modAttr k _ | .negAttr k => some k
  | .ty | .uid => none

/-- **Exactly when the raising calls raise, and what** (the errors are named, the key functions are the
    well-formed ones — `a.k % 0` is Python's `ZeroDivisionError`, which the model has no arm for and the driver refuses):
    `remove` raises `KeyError` iff the agent is not a member and raises nothing else; `sort` and `groupby` raise
    `AttributeError` iff some member lacks the attribute the key function reads (whatever `ascending` / `inplace` /
    `result_type`; keys on the class or on `unique_id` never raise) and raise nothing else; `pop` raises `KeyError` iff the set
    is empty and nothing else — and in each of these cases the store a history continues from is the old one. -/
theorem C18_agents_reject_exactly_when (st : Store) (s : Nat) :
    (∀ a, (remove st s a = .error .key ↔ a ∉ st.get s) ∧ (∀ e, remove st s a = .error e → e = .key) ∧
      (a ∉ st.get s → applyOp st (.remove s a) = st)) ∧
    (∀ key asc inplace, key.WellFormed →
      (sort st s key asc inplace = .error .attr ↔ ∃ i ∈ st.get s, ∃ k, key.reads = some k ∧ (st.agent i).attr k = none) ∧
      (∀ e, sort st s key asc inplace = .error e → e = .attr) ∧
      ((∃ i ∈ st.get s, key.eval (st.agent i) = none) → applyOp st (.sort s key asc inplace) = st)) ∧
    (∀ key asSets, key.WellFormed →
      (group st s key asSets = .error .attr ↔ ∃ i ∈ st.get s, ∃ k, key.reads = some k ∧ (st.agent i).attr k = none) ∧
      (∀ e, group st s key asSets = .error e → e = .attr) ∧
      ((∃ i ∈ st.get s, key.eval (st.agent i) = none) → applyOp st (.group s key asSets) = st)) ∧
    ((pop st s = .error .key ↔ st.get s = []) ∧ (∀ e, pop st s = .error e → e = .key) ∧
      (st.get s = [] → applyOp st (.pop s) = st)) := by
  have hreads : ∀ (key : Key) (i : Nat), key.eval (st.agent i) = none ↔ ∃ k, key.reads = some k ∧ (st.agent i).attr k = none := by
    intro key i
    cases key <;> simp [Key.eval, Key.reads]
  have hex : ∀ key : Key, (∃ i ∈ st.get s, key.eval (st.agent i) = none) ↔
      ∃ i ∈ st.get s, ∃ k, key.reads = some k ∧ (st.agent i).attr k = none :=
    fun key => by simp only [hreads]
  refine ⟨fun a => ⟨?_, fun e he => ?_, fun h => (C18_agents_remove_absent_reject_unchanged st s a h).2⟩,
    fun key asc inplace _ => ⟨?_, fun e he => ?_, fun h => ?_⟩,
    fun key asSets _ => ⟨?_, fun e he => ?_, fun h => ?_⟩, ?_, fun e he => ?_, fun h => (C18_agents_pop_empty_reject_unchanged st s h).2⟩
  · by_cases h : a ∈ st.get s <;> simp [remove, h]
  · by_cases h : a ∈ st.get s <;> simp [remove, h] at he
    exact he.symm
  · rw [← hex, ← mapM_option_eq_none]
    show sort st s key asc inplace = .error .attr ↔ keysOf st key (st.get s) = none
    cases hk : keysOf st key (st.get s) <;> simp [sort, hk]
  · cases hk : keysOf st key (st.get s) <;> simp [sort, hk] at he
    exact he.symm
  · have : keysOf st key (st.get s) = none := (mapM_option_eq_none _ _).mpr h
    exact (C18_agents_sort_missing_key_reject_unchanged st s key asc inplace this).2
  · rw [← hex, ← mapM_option_eq_none]
    show group st s key asSets = .error .attr ↔ keysOf st key (st.get s) = none
    cases hk : keysOf st key (st.get s) <;> simp [group, hk]
  · cases hk : keysOf st key (st.get s) <;> simp [group, hk] at he
    exact he.symm
  · have : keysOf st key (st.get s) = none := (mapM_option_eq_none _ _).mpr h
    exact (C18_agents_groupby_missing_key_reject_unchanged st s key asSets this).2
  · cases hl : st.get s with
    | nil => simp [pop, hl, popL]
    | cons a rest => simp [pop, hl, popL]
  · cases hl : st.get s with
    | nil =>
      simp [pop, hl, popL] at he
      exact he.symm
    | cons a rest => simp [pop, hl, popL] at he

/-- non-vacuity: agent 1 lacks attribute 1 -/
example : sort { pop := [⟨0, 0, [(1, 5)]⟩, ⟨1, 0, []⟩], sets := [[0, 1]], rng := ⟨[]⟩ } 0 (.attr 1) true true = .error .attr ∧
    (sort { pop := [⟨0, 0, [(1, 5)]⟩, ⟨1, 0, []⟩], sets := [[0]], rng := ⟨[]⟩ } 0 (.attr 1) true true).toOption.isSome = true :=
  ⟨by rfl, by rfl⟩

end Mesa.ASet
