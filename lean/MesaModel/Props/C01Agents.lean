import MesaModel.Proofs.RngDraws
import MesaModel.Proofs.AgentSetHist
import MesaModel.Props.C04
/-!
# C01 on the AgentSet / activation models of the agents group

Clauses of C01 ("seeded runs are reproducible") proved on the models that are tied to mesa/agent.py by the
correspondence checks of C03 (`Model/AgentSet.lean`, store of sets sharing `model.random`) and C02/C04
(`Model/Registry.lean` + `Model/Activation.lean`, worlds of several models each with its own generator):

* shuffle / shuffle_do consume exactly `len - 1` draws (none for `len ≤ 1`), look at no other draw, and their result is
  a function of (ordered members, draws) only;
* over **every history** of store operations the generator has advanced by exactly the sum of `size - 1` over the
  shuffles made — no other AgentSet operation draws;
* over **every history** of world operations every program-made set keeps the generator it was constructed with.

The statements about worlds are written with `gens` (the generators, one per model), `handles` (the model whose generator
each program-made set carries) and `gensAfter`; `Same` (both unchanged) and its lemmas carry their proofs.
-/
namespace Mesa.ASet

/-- One shuffle of `n` members consumes exactly `n - 1` draws (so none for `n ≤ 1`, where it also returns the members as
    they are), and its result depends on those `n - 1` draws only: any two generators that agree on them give the same order. -/
theorem C01_agents_shuffle_draws {α : Type} (l : List α) (g : Rng) :
    (Rng.shuffle l g).2.script = g.script.drop (l.length - 1) ∧
    (l.length ≤ 1 → Rng.shuffle l g = (l, g)) ∧
    (∀ g' : Rng, g.script.take (l.length - 1) = g'.script.take (l.length - 1) → (Rng.shuffle l g).1 = (Rng.shuffle l g').1) := by
  refine ⟨Rng.shuffle_script l g, fun h => ?_, fun g' h => Rng.shuffle_of_take l g g' h⟩
  have h0 : l.length - 1 = 0 := by omega
  simp [Rng.shuffle, h0, Rng.shuffleAux]

/-- `AgentSet.shuffle` on the store: the resulting order and the remaining draws are a function of the ordered members
    of the set and the draws alone — two stores that differ in everything else (attributes, other sets, dead agents, the
    in-place flag) produce the same order and leave the same draws; the set the call returns (the set itself for
    `inplace=True`, the new one otherwise) holds exactly `Rng.shuffle` of the members, whichever flag. -/
theorem C01_agents_shuffle_function_of_members_and_script (st st' : Store) (s s' : Nat) (i i' : Bool)
    (hm : st.get s = st'.get s') (hg : st.rng = st'.rng) :
    (shuffle st s i).1.rng = (shuffle st' s' i').1.rng ∧
    ((shuffle st s false).1.sets.getLast? = (shuffle st' s' false).1.sets.getLast?) ∧
    (shuffle st s i).1.rng.script = st.rng.script.drop ((st.get s).length - 1) ∧
    (s < st.sets.length → s' < st'.sets.length →
      (shuffle st s i).1.get (shuffle st s i).2 = (Rng.shuffle (st.get s) st.rng).1 ∧
      (shuffle st s i).1.get (shuffle st s i).2 = (shuffle st' s' i').1.get (shuffle st' s' i').2) := by
  have hres : ∀ (st : Store) (s : Nat) (i : Bool), s < st.sets.length →
      (shuffle st s i).1.get (shuffle st s i).2 = (Rng.shuffle (st.get s) st.rng).1 := by
    intro st s i hs
    cases i <;> simp [shuffle, Store.put, Store.get, hs]
  refine ⟨?_, ?_, ?_, fun hs hs' => ⟨hres st s i hs, by rw [hres st s i hs, hres st' s' i' hs', hm, hg]⟩⟩
  · simp only [shuffle, put_rng, hm, hg]
  · simp only [shuffle, Store.put, hm, hg]
    simp
  · simp only [shuffle, put_rng]
    exact Rng.shuffle_script _ _

/-- the draws a history of store operations consumes: `size - 1` at each shuffle, nothing anywhere else -/
def opDraws (st : Store) : SOp → Nat
  | .shuffle s _ => (st.get s).length - 1
  | _ => 0

def drawsOf : Store → List SOp → Nat
  | _, [] => 0
  | st, op :: ops => opDraws st op + drawsOf (applyOp st op) ops

/-- **Draw counts are determined, over every history**: after any sequence of AgentSet operations (constructor, select,
    shuffle, sort, groupby, set / add / discard / remove, the set operators and their in-place forms, pop, clear, deaths;
    raising calls included) the shared generator has advanced by exactly the sum, over the shuffles made, of the size of the
    shuffled set minus one.  No other operation draws, and the count does not depend on attributes, filters or keys. -/
theorem C01_agents_history_draws (ops : List SOp) (st : Store) :
    (ops.foldl applyOp st).rng.script = st.rng.script.drop (drawsOf st ops) := by
  induction ops generalizing st with
  | nil => simp [drawsOf]
  | cons op ops ih =>
    have hstep : (applyOp st op).rng.script = st.rng.script.drop (opDraws st op) := by
      rw [(applyOp_frame st op).2]
      -- `shuffle` consumes `size - 1` draws (second arm); every other operation none
      cases op <;> first | rfl | exact Rng.shuffle_script _ _
    rw [List.foldl_cons, ih, hstep, List.drop_drop, drawsOf]

end Mesa.ASet

namespace Mesa.Agents

/-- the generators of the world, one per model, in the order the models were made -/
def gens (w : World) : List Rng := w.regs.map (·.rng)

theorem gens_congr {w w' : World} (h : w'.regs = w.regs) : gens w' = gens w := by simp [gens, h]

/-- the generator handle (model index) each program-made set carries -/
def handles (w : World) : List Nat := w.sets.map (·.1)

theorem handles_congr {w w' : World} (h : w'.sets = w.sets) : handles w' = handles w := by simp [handles, h]

/-- what only `newModel`, the shuffles and `mkSet` change: the generators, and which of them each program-made set carries -/
structure Same (w w' : World) : Prop where
  gens : gens w' = gens w
  handles : handles w' = handles w

theorem Same.refl (w : World) : Same w w := ⟨rfl, rfl⟩

theorem Same.trans {a b c : World} (h1 : Same a b) (h2 : Same b c) : Same a c :=
  ⟨h2.gens.trans h1.gens, h2.handles.trans h1.handles⟩

theorem map_rng_set {l : List Reg} {m : Nat} {r r' : Reg} (h : l[m]? = some r) (hr : r'.rng = r.rng) :
    (l.set m r').map (·.rng) = l.map (·.rng) := by
  rw [List.map_set]
  exact set_getElem?_self (by rw [List.getElem?_map, h, hr]; rfl)

theorem deregister_rng (r : Reg) (a : Aid) (ty : Ty) : (r.deregister a ty).rng = r.rng := by
  unfold Reg.deregister
  split
  · split
    · rfl
    · split
      · simp only []
        split <;> rfl
      · rfl
  · rfl

theorem same_removeAgent (w : World) (a : Aid) : Same w (removeAgent w a) := by
  refine ⟨?_, handles_congr (removeAgent_sets w a)⟩
  unfold removeAgent
  cases hi : w.info[a]? with
  | none => rfl
  | some i =>
    simp only []
    cases hr : w.regs[i.model]? with
    | none => rfl
    | some r => exact map_rng_set hr (deregister_rng r a i.ty)

theorem same_createAgent (w : World) (m : Nat) (ty : Ty) (hold : Bool) (x : Payload) :
    Same w (createAgent w m ty hold x) := by
  refine ⟨?_, handles_congr (createAgent_sets w m ty hold x)⟩
  unfold createAgent
  cases hr : w.regs[m]? with
  | none => rfl
  | some r => exact map_rng_set hr rfl

theorem same_createN (w : World) (m : Nat) (ty : Ty) (hold : Bool) (xs : List Payload) : Same w (createN w m ty hold xs) :=
  foldl_inv (P := Same w) (.refl w) fun w' h x _ => h.trans (same_createAgent w' m ty hold x)

theorem same_walk (script : Aid → List Action) (arg : Nat) (w : World) (refs : List Aid) :
    Same w (walk script arg w refs) :=
  walk_inv (P := Same w) (fun _ _ h => h.trans ⟨rfl, rfl⟩)
    (fun a _ h x _ => runAction_inv (P := Same w) (fun w' b h => h.trans (same_removeAgent w' b))
      (fun w' m ty hold x h => h.trans (same_createAgent w' m ty hold x)) (fun _ _ h => h.trans ⟨rfl, rfl⟩)
      (fun _ _ hs h => h.trans ⟨rfl, hs.handles⟩) a h x) arg refs (.refl w)

theorem same_setRaw (w : World) (t : Target) (l : List Aid) : Same w (setRaw w t l) := by
  cases t with
  | all m | byType m ty =>
    simp only [setRaw]
    cases hr : w.regs[m]? with
    | none => exact .refl w
    | some r => exact ⟨map_rng_set hr rfl, rfl⟩
  | set k =>
    simp only [setRaw]
    cases hs : w.sets[k]? with
    | none => exact .refl w
    | some p => exact ⟨rfl, map_fst_set hs⟩

theorem setRng_gens (w : World) (m : Nat) (g : Rng) : gens (setRng w m g) = (gens w).set m g := by
  unfold setRng gens
  split
  · rename_i h
    rw [List.set_eq_of_length_le]
    simpa using List.getElem?_eq_none_iff.mp h
  · exact List.map_set

/-- the generators after one operation of the world: a new model brings its own; an in-place `shuffle`, a `shuffle_do`
    (raising callbacks or not) replaces the generator of the set's model by the state `Rng.shuffle` leaves; nothing else
    touches any generator -/
def gensAfter (w : World) : Op → List Rng
  | .newModel g => gens w ++ [g]
  | .shuffle t | .shuffleDo _ _ t | .shuffleDoX _ _ _ t =>
    (gens w).set (t.model w) (Rng.shuffle (members w t) (rngOf w t)).2
  | _ => gens w

theorem gensAfter_act {w : World} {op : Op} {a : (Aid → List Action) × Option Target} (h : op.act? = some a) :
    gensAfter w op = gens (shuffled w a.2) := by
  -- `shuffle_do` (raising or not) has re-seated the generator of the set's model (second arm); the other activations start from `w`
  cases op <;> cases h <;> first | rfl | exact (setRng_gens _ _ _).symm

theorem handles_shuffled (w : World) : ∀ t?, handles (shuffled w t?) = handles w
  | none => rfl
  | some _ => handles_congr (setRng_sets _ _ _)

theorem step_gens_handles (w : World) (op : Op) :
    gens (step w op) = gensAfter w op ∧ handles w <+: handles (step w op) := by
  have same : ∀ {w' : World}, Same w w' → gens w' = gens w ∧ handles w <+: handles w' :=
    fun h => ⟨h.gens, h.handles ▸ List.prefix_refl _⟩
  cases ha : op.act? with
  | some a =>
    obtain ⟨arg, refs, e⟩ := step_act (w := w) ha
    have hs := same_walk a.1 arg (shuffled w a.2) refs
    rw [e, hs.gens, hs.handles, gensAfter_act ha, handles_shuffled]
    exact ⟨rfl, List.prefix_refl _⟩
  | none =>
    cases op with
    | newModel g => exact ⟨by simp [step, newModel, gens, gensAfter, Reg.new], List.prefix_refl _⟩
    | create m ty hold x => exact same (same_createAgent w m ty hold x)
    | createN m ty hold xs => exact same (same_createN w m ty hold xs)
    | createAgents m ty hold n args => exact same (same_createN w m ty hold _)
    | remove a => exact same (same_removeAgent w a)
    | removeAll m =>
      simp only [step, removeAll, gensAfter]
      split
      · exact same (.refl w)
      · exact same (foldl_inv (P := Same w) (.refl w) fun w' h a _ => h.trans (same_removeAgent w' a))
    | unhold a => exact same ⟨rfl, rfl⟩
    | shuffle t =>
      have hr := same_setRaw w t (Rng.shuffle (members w t) (rngOf w t)).1
      simp only [step, shuffleInPlace, gensAfter]
      rw [setRng_gens, hr.gens, handles_congr (setRng_sets _ _ _), hr.handles]
      exact ⟨rfl, List.prefix_refl _⟩
    | sort t asc => exact same (same_setRaw w t _)
    | mkSet m l => exact ⟨rfl, [m], by simp [step, mkSet, handles]⟩
    | _ => cases ha

/-- **Only shuffles draw, whatever the callbacks do**: after any single operation of the world — creations,
    removals, `remove_all_agents`, in-place sorts, set constructions, and every activation (`do`, `map`, `GroupBy.do`,
    `GroupBy.map`, with callbacks that remove, create, edit sets or raise) — every model's generator is exactly what it was,
    except that a `shuffle` / `shuffle_do` leaves the generator of the set's model in the state after the one Fisher–Yates
    pass over the live members: the walk and the callbacks of `shuffle_do` draw nothing on top of it. -/
theorem C01_agents_only_shuffles_draw (w : World) (op : Op) : gens (step w op) = gensAfter w op :=
  (step_gens_handles w op).1

/-- `shuffle_do` (and the in-place `shuffle` it is equivalent to) on a set of `n` live members draws exactly `n - 1`
    numbers from the generator of the set's model, before the first callback runs, **and nothing more while the callbacks
    run**: after the whole `shuffle_do` — whatever the callbacks removed, created or edited, and whether or not one of them
    raised — the generators of all models are exactly those an in-place shuffle of the same set leaves (the set's model
    advanced by `n - 1` draws, every other model untouched); and the visiting order is a function of (ordered live members,
    those `n - 1` draws) only. -/
theorem C01_agents_shuffle_do_draws (w : World) (t : Target) (h : t.exists? w = true)
    (script : Aid → List Action) (raises : Aid → Bool) (arg : Nat) :
    (Rng.shuffle (members w t) (rngOf w t)).2.script = (rngOf w t).script.drop ((members w t).length - 1) ∧
    rngOf (shuffleInPlace w t) t = (Rng.shuffle (members w t) (rngOf w t)).2 ∧
    gens (shuffleDo script arg w t) = gens (shuffleInPlace w t) ∧
    gens (shuffleDoX script raises arg w t).1 = gens (shuffleInPlace w t) ∧
    gens (shuffleDo script arg w t) = (gens w).set (t.model w) (Rng.shuffle (members w t) (rngOf w t)).2 ∧
    (gens w)[t.model w]? = some (rngOf w t) ∧
    (∀ (w' : World) (t' : Target), members w' t' = members w t →
      (rngOf w' t').script.take ((members w t).length - 1) = (rngOf w t).script.take ((members w t).length - 1) →
      (Rng.shuffle (members w' t') (rngOf w' t')).1 = (Rng.shuffle (members w t) (rngOf w t)).1) := by
  have h1 := C01_agents_only_shuffles_draw w (.shuffle t)
  have h2 := C01_agents_only_shuffles_draw w (.shuffleDo script arg t)
  have h3 := C01_agents_only_shuffles_draw w (.shuffleDoX script raises arg t)
  simp only [step, gensAfter] at h1 h2 h3
  refine ⟨Rng.shuffle_script _ _, (shuffleInPlace_spec w t h).2, by rw [h1, h2], by rw [h1, h3], h2, ?_, fun w' t' hm hs => ?_⟩
  · have hm := Target.model_lt h
    simp [gens, rngOf, List.getElem?_eq_getElem hm]
  · rw [hm]
    exact Rng.shuffle_of_take _ _ _ hs

/-- **Every program-made set keeps the generator it was constructed with — over every history.**  Whatever happens
    afterwards (creations, removals, `remove_all_agents`, in-place shuffles and sorts of any set, every kind of activation
    with callbacks that remove, create, edit sets or raise, further sets being made), the `k`-th set still carries the
    generator of the same model; so a `shuffle` / `shuffle_do` of it keeps drawing from that model's seeded stream. -/
theorem C01_agents_sets_keep_their_generator (ops : List Op) (w : World) :
    handles w <+: handles (run w ops) ∧
    ∀ k m l, w.sets[k]? = some (m, l) → ∃ l', (run w ops).sets[k]? = some (m, l') ∧
      Target.model (run w ops) (.set k) = Target.model w (.set k) := by
  have hp : handles w <+: handles (run w ops) :=
    foldl_inv (P := fun w' => handles w <+: handles w') (List.prefix_refl _) fun w' h op _ =>
      h.trans (step_gens_handles w' op).2
  refine ⟨hp, fun k m l hk => ?_⟩
  obtain ⟨ext, he⟩ := hp
  have h1 : (handles (run w ops))[k]? = some m := by
    rw [← he, List.getElem?_append_left (by simpa [handles] using (List.getElem?_eq_some_iff.mp hk).1)]
    simp [handles, hk]
  simp only [handles, List.getElem?_map] at h1
  cases hr : (run w ops).sets[k]? with
  | none => simp [hr] at h1
  | some p =>
    obtain ⟨m', l'⟩ := p
    simp [hr] at h1
    subst h1
    exact ⟨l', rfl, by simp [Target.model, hr, hk]⟩

end Mesa.Agents

/-! ### non-vacuity -/

example : (Mesa.Rng.shuffle [1, 2, 3, 4, 5] ⟨[3, 1, 4, 1, 5, 9]⟩).2.script = [5, 9] ∧
    (Mesa.Rng.shuffle [1, 2, 3, 4, 5] ⟨[3, 1, 4, 1, 5, 9]⟩).1 = (Mesa.Rng.shuffle [1, 2, 3, 4, 5] ⟨[3, 1, 4, 1, 7]⟩).1 ∧
    (Mesa.Rng.shuffle [7] ⟨[3, 1]⟩) = ([7], ⟨[3, 1]⟩) := by decide +kernel

private def c01Store : Mesa.ASet.Store :=
  { pop := [⟨0, 0, [(0, 2)]⟩, ⟨1, 1, [(0, 1)]⟩, ⟨2, 2, [(0, 2)]⟩, ⟨3, 3, [(0, 1)]⟩], sets := [[0, 1, 2, 3]],
    rng := ⟨[3, 1, 4, 1, 5, 9, 2, 6]⟩ }

/-- shuffle of 4 (3 draws), a select and a sort (no draws), a shuffle of the selected 2 (1 draw): 4 draws in all -/
example : Mesa.ASet.drawsOf c01Store
    [.shuffle 0 false, .select 0 (some (.ge 0 2)) none .inf false, .sort 0 (.attr 0) true true, .shuffle 2 true] = 4 ∧
    ([Mesa.ASet.SOp.shuffle 0 false, .select 0 (some (.ge 0 2)) none .inf false, .sort 0 (.attr 0) true true,
      .shuffle 2 true].foldl Mesa.ASet.applyOp c01Store).rng.script = [5, 9, 2, 6] := by decide +kernel

/-- two models; a set made with model 1's generator keeps it through churn, an in-place shuffle and an activation -/
example : Mesa.Agents.handles (Mesa.Agents.run Mesa.Agents.World.empty
    [.newModel ⟨[1, 2]⟩, .newModel ⟨[3, 4]⟩, .create 0 0 true [], .create 1 0 true [], .mkSet 1 [0, 1], .mkSet 0 [1],
     .shuffle (.set 0), .doSet (fun a => if a = 0 then [.discardFrom 0 1, .rm 1] else []) 3 (.set 0), .remove 0]) = [1, 0] := by
  decide +kernel

/-- `shuffle_do` over 3 agents of model 0 whose callbacks create agents in model 1 and remove themselves: model 0's generator
    has advanced by 2 draws, model 1's by none; a `do` and a `GroupBy.do` afterwards leave both where they are -/
example : Mesa.Agents.gens (Mesa.Agents.run Mesa.Agents.World.empty
    [.newModel ⟨[1, 2, 3]⟩, .newModel ⟨[3, 4]⟩, .create 0 0 true [], .create 0 0 true [], .create 0 0 true [],
     .shuffleDo (fun _ => [.create 1 0 1 true, .rmSelf]) 3 (.all 0), .doSet (fun _ => [.create 0 1 1 false]) 1 (.all 1),
     .groupDo (fun _ => []) 1 .ty (.all 0)]) = [⟨[3]⟩, ⟨[3, 4]⟩] := by decide +kernel
