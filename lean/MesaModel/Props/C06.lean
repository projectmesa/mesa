import MesaModel.Proofs.CellDyn
import MesaModel.Proofs.CellCollection
import MesaModel.Proofs.CellHexMove
import MesaModel.Proofs.CellExact
/-!
# C06 — cell spaces: `agent.cell` and `cell.agents` mirror each other; capacity; emptiness views

Property theorems, the notion `Reachable` they are stated over with its closure lemmas, and the induction behind
`C06_clear_cell` (model: `Model/CellSpace.lean`, `Model/CellCollection.lean`; helper lemmas:
`Proofs/Cell{Space,Spaces,Dyn,Collection,HexMove,Exact}.lean`).

`Reachable sp s`: `s` is the occupancy state and `sp` the space (with its connections as they are now) after
*any* finite history, started on any well-formed freshly built space, of operations (creating CellAgents /
FixedAgents / Grid2DMovingAgents, `a.cell = c`, `a.cell = None`, `move_to`, `move_relative`,
`Grid2DMovingAgent.move`, `remove`, switching the empty-cell search strategy, `select_random_empty_cell`,
`select_random_cell`) — accepted and rejected calls alike, with any arguments (unknown agents, coordinates
that are no cell, missing directions, full cells, …) — *interleaved with connection edits*
(`Cell.connect(other, key)` / `Cell.disconnect(other)` on cells of the space, after construction) *and capacity writes*
(`cell.capacity = k`, k an int ≥ 0 or None, by hand: `DOp.setCap`; the occupants of the cell stay, also when there are more
than k of them — so "never more agents than the capacity" is NOT an invariant of these histories; what is: a cell never
*accepts* an agent while it holds capacity-many or more, `C06_capacity`).
`SpaceOK sp` holds for every grid (Moore / von Neumann in any dimension, hex), every `Network` and
every `VoronoiGrid` of the model (`C06_spaces_wellformed`) and is kept by every edit.
-/
namespace Mesa.Cells

/-- states reachable from a freshly built well-formed space by any history of agent operations, connection
    edits and capacity writes; `sp` is the space as the edits left it -/
def Reachable (sp : Space) (s : State) : Prop :=
  ∃ (sp0 : Space) (ops : List DOp), SpaceOK sp0 ∧ drun sp0 (init sp0) ops = (sp, s)

theorem reachable_inv {sp : Space} (_hsp : SpaceOK sp) {s : State} (h : Reachable sp s) : Inv sp s := by
  obtain ⟨sp0, ops, hsp0, he⟩ := h
  have := (drun_inv hsp0 (inv_init sp0) ops).2.1
  rw [he] at this
  exact this

theorem Reachable.step {sp : Space} {s : State} (h : Reachable sp s) (op : Op) :
    Reachable sp (step sp s op).1 := by
  obtain ⟨sp0, ops, hsp0, he⟩ := h
  refine ⟨sp0, ops ++ [.op op], hsp0, ?_⟩
  rw [drun_append, he]
  rfl

/-- a history without connection edits on a well-formed space -/
theorem reachable_of_run {sp : Space} (hsp : SpaceOK sp) (ops : List Op) : Reachable sp (run sp (init sp) ops) :=
  ⟨sp, ops.map .op, hsp, drun_ops sp (init sp) ops⟩

/-- All space types of the model are well-formed: grids of every kind, dimension vector, torus flag and
    capacity (hex: 2-D), networks on any edge list over nodes 0..n-1 (directed or not), Voronoi grids on
    any triangle list over n centroids — with a constant capacity or with the default, area-based one. -/
theorem C06_spaces_wellformed :
    (∀ k dims torus cap, (k = GridKind.hex → dims.length = 2) → SpaceOK (gridSpace k dims torus cap)) ∧
    (∀ directed n edges cap, (∀ e ∈ edges, e.1 < n ∧ e.2 < n) → SpaceOK (netSpace directed n edges cap)) ∧
    (∀ n tris cap, (∀ t ∈ tris, t.1 < n ∧ t.2.1 < n ∧ t.2.2 < n) → SpaceOK (vorSpace n tris cap)) ∧
    (∀ n tris areas, (∀ t ∈ tris, t.1 < n ∧ t.2.1 < n ∧ t.2.2 < n) → SpaceOK (vorSpaceAreas n tris areas)) :=
  ⟨fun k dims torus cap hk => gridSpace_ok k dims torus cap hk,
   fun d n e cap he => netSpace_ok d n e cap he, fun n t cap ht => vorSpace_ok n t cap ht,
   fun n t ar ht => vorSpaceAreas_ok n t ar ht⟩

/-- Mirror: after any history, for every agent still in the model, the agent reports cell `c` iff `c` lists
    it; it is listed at most once there; and no other cell lists it.  (For *every* agent, in the model or
    not: a listed agent reports the cell that lists it.) -/
theorem C06_mirror {sp : Space} (hsp : SpaceOK sp) {s : State} (h : Reachable sp s) (a : Aid) :
    (a ∈ s.registry → ∀ c, s.cellOf a = some c ↔ a ∈ s.occ c) ∧
    (∀ c, (s.occ c).count a ≤ 1) ∧
    (∀ c c', a ∈ s.occ c → a ∈ s.occ c' → c = c') ∧
    (∀ c, a ∈ s.occ c → s.cellOf a = some c ∧ c ∈ sp.cells) := by
  have hi := reachable_inv hsp h
  refine ⟨fun hr c => ⟨fun hc => ?_, hi.mem_cell a c⟩, fun c => ?_, fun c c' h1 h2 => ?_, fun c hm => ?_⟩
  · exact hi.registered_mem hr hc
  · exact List.nodup_iff_count.mp (hi.nodup c) a
  · exact Option.some.inj ((hi.mem_cell a c h1).symm.trans (hi.mem_cell a c' h2))
  · exact ⟨hi.mem_cell a c hm, hi.occ_cells a c hm⟩

/-- Capacity, for capacities the program may rewrite (`cell.capacity = k`).
    (1) *Acceptance* — after any history (capacity writes of every kind included), whatever operation comes next: a cell
    with capacity k (0 included, repair SC3) ends up with at most k agents or with at most as many as it held; so a cell
    that holds capacity-many agents or more (exactly when `add_agent` refuses: `fullFor`) never gains one, and a cell
    below its capacity never goes above it.
    (2) *Bound* — along a history that never lowers a capacity under the occupancy the cell has at that moment
    (`CapRespecting`: raising, lifting to None, lowering down to the number of occupants are all allowed; a history without
    capacity writes is the special case) every cell with capacity k holds at most k agents, at the end and hence throughout.
    (The bound is not an invariant of all histories: `cell.capacity = 1` on a cell holding two leaves two — see the examples.) -/
theorem C06_capacity :
    (∀ {sp : Space}, SpaceOK sp → ∀ {s : State}, Reachable sp s → ∀ (op : Op) (c : Cid) (k : Nat), sp.cap c = some k →
      (((step sp s op).1.occ c).length ≤ k ∨ ((step sp s op).1.occ c).length ≤ (s.occ c).length) ∧
      (fullFor sp s c = true → ((step sp s op).1.occ c).length ≤ (s.occ c).length) ∧
      ((s.occ c).length ≤ k → ((step sp s op).1.occ c).length ≤ k)) ∧
    (∀ {sp0 : Space}, SpaceOK sp0 → ∀ (ops : List DOp), CapRespecting sp0 (init sp0) ops = true → ∀ (c : Cid) (k : Nat),
      (drun sp0 (init sp0) ops).1.cap c = some k → ((drun sp0 (init sp0) ops).2.occ c).length ≤ k) := by
  constructor
  · intro sp hsp s h op c k hk
    have hg := (step_invB hsp.closed (reachable_inv hsp h) op).cap c k hk
    refine ⟨hg, fun hf => ?_, fun hle => ?_⟩
    · obtain ⟨n, hn, hle⟩ := (fullFor_iff sp s c).mp hf
      rw [hk] at hn
      simp only [Option.some.injEq] at hn
      omega
    · omega
  · intro sp0 hsp0 ops hr c k hk
    have := (drun_inv0 hsp0 (inv_init sp0) ops hr).cap c k hk
    omega

/-- What a capacity write does (`space[c].capacity = k`, k an int or None): on a cell of the space it is accepted and changes
    that cell's capacity and nothing else — the other capacities, the cells, the connections, the kind of the space and the
    whole occupancy state (the occupants stay, also when they are more than k) —; on a coordinate that is no cell `space[c]`
    raises KeyError and nothing changes.  `add_agent` / `is_full` read the new value from then on (`fullFor`, `isFull` take
    the space as it is now). -/
theorem C06_capacity_write (sp : Space) (s : State) (c : Cid) (k : Option Nat) :
    (c ∈ sp.cells → (dstep sp s (.setCap c k)).2 = .ok ∧ (dstep sp s (.setCap c k)).1.1.cap c = k ∧
      (∀ c', c' ≠ c → (dstep sp s (.setCap c k)).1.1.cap c' = sp.cap c')) ∧
    (c ∉ sp.cells → (dstep sp s (.setCap c k)).2 = .err .key ∧ (dstep sp s (.setCap c k)).1.1.cap = sp.cap) ∧
    (dstep sp s (.setCap c k)).1.2 = s ∧ (dstep sp s (.setCap c k)).1.1.cells = sp.cells ∧
    (dstep sp s (.setCap c k)).1.1.conn = sp.conn ∧ (dstep sp s (.setCap c k)).1.1.isGrid = sp.isGrid := by
  refine ⟨fun hc => ?_, fun hc => ?_, rfl, (dstep_same s _).1, editSp_conn_setCap sp c k, (dstep_same s _).2.1⟩
  · simp only [dstep, editSp, hc, if_true, setCapSp, upd_same]
    exact ⟨trivial, trivial, fun c' hc' => upd_other _ _ _ hc'⟩
  · simp only [dstep, editSp, hc, if_false]
    exact ⟨trivial, trivial⟩

/-- The default `capacity_function` of `VoronoiGrid` (`round_float`): the i-th cell, of exact area `num/den`, gets
    the capacity `k = int(500 · area)`, i.e. `k ≤ 500 · num/den < k + 1`, whatever `capacity` was passed to the
    constructor; and after any history that leaves the capacities alone the cell holds at most `k` agents (each cell its own
    bound; `k = 0`: nobody). -/
theorem C06_voronoi_default_capacity (n : Nat) (tris : List (Nat × Nat × Nat)) (areas : List (Nat × Nat))
    (ht : ∀ t ∈ tris, t.1 < n ∧ t.2.1 < n ∧ t.2.2 < n) (i num den : Nat) (ha : areas[i]? = some (num, den)) (hd : 0 < den) :
    (vorSpaceAreas n tris areas).cap [(i : Int)] = some (roundFloat num den) ∧
    roundFloat num den * den ≤ 500 * num ∧ 500 * num < (roundFloat num den + 1) * den ∧
    (∀ ops : List Op, ((run (vorSpaceAreas n tris areas) (init (vorSpaceAreas n tris areas)) ops).occ [(i : Int)]).length
      ≤ roundFloat num den) := by
  have hcap : (vorSpaceAreas n tris areas).cap [(i : Int)] = some (roundFloat num den) := by
    simp [vorSpaceAreas, ha]
  refine ⟨hcap, (roundFloat_spec num den hd).1, (roundFloat_spec num den hd).2, fun ops => ?_⟩
  have := (run_invB (B := fun _ => 0) (vorSpaceAreas_ok n tris areas ht).closed (inv_init _) ops).cap _ _ hcap
  omega

/-- Emptiness views agree with the truth after any history: `is_empty` is "no agents"; `add_agent` refuses (`fullFor`)
    exactly when the cell has a capacity k (0 included) and holds k agents or more; `is_full` (`len == capacity`) implies
    "refuses", and the two differ exactly on an over-full cell (more occupants than the capacity — possible only after the
    program lowered `cell.capacity` under the occupancy): wherever the occupancy is within the capacity, `is_full` ⇔
    "`add_agent` would refuse" (every capacity: None, 0, k); on a grid the `empty` property layer / `cell.empty`
    holds `is_empty` for every cell; `empties` is the list of cells without agents; `space.agents` is the
    cells' agent lists chained — duplicate-free, containing exactly the listed agents, among them every
    agent still in the model that reports a cell. -/
theorem C06_views {sp : Space} (hsp : SpaceOK sp) {s : State} (h : Reachable sp s) :
    (∀ c, isEmpty s c = true ↔ s.occ c = []) ∧
    (∀ c, (fullFor sp s c = true ↔ ∃ k, sp.cap c = some k ∧ k ≤ (s.occ c).length) ∧
      (isFull sp s c = true → fullFor sp s c = true) ∧
      (fullFor sp s c = true ∧ isFull sp s c = false ↔ ∃ k, sp.cap c = some k ∧ k < (s.occ c).length) ∧
      ((∀ k, sp.cap c = some k → (s.occ c).length ≤ k) → isFull sp s c = fullFor sp s c)) ∧
    (sp.isGrid = true → ∀ c, s.flag c = some (isEmpty s c)) ∧
    (∀ c, c ∈ empties sp s ↔ c ∈ sp.cells ∧ s.occ c = []) ∧
    (spaceAgents sp s = sp.cells.flatMap s.occ ∧ (spaceAgents sp s).Nodup) ∧
    (∀ a, a ∈ spaceAgents sp s ↔ ∃ c, a ∈ s.occ c) ∧
    (∀ a c, a ∈ s.registry → s.cellOf a = some c → a ∈ spaceAgents sp s) := by
  have hi := reachable_inv hsp h
  have hsa := spaceAgents_eq hsp hi
  have hmem : ∀ a, a ∈ spaceAgents sp s ↔ ∃ c, a ∈ s.occ c := by
    intro a
    rw [hsa, List.mem_flatMap]
    constructor
    · rintro ⟨c, _, hm⟩
      exact ⟨c, hm⟩
    · rintro ⟨c, hm⟩
      exact ⟨c, hi.occ_cells a c hm, hm⟩
  refine ⟨fun c => by simp [isEmpty], fun c => ?_, fun hg c => ?_, fun c => ?_, ⟨hsa, ?_⟩, hmem,
    fun a c hr hc => ?_⟩
  · refine ⟨fullFor_iff sp s c, ?_⟩
    cases hk : sp.cap c with
    | none => simp [isFull, fullFor, hk]
    | some k =>
      refine ⟨?_, ?_, fun hb => ?_⟩
      · simp [isFull, fullFor, hk]
        omega
      · simp [isFull, fullFor, hk]
        omega
      · have := hb k rfl
        rw [Bool.eq_iff_iff]
        simp [isFull, fullFor, hk]
        omega
  · rcases hi.flag c with h1 | ⟨h1, _⟩
    · exact h1
    · rw [hg] at h1
      simp at h1
  · simp [empties, isEmpty]
  · rw [hsa]
    exact flatMap_occ_nodup hi hsp.nodup
  · rw [hmem]
    exact ⟨c, hi.registered_mem hr hc⟩

/-- `select_random_empty_cell` (both search strategies, any draw script, at *any* state) changes nothing
    and, whenever it returns, returns a cell of the space that holds no agent. -/
theorem C06_select_random_empty_cell (sp : Space) (s : State) (draws : List Nat) :
    (step sp s (.randEmpty draws)).1 = s ∧
    ∀ c, (step sp s (.randEmpty draws)).2 = .okCell c → c ∈ sp.cells ∧ s.occ c = [] := by
  simp only [step]
  split
  · exact ⟨rfl, fun c hc => (tryRandomLoop_ok hc).imp_right fun he => by simpa [isEmpty] using he⟩
  · exact ⟨rfl, fun c hc => by simpa [empties, isEmpty] using choice_ok_mem hc⟩

/-- Removing an agent from the model takes it out of its cell: after any history, a `remove()` that returns
    leaves the agent in no cell's list and not in the model; and `remove()` of a CellAgent /
    Grid2DMovingAgent always returns. -/
theorem C06_remove_leaves_cell {sp : Space} (hsp : SpaceOK sp) {s : State} (h : Reachable sp s) (a : Aid) :
    ((step sp s (.remove a)).2 = .ok →
      (∀ c, a ∉ (step sp s (.remove a)).1.occ c) ∧ a ∉ (step sp s (.remove a)).1.registry) ∧
    (∀ k, s.kinds[a]? = some k → k ≠ .fixed → (step sp s (.remove a)).2 = .ok) := by
  have hi := reachable_inv hsp h
  refine ⟨fun hok => ?_, fun k hk hfix => step_remove_mobile_ok hi hk hfix⟩
  obtain ⟨hocc, hreg⟩ := step_remove_ok hi hok
  refine ⟨fun c hm => ?_, fun hm => ?_⟩
  · rw [hocc] at hm
    exact ((hi.nodup c).mem_erase_iff.mp hm).1 rfl
  · rw [hreg] at hm
    exact (hi.reg_nodup.mem_erase_iff.mp hm).1 rfl


/-- `Grid2DMovingAgent.DIRECTION_MAP` as the source has it now (AST literal = the running class attribute):
    every name maps to a Moore offset, the cardinal names to the unit steps of the row/column convention
    (`up` decreases the first coordinate), and opposite names to opposite vectors. -/
theorem C06_direction_map_generated :
    Gen.directionMap = Gen.directionProbe ∧
    (∀ p ∈ Gen.directionMap, [p.2.1, p.2.2] ∈ mooreOffsets 2) ∧
    dirVec "up" = some [-1, 0] ∧ dirVec "Down" = some [1, 0] ∧ dirVec "LEFT" = some [0, -1] ∧
    dirVec "right" = some [0, 1] ∧ dirVec "back" = none ∧
    (∀ p ∈ [("n", "s"), ("e", "w"), ("ne", "sw"), ("nw", "se"), ("north", "south"),
        ("east", "west"), ("up", "down"), ("left", "right"), ("upleft", "downright"), ("upright", "downleft"),
        ("northeast", "southwest"), ("northwest", "southeast")],
      (dirVec p.1).map negv = dirVec p.2) := by
  refine ⟨gen_directions.1, gen_directions.2, by decide +kernel, by decide +kernel, by decide +kernel, by decide +kernel,
    by decide +kernel, by decide +kernel⟩

/-- The bookkeeping behind the theorems above, for every history: the full invariant of the model. -/
theorem C06_invariant_all_histories {sp : Space} (hsp : SpaceOK sp) (ops : List Op) :
    Inv sp (run sp (init sp) ops) := (run_invB (B := fun _ => 0) hsp.closed (inv_init sp) ops).toInv

/-- Connection edits (`Cell.connect` / `Cell.disconnect`) and capacity writes (`cell.capacity = k`) after construction:
    for every history of agent operations interleaved with them, on every well-formed space, the edited space is still
    well-formed (its connections lead to its own cells), it has the cells and kind it was built with — and the capacities it
    was built with if the history writes none (what a write changes: `C06_capacity_write`) —, the occupancy
    state is `Reachable` (so every theorem of this file holds for it, with relative moves following the edited
    connections and placements asking the capacities as they are now) and satisfies the full invariant; histories without
    edits are the special case.  (An edit never touches the occupancy state — by construction of `dstep`; the check compares
    the full observation, capacities included, after every capacity write and after the next operation.) -/
theorem C06_histories_with_connection_edits {sp0 : Space} (hsp0 : SpaceOK sp0) (ops : List DOp) :
    let r := drun sp0 (init sp0) ops
    SpaceOK r.1 ∧ Reachable r.1 r.2 ∧ Inv r.1 r.2 ∧
    r.1.cells = sp0.cells ∧ ((∀ o ∈ ops, o.isSetCap = false) → r.1.cap = sp0.cap) ∧ r.1.isGrid = sp0.isGrid ∧
    (∀ l : List Op, drun sp0 (init sp0) (l.map .op) = (sp0, run sp0 (init sp0) l)) := by
  obtain ⟨h1, h2, h3, h4, h5⟩ := drun_inv hsp0 (inv_init sp0) ops
  exact ⟨h1, ⟨sp0, ops, hsp0, rfl⟩, h2, h3, h5, h4, fun l => drun_ops sp0 (init sp0) l⟩

/-- `Grid2DMovingAgent` direction names on a `HexGrid` (tables and `DIRECTION_MAP` as the source has them now):
    the connection keys of a hex cell depend on the parity of its column `j = coordinate[1]`, so
    (1) the cardinal names (n/s/e/w and synonyms) name a key at every cell, the names with a row step of −1 combined
    with a column step (ne, nw, …) only in odd columns, those with a row step of +1 (se, sw, …) only in even columns;
    (2) `move_relative(d)` / one step of `move` from cell (i, j) finds a cell iff `d` is in the table of j's parity
    and the target — wrapped on a torus — is in bounds, and then it is that target;
    (3) on a hex grid without wrapping a diagonal name never carries two steps (each diagonal step changes the
    column parity): `move(name, k)` with k ≥ 2 raises "No cell in direction" from every cell and changes nothing. -/
theorem C06_hex_direction_names :
    (∀ j : Int, ∀ p ∈ Gen.directionMap,
      ((p.2.1, p.2.2) ∈ hexTable j ↔
        (p.2.1 = 0 ∨ p.2.2 = 0) ∨ (j % 2 ≠ 0 ∧ p.2.1 = -1) ∨ (j % 2 = 0 ∧ p.2.1 = 1))) ∧
    (∀ (h w : Nat) (torus : Bool) (cap : Option Nat) (i j : Int) (d : Key) (c' : Cid),
      connGet (gridSpace .hex [h, w] torus cap) [i, j] d = some c' ↔
        ∃ di dj ni nj, d = [di, dj] ∧ c' = [ni, nj] ∧ (di, dj) ∈ hexTable j ∧
          connect2d h w torus i j di dj = some (ni, nj)) ∧
    (∀ (h w : Nat) (cap : Option Nat) (s : State) (a : Aid) (name : String) (k : Int) (di dj : Int) (c : Cid),
      s.kinds[a]? = some .grid2d → dirVec name = some [di, dj] → di ≠ 0 → dj ≠ 0 → 2 ≤ k → s.cellOf a = some c →
      step (gridSpace .hex [h, w] false cap) s (.gridMove a name k) = (s, .err .noCell)) := by
  refine ⟨fun j => ?_, fun h w torus cap i j d c' => ?_, fun h w cap s a name k di dj c hk hd hi hj h2 hc => ?_⟩
  · -- with the parity of `j` fixed, both sides are closed statements about the entries of the map
    rcases Int.emod_two_eq j with h | h
    · simp only [mem_hexTable, h]
      decide +kernel
    · simp only [mem_hexTable, h]
      decide +kernel
  · exact connGet_hex h w torus cap i j d c'
  · have hk2 : k.toNat = (k.toNat - 2) + 2 := by omega
    have hw := hex_diag_walk h w cap [di, dj] di dj rfl hi hj (k.toNat - 2) c
    rw [← hk2] at hw
    have hk0 : ¬ k ≤ 0 := by omega
    simp only [step, hk, hd, hk0, if_false, hc, hw]

/-! ### the `CellCollection` API (`all_cells`, `empties`, neighbourhoods, selections) -/

/-- The agent views of a collection mirror `agent.cell`: after any history, for every collection of distinct
    cells — `all_cells`, `empties`, every (memoised) neighbourhood at every radius, every selection out of these —
    `coll.agents` is the cells' agent lists *as they are now*, lists nobody twice, lists exactly the agents listed
    by a cell of the collection, i.e. (for agents still in the model) exactly those whose `cell` is in the
    collection; `coll[cell]` answers only for cells of the collection, with a duplicate-free list of agents that all
    report that cell and all belong to `coll.agents`. -/
theorem C06_collection_views {sp : Space} (hsp : SpaceOK sp) {s : State} (h : Reachable sp s) :
    (∀ cells : Coll, cells.Nodup →
      (collAgents s cells).Nodup ∧
      (∀ a, a ∈ collAgents s cells ↔ ∃ c ∈ cells, a ∈ s.occ c) ∧
      (∀ a, a ∈ s.registry → (a ∈ collAgents s cells ↔ ∃ c ∈ cells, s.cellOf a = some c)) ∧
      (∀ c l, collGet s cells c = some l →
        c ∈ cells ∧ l.Nodup ∧ ∀ a ∈ l, s.cellOf a = some c ∧ a ∈ collAgents s cells)) ∧
    (sp.cells.Nodup ∧ (empties sp s).Nodup ∧
      (∀ r ic c, (nbhd (nbOfConn sp.conn) r ic c).Nodup) ∧
      (∀ f am (cells : Coll), cells.Nodup → (select f am cells).Nodup)) := by
  have hi := reachable_inv hsp h
  refine ⟨fun cells hnd => ⟨flatMap_occ_nodup hi hnd, mem_collAgents s cells, fun a hr => ?_, fun c l hg => ?_⟩,
    hsp.nodup, hsp.nodup.filter _, fun r ic c => nbhd_nodup _ r ic c,
    fun f am cells hnd => (select_sublist f am cells).nodup hnd⟩
  · rw [mem_collAgents]
    constructor
    · rintro ⟨c, hc, hm⟩
      exact ⟨c, hc, hi.mem_cell a c hm⟩
    · rintro ⟨c, hc, hco⟩
      exact ⟨c, hc, hi.registered_mem hr hco⟩
  · unfold collGet at hg
    split at hg
    · rename_i hc
      simp only [Option.some.injEq] at hg
      subst hg
      exact ⟨hc, hi.nodup c, fun a ha => ⟨hi.mem_cell a c ha, (mem_collAgents s cells a).mpr ⟨c, hc, ha⟩⟩⟩
    · cases hg

/-- `select(filter_func, at_most)` on any collection, for every filter function and every bound: the result is
    the matching cells in the collection's order, cut after the first `limit` of them, where `limit` (`AtMost.limit`)
    is the int itself (nothing for an int ≤ 0), `int(len * at_most)` for a float ≤ 1 and the float rounded up above 1;
    so it is a sub-collection in the same order, every cell in it passes the filter, it never holds more than `limit`
    cells, without a bound it holds *every* matching cell; and `space.empties` is `all_cells.select(is_empty)`. -/
theorem C06_select_spec (f : Option (Cid → Bool)) (am : AtMost) (cells : Coll) :
    (select f am cells = match am.limit cells.length with
      | none => cells.filter (selFilter f)
      | some l => (cells.filter (selFilter f)).take l) ∧
    (select f am cells).Sublist cells ∧
    (∀ c ∈ select f am cells, c ∈ cells ∧ selFilter f c = true) ∧
    (∀ l, am.limit cells.length = some l → (select f am cells).length ≤ l) ∧
    (∀ c, c ∈ select f .inf cells ↔ c ∈ cells ∧ selFilter f c = true) ∧
    (∀ sp s, empties sp s = select (some (isEmpty s)) .inf sp.cells) := by
  refine ⟨select_eq f am cells, select_sublist f am cells, fun c hc => select_mem_filter f am cells hc,
    fun l hl => select_length_le f am cells hl, fun c => ?_, fun sp s => ?_⟩
  · rw [select_eq]
    simp [AtMost.limit, List.mem_filter]
  · rw [select_eq]
    simp [AtMost.limit, empties, selFilter]

/-- `select_random_cell` / `select_random_agent` on any collection (C01: which draws, over which population):
    the population is the collection's cell list / its chained agent lists, in order; on an empty population
    IndexError is raised and no draw is made; otherwise exactly one draw `d` is consumed — whatever else the
    generator holds — and the element at position `d % len` is returned; a selected agent is listed by a cell
    of the collection and (after any history) reports that cell. -/
theorem C06_select_random_spec {sp : Space} (hsp : SpaceOK sp) {s : State} (h : Reachable sp s) (cells : Coll)
    (draws : List Nat) :
    (selectRandomCell cells draws = .err .index ↔ cells = []) ∧
    (selectRandomAgent s cells draws = .err .index ↔ collAgents s cells = []) ∧
    (∀ c pos used, selectRandomCell cells draws = .ok c pos used →
      used = 1 ∧ cells[pos]? = some c ∧ c ∈ cells ∧ ∃ d ds, draws = d :: ds ∧ pos = d % cells.length) ∧
    (∀ a pos used, selectRandomAgent s cells draws = .ok a pos used →
      used = 1 ∧ (collAgents s cells)[pos]? = some a ∧
      (∃ d ds, draws = d :: ds ∧ pos = d % (collAgents s cells).length) ∧
      ∃ c ∈ cells, a ∈ s.occ c ∧ s.cellOf a = some c) ∧
    (∀ d ds, cells ≠ [] → ∃ c, selectRandomCell cells (d :: ds) = .ok c (d % cells.length) 1) ∧
    (∀ d ds, collAgents s cells ≠ [] →
      ∃ a, selectRandomAgent s cells (d :: ds) = .ok a (d % (collAgents s cells).length) 1) := by
  have hi := reachable_inv hsp h
  refine ⟨pick_err_index, pick_err_index, fun c pos used hp => pick_ok hp, fun a pos used hp => ?_,
    fun d ds hne => ?_, fun d ds hne => ?_⟩
  · obtain ⟨h1, h2, h3, h4⟩ := pick_ok hp
    obtain ⟨c, hc, hm⟩ := (mem_collAgents s cells a).mp h3
    exact ⟨h1, h2, h4, c, hc, hm, hi.mem_cell a c hm⟩
  · obtain ⟨x, _, hx⟩ := pick_cons hne d ds
    exact ⟨x, hx⟩
  · obtain ⟨x, _, hx⟩ := pick_cons hne d ds
    exact ⟨x, hx⟩

/-- `cell.empty` on a space that is not a grid (`Network`, `VoronoiGrid`: no property layer, a plain instance attribute
    written by `add_agent` / `remove_agent`): after any history it either does not exist yet — then the cell has never been
    entered and is empty — or holds `is_empty`. -/
theorem C06_cell_empty_attribute {sp : Space} (hsp : SpaceOK sp) {s : State} (h : Reachable sp s) (c : Cid) :
    (s.flag c = none → sp.isGrid = false ∧ s.occ c = []) ∧
    (∀ b, s.flag c = some b → b = isEmpty s c) := by
  have hi := reachable_inv hsp h
  rcases hi.flag c with h1 | ⟨h1, h2, h3⟩
  · rw [h1]
    exact ⟨fun hn => (nomatch hn), fun b hb => (Option.some.inj hb).symm⟩
  · rw [h2]
    exact ⟨fun _ => ⟨h1, h3⟩, fun b hb => nomatch hb⟩

/-! ### exact outcomes (what a placing call does, and exactly when it is refused) -/

/-- `a.cell = space[c]` (= `a.move_to(space[c])`) for a CellAgent / Grid2DMovingAgent, after any history, for any cell of the
    space: it is refused — "Cell is full", nothing changed — **iff** `c` is not the agent's own cell and `c` has a capacity
    `n` and holds `n` agents or more (more: only after `cell.capacity` was lowered under the occupancy; so never for capacity
    `None`, always for capacity 0, and never when re-entering the own, possibly full or over-full, cell: repair SC4); otherwise it returns, the agent reports `c`, `c`'s list is its old list without the agent plus
    the agent at the end, every other list is the old one without the agent (only the cell left changes), no other agent's
    cell changes and the model's registry is untouched. -/
theorem C06_assignment_exact {sp : Space} (hsp : SpaceOK sp) {s : State} (h : Reachable sp s) (a : Aid) (k : AKind)
    (hk : s.kinds[a]? = some k) (hmob : k ≠ .fixed) (c : Cid) (hc : c ∈ sp.cells) :
    (step sp s (.moveTo a c) = step sp s (.setCell a (some c))) ∧
    ((step sp s (.setCell a (some c))).2 = .err .full ↔
      s.cellOf a ≠ some c ∧ ∃ n, sp.cap c = some n ∧ n ≤ (s.occ c).length) ∧
    ((step sp s (.setCell a (some c))).2 = .err .full → (step sp s (.setCell a (some c))).1 = s) ∧
    ((step sp s (.setCell a (some c))).2 ≠ .err .full →
      (step sp s (.setCell a (some c))).2 = .ok ∧
      (step sp s (.setCell a (some c))).1.cellOf a = some c ∧
      (step sp s (.setCell a (some c))).1.occ c = (s.occ c).erase a ++ [a] ∧
      (∀ c', c' ≠ c → (step sp s (.setCell a (some c))).1.occ c' = (s.occ c').erase a) ∧
      (∀ b, b ≠ a → (step sp s (.setCell a (some c))).1.cellOf b = s.cellOf b) ∧
      (step sp s (.setCell a (some c))).1.registry = s.registry ∧
      (step sp s (.setCell a (some c))).1.kinds = s.kinds) := by
  have hi := reachable_inv hsp h
  have hset : step sp s (.setCell a (some c)) = setCellMobile sp s a (some c) := by
    simp only [step, hk, hc, if_true, setCell_mobile hmob]
  rw [step_moveTo hk hmob, hset, setCellMobile_some fun o ho => hi.mobile_mem hk hmob ho, ← fullFor_iff]
  refine ⟨rfl, ?_⟩
  by_cases hr : s.cellOf a ≠ some c ∧ fullFor sp s c = true
  · rw [if_pos hr]
    exact ⟨⟨fun _ => hr, fun _ => rfl⟩, fun _ => rfl, fun hx => absurd rfl hx⟩
  · rw [if_neg hr]
    refine ⟨⟨fun hx => (nomatch hx), fun hx => absurd hx hr⟩, fun hx => (nomatch hx), fun _ => ?_⟩
    refine ⟨rfl, upd_same _ _ _, ?_, fun c' hc' => ?_, fun b hb => ?_, leave_registry s a, leave_kinds s a⟩
    · simp only [place, upd_same, leave_occ hi]
    · simp only [place, upd_other _ _ _ hc', leave_occ hi]
    · simp only [place, upd_other _ _ _ hb, leave_cellOf]

/-- `a.cell = None` on a mobile agent, after any history: always accepted; the agent reports no cell and is in no list,
    every list is the old one without the agent, nobody else is touched.  `FixedAgent`: `a.cell = space[c]` is refused with
    "Cannot move agent in FixedCell" iff the agent has ever been placed (also after its `remove()`), else with "Cell is
    full" iff the cell holds as many agents as its capacity `n` or more, and accepted iff neither applies (no third refusal): then
    the agent is appended to the cell's list. -/
theorem C06_unplace_and_fixed_exact {sp : Space} (hsp : SpaceOK sp) {s : State} (h : Reachable sp s) (a : Aid) (k : AKind)
    (hk : s.kinds[a]? = some k) :
    (k ≠ .fixed →
      (step sp s (.setCell a none)).2 = .ok ∧ (step sp s (.setCell a none)).1.cellOf a = none ∧
      (∀ c, (step sp s (.setCell a none)).1.occ c = (s.occ c).erase a ∧ a ∉ (step sp s (.setCell a none)).1.occ c) ∧
      (∀ b, b ≠ a → (step sp s (.setCell a none)).1.cellOf b = s.cellOf b) ∧
      (step sp s (.setCell a none)).1.registry = s.registry) ∧
    (k = .fixed → ∀ c, c ∈ sp.cells →
      ((step sp s (.setCell a (some c))).2 = .err .fixed ↔ s.cellOf a ≠ none) ∧
      ((step sp s (.setCell a (some c))).2 = .err .full ↔
        s.cellOf a = none ∧ ∃ n, sp.cap c = some n ∧ n ≤ (s.occ c).length) ∧
      ((step sp s (.setCell a (some c))).2 = .ok ↔
        s.cellOf a = none ∧ ¬ ∃ n, sp.cap c = some n ∧ n ≤ (s.occ c).length) ∧
      ((step sp s (.setCell a (some c))).2 ≠ .ok → (step sp s (.setCell a (some c))).1 = s) ∧
      ((step sp s (.setCell a (some c))).2 = .ok →
        (step sp s (.setCell a (some c))).1.cellOf a = some c ∧
        (step sp s (.setCell a (some c))).1.occ c = s.occ c ++ [a] ∧
        (∀ c', c' ≠ c → (step sp s (.setCell a (some c))).1.occ c' = s.occ c') ∧
        (∀ b, b ≠ a → (step sp s (.setCell a (some c))).1.cellOf b = s.cellOf b))) := by
  have hi := reachable_inv hsp h
  constructor
  · intro hmob
    have hset : step sp s (.setCell a none) = setCellMobile sp s a none := by
      simp only [step, hk, setCell_mobile hmob]
    rw [hset, setCellMobile_none fun o ho => hi.mobile_mem hk hmob ho]
    refine ⟨rfl, ?_, fun c => ?_, fun b hb => ?_, leave_registry s a⟩
    · rw [leave_cellOf]
      exact upd_same _ _ _
    · rw [leave_occ hi]
      exact ⟨rfl, fun hx => ((hi.nodup c).mem_erase_iff.mp hx).1 rfl⟩
    · rw [leave_cellOf]
      exact upd_other _ _ _ hb
  · intro hfix c hc
    subst hfix
    have hset : step sp s (.setCell a (some c)) = setCellFixed sp s a (some c) := by
      simp only [step, hk, hc, if_true, setCell]
    rw [hset, setCellFixed_eq, ← fullFor_iff]
    cases ho : s.cellOf a with
    | some o => simp
    | none =>
      by_cases hf : fullFor sp s c = true
      · simp [hf]
      · dsimp only
        rw [if_neg hf]
        refine ⟨by simp, ⟨fun hx => (nomatch hx), fun hx => absurd hx.2 hf⟩, ⟨fun _ => ⟨rfl, hf⟩, fun _ => rfl⟩,
          fun hx => absurd rfl hx, fun _ => ?_⟩
        exact ⟨upd_same _ _ _, upd_same _ _ _, fun c' hc' => upd_other _ _ _ hc', fun b hb => upd_other _ _ _ hb⟩

/-- `select_random_empty_cell`, exactly (C06's "only ever returns a cell with no agents" is `C06_select_random_empty_cell`):
    *rejection sampling* (a grid with `_try_random`, the default): the cells named by the draws are tried in order and the
    first one without agents is returned — never an occupied one, never IndexError; if every drawn cell is occupied the
    script is exhausted (the real loop goes on drawing).  *List strategy* (`Network`, `VoronoiGrid`, a grid with
    `_try_random = False`): IndexError, without a draw, iff no cell is empty; otherwise one draw `d` returns the
    `d % len`-th cell of `empties` (the cells without agents, in the space's order). -/
theorem C06_select_random_empty_exact (sp : Space) (s : State) (draws : List Nat) :
    ((sp.isGrid && s.tryRandom) = true → sp.cells ≠ [] →
      (step sp s (.randEmpty draws)).2 =
        match (drawn sp.cells draws).find? (fun c => (s.occ c).isEmpty) with
        | some c => .okCell c
        | none => .err .script) ∧
    ((sp.isGrid && s.tryRandom) = false →
      ((step sp s (.randEmpty draws)).2 = .err .index ↔ ∀ c ∈ sp.cells, s.occ c ≠ []) ∧
      (∀ d ds, draws = d :: ds → (∃ c ∈ sp.cells, s.occ c = []) →
        ∃ c, (sp.cells.filter fun c => (s.occ c).isEmpty)[d % (sp.cells.filter fun c => (s.occ c).isEmpty).length]? = some c ∧
          (step sp s (.randEmpty draws)).2 = .okCell c)) := by
  constructor
  · intro hg hne
    simp only [step, hg, if_true]
    exact tryRandomLoop_eq s sp.cells hne draws
  · intro hg
    have hstep : (step sp s (.randEmpty draws)).2 = choice (empties sp s) draws := by
      simp only [step, hg, Bool.false_eq_true, if_false]
    rw [hstep]
    have hmem : ∀ c, c ∈ empties sp s ↔ c ∈ sp.cells ∧ s.occ c = [] := by simp [empties, isEmpty]
    constructor
    · rw [choice_err_index, List.eq_nil_iff_forall_not_mem]
      exact ⟨fun hn c hc ho => hn c ((hmem c).mpr ⟨hc, ho⟩), fun hn c hc => hn c ((hmem c).mp hc).1 ((hmem c).mp hc).2⟩
    · rintro d ds rfl ⟨c, hc, hocc⟩
      exact choice_cons (List.ne_nil_of_mem ((hmem c).mpr ⟨hc, hocc⟩)) d ds

theorem removeEach_listed {sp : Space} (hsp : SpaceOK sp) (c : Cid) (l : List Aid) :
    ∀ {s : State}, Reachable sp s → s.occ c = l →
      (removeEach sp s l).2 = .ok ∧ (removeEach sp s l).1.occ c = [] ∧
      (∀ c', c' ≠ c → (removeEach sp s l).1.occ c' = s.occ c') ∧
      (∀ b, b ∈ (removeEach sp s l).1.registry ↔ b ∈ s.registry ∧ b ∉ l) ∧
      Reachable sp (removeEach sp s l).1 := by
  induction l with
  | nil =>
    intro s h hl
    exact ⟨rfl, hl, fun _ _ => rfl, fun b => by simp [removeEach], h⟩
  | cons a t ih =>
    intro s h hl
    have hi := reachable_inv hsp h
    have hm : a ∈ s.occ c := hl ▸ List.mem_cons_self
    have hok := step_remove_listed_ok hi hm
    obtain ⟨hocc, hreg⟩ := step_remove_ok hi hok
    have hunf : removeEach sp s (a :: t) = removeEach sp (step sp s (.remove a)).1 t := by
      rw [removeEach, show step sp s (.remove a) = ((step sp s (.remove a)).1, .ok) from Prod.ext rfl hok]
    obtain ⟨h1, h2, h3, h4, h5⟩ := ih (h.step (.remove a)) (by rw [hocc c, hl, List.erase_cons_head])
    rw [hunf]
    refine ⟨h1, h2, fun c' hc' => ?_, fun b => ?_, h5⟩
    · rw [h3 c' hc', hocc c']
      exact hi.erase_of_ne (by rw [hi.mem_cell a c hm]; exact fun e => hc' (Option.some.inj e).symm)
    · rw [h4 b, hreg, hi.reg_nodup.mem_erase_iff, List.mem_cons, not_or]
      exact ⟨fun ⟨⟨h6, h7⟩, h8⟩ => ⟨h7, h6, h8⟩, fun ⟨h7, h6, h8⟩ => ⟨⟨h6, h7⟩, h8⟩⟩

/-- Emptying a cell by `for a in cell.agents: a.remove()`, after any history, for any cell and whatever agents (mobile,
    fixed, still in the model or not) it lists: every `remove()` returns, the cell ends up empty, no other cell's list
    changes, and exactly the agents the cell listed have left the model's registry.  (That `cell.agents` is a copy — so the
    loop sees every agent although they leave the cell's own list meanwhile — is the tie's `agentscopy` / `clearcell` lines.) -/
theorem C06_clear_cell {sp : Space} (hsp : SpaceOK sp) {s : State} (h : Reachable sp s) (c : Cid) :
    (clearCell sp s c).2 = .ok ∧ (clearCell sp s c).1.occ c = [] ∧
    (∀ c', c' ≠ c → (clearCell sp s c).1.occ c' = s.occ c') ∧
    (∀ b, b ∈ (clearCell sp s c).1.registry ↔ b ∈ s.registry ∧ b ∉ s.occ c) ∧
    Reachable sp (clearCell sp s c).1 :=
  removeEach_listed hsp c (s.occ c) h rfl

/-! ### non-vacuity -/

-- a 2×2 Moore torus with capacity 1: place, rejected move into a full cell (S11 witness: nothing changes),
-- re-entering the own full cell is accepted
private def sp0 : Space := gridSpace .moore [2, 2] true (some 1)
private def ops0 : List Op :=
  [.new .cell, .new .cell, .setCell 0 (some [0, 0]), .setCell 1 (some [1, 1]), .setCell 0 (some [1, 1])]
example : SpaceOK sp0 := gridSpace_ok _ _ _ _ (by simp)
example : (step sp0 (run sp0 (init sp0) ops0) (.setCell 0 (some [1, 1]))).2 = .err .full := by decide +kernel
example : (run sp0 (init sp0) ops0).cellOf 0 = some [0, 0] ∧ (run sp0 (init sp0) ops0).occ [0, 0] = [0] ∧
    (run sp0 (init sp0) ops0).occ [1, 1] = [1] ∧ (run sp0 (init sp0) ops0).registry = [0, 1] := by decide +kernel
example : (step sp0 (run sp0 (init sp0) ops0) (.setCell 0 (some [0, 0]))).2 = .ok := by decide +kernel
example : (step sp0 (run sp0 (init sp0) ops0) (.randEmpty [0, 3, 1])).2 = .okCell [0, 1] := by decide +kernel
example : (step sp0 (run sp0 (init sp0) ops0) (.gridMove 0 "N" 1)).2 = .err .attr := by decide +kernel

-- connection edits: a long-range connection added to cell (0,0) of a 3×3 grid under a new key is followed by
-- `move_relative`; after `disconnect` the key is gone again; edits to coordinates that are no cells are rejected
private def sp1 : Space := gridSpace .vn [3, 3] false none
private def dops1 : List DOp :=
  [.op (.new .cell), .op (.setCell 0 (some [0, 0])), .connect [0, 0] [2, 2] (some [7, 7]), .op (.moveRel 0 [7, 7])]
example : SpaceOK sp1 := gridSpace_ok _ _ _ _ (by simp)
example : (drun sp1 (init sp1) dops1).2.cellOf 0 = some [2, 2] ∧ (drun sp1 (init sp1) dops1).2.occ [2, 2] = [0] := by decide +kernel
example : (step sp1 (run sp1 (init sp1) [.new .cell, .setCell 0 (some [0, 0])]) (.moveRel 0 [7, 7])).2 = .err .noCell := by decide +kernel
example : (dstep (drun sp1 (init sp1) dops1).1 (drun sp1 (init sp1) dops1).2 (.connect [0, 0] [3, 3] none)).2 = .err .key := by decide +kernel
example : ((drun sp1 (init sp1) (dops1 ++ [.disconnect [0, 0] [2, 2]])).1.conn [0, 0]).map (·.1) = [[0, 1], [1, 0]] := by decide +kernel
example : (editSp (vorSpace 3 [(0, 1, 2)] none) (.connect [0] [1] none)).2 = .err .type := by decide +kernel

-- default Voronoi capacities: areas 1/250 and 7/1000 give capacities 2 and 3; the third agent is refused by cell 0
private def vd : Space := vorSpaceAreas 3 [(0, 1, 2)] [(1, 250), (7, 1000), (5, 1)]
private def vops : List Op := [.new .cell, .new .cell, .new .cell, .setCell 0 (some [0]), .setCell 1 (some [0])]
example : vd.cap [0] = some 2 ∧ vd.cap [1] = some 3 ∧ vd.cap [2] = some 2500 := by decide +kernel
example : (step vd (run vd (init vd) vops) (.setCell 2 (some [0]))).2 = .err .full ∧
    (step vd (run vd (init vd) vops) (.setCell 2 (some [1]))).2 = .ok ∧ isFull vd (run vd (init vd) vops) [0] = true := by decide +kernel

-- hex: "ne" is a key in odd columns only; two diagonal steps are impossible, one is fine; cardinal names work everywhere
private def hx : Space := gridSpace .hex [4, 4] false none
private def hops : List Op := [.new .grid2d, .setCell 0 (some [2, 1])]
example : dirVec "NE" = some [-1, 1] ∧ (step hx (run hx (init hx) hops) (.gridMove 0 "NE" 1)).2 = .ok ∧
    (step hx (run hx (init hx) hops) (.gridMove 0 "NE" 1)).1.cellOf 0 = some [1, 2] ∧
    (step hx (run hx (init hx) hops) (.gridMove 0 "NE" 2)).2 = .err .noCell ∧
    (step hx (run hx (init hx) hops) (.gridMove 0 "se" 1)).2 = .err .noCell ∧
    (step hx (run hx (init hx) hops) (.gridMove 0 "north" 2)).1.cellOf 0 = some [0, 1] := by decide +kernel
-- … whereas on a torus of odd width the wrap keeps the parity and two diagonal steps can succeed
example : walk (gridSpace .hex [4, 3] true none) [1, 1] 2 [0, 2] = some [2, 1] := by decide +kernel

-- collections on the 2×2 torus of `ops0` (agents 0 at (0,0), 1 at (1,1), capacity 1)
private def s0 : State := run sp0 (init sp0) ops0
example : Reachable sp0 s0 := reachable_of_run (gridSpace_ok _ _ _ _ (by simp)) ops0
example : collAgents s0 sp0.cells = [0, 1] ∧ empties sp0 s0 = [[0, 1], [1, 0]] := by decide +kernel
example : select (some (isFull sp0 s0)) (.frac 1 2) sp0.cells = [[0, 0], [1, 1]] ∧
    select (some (isFull sp0 s0)) (.frac 1 4) sp0.cells = [[0, 0]] ∧ select none (.int (-1)) sp0.cells = [] ∧
    select none (.frac 5 2) sp0.cells = [[0, 0], [0, 1], [1, 0]] ∧ selectIsSelf none .inf = true := by decide +kernel
example : selectRandomCell (empties sp0 s0) [7, 3] = .ok [1, 0] 1 1 ∧ selectRandomAgent s0 sp0.cells [6] = .ok 0 0 1 ∧
    selectRandomAgent s0 (empties sp0 s0) [6] = .err .index ∧ selectRandomCell sp0.cells [] = .err .script := by decide +kernel
example : selectRandomAgent s0 (nbhd (nbOfConn sp0.conn) 1 false [0, 0]) [5] = .ok 1 0 1 := by decide +kernel

-- exact outcomes: in `s0` (capacity 1, agent 0 at (0,0), agent 1 at (1,1)) agent 0 is refused by (1,1), accepted by its own
-- full cell and by the free cell (0,1), which then lists it while (0,0) is empty again
example : s0.cellOf 0 ≠ some [1, 1] ∧ sp0.cap [1, 1] = some 1 ∧ (s0.occ [1, 1]).length = 1 := by decide +kernel
example : (step sp0 s0 (.setCell 0 (some [0, 1]))).1.occ [0, 1] = [0] ∧ (step sp0 s0 (.setCell 0 (some [0, 1]))).1.occ [0, 0] = [] ∧
    (step sp0 s0 (.moveTo 0 [0, 0])).2 = .ok ∧ (step sp0 s0 (.setCell 0 none)).1.cellOf 0 = none := by decide +kernel
-- capacity writes: two agents in cell (0,0) of an unbounded grid, then `cell.capacity = 1`: both stay (the bound is broken by
-- the program, the history is not `CapRespecting`), the cell refuses a third agent but is not `is_full`; agent 0 re-enters its
-- own over-full cell (repair SC4: accepted, back at the end of the list); after `cell.capacity = None` the third agent is
-- taken; `cell.capacity = 2` on the two occupants is `CapRespecting` and makes the cell `is_full`; no such cell: KeyError
private def w0 : Space := gridSpace .vn [1, 2] false none
private def wops : List DOp :=
  [.op (.new .cell), .op (.new .cell), .op (.new .cell), .op (.setCell 0 (some [0, 0])), .op (.setCell 1 (some [0, 0])),
   .setCap [0, 0] (some 1)]
example : SpaceOK w0 := gridSpace_ok _ _ _ _ (by simp)
example : (drun w0 (init w0) wops).1.cap [0, 0] = some 1 ∧ (drun w0 (init w0) wops).1.cap [0, 1] = none ∧
    (drun w0 (init w0) wops).2.occ [0, 0] = [0, 1] ∧ CapRespecting w0 (init w0) wops = false := by decide +kernel
example : fullFor (drun w0 (init w0) wops).1 (drun w0 (init w0) wops).2 [0, 0] = true ∧
    isFull (drun w0 (init w0) wops).1 (drun w0 (init w0) wops).2 [0, 0] = false ∧
    (dstep (drun w0 (init w0) wops).1 (drun w0 (init w0) wops).2 (.op (.setCell 2 (some [0, 0])))).2 = .err .full ∧
    (dstep (drun w0 (init w0) wops).1 (drun w0 (init w0) wops).2 (.op (.setCell 0 (some [0, 0])))).2 = .ok ∧
    (drun w0 (init w0) (wops ++ [.op (.setCell 0 (some [0, 0]))])).2.occ [0, 0] = [1, 0] := by decide +kernel
example : (drun w0 (init w0) (wops ++ [.setCap [0, 0] none, .op (.setCell 2 (some [0, 0]))])).2.occ [0, 0] = [0, 1, 2] ∧
    (dstep w0 (init w0) (.setCap [0, 2] (some 1))).2 = .err .key := by decide +kernel
example : CapRespecting w0 (init w0) (wops.dropLast ++ [.setCap [0, 0] (some 2)]) = true ∧
    isFull (drun w0 (init w0) (wops.dropLast ++ [.setCap [0, 0] (some 2)])).1 (drun w0 (init w0) (wops.dropLast ++ [.setCap [0, 0] (some 2)])).2 [0, 0] = true := by
  decide +kernel
-- capacity 0 is a capacity (repair SC3: 0 is not read as "no capacity"): a capacity-0 cell refuses everybody, stays empty — also in
-- the `empty` layer — and is full; the default capacity of a Voronoi cell of area 1/1000 is 0
private def z0 : Space := gridSpace .vn [1, 2] false (some 0)
example : (step z0 (run z0 (init z0) [.new .cell]) (.setCell 0 (some [0, 0]))).2 = .err .full ∧
    (step z0 (run z0 (init z0) [.new .cell]) (.setCell 0 (some [0, 0]))).1.flag [0, 0] = some true ∧
    isFull z0 (init z0) [0, 0] = true ∧ isEmpty (init z0) [0, 0] = true := by decide +kernel
example : (vorSpaceAreas 3 [(0, 1, 2)] [(1, 1000), (7, 1000), (5, 1)]).cap [0] = some 0 := by decide +kernel
-- several agents of both kinds in one cell of an unbounded grid
private def z : Space := gridSpace .vn [1, 2] false none
private def zops : List Op := [.new .cell, .new .fixed, .new .cell, .setCell 0 (some [0, 0]), .setCell 1 (some [0, 0]), .setCell 2 (some [0, 0])]
example : (run z (init z) zops).occ [0, 0] = [0, 1, 2] ∧ isFull z (run z (init z) zops) [0, 0] = false := by decide +kernel
-- a FixedAgent: placed once, then "Cannot move agent in FixedCell" — also after its `remove()`
example : (step z (run z (init z) zops) (.setCell 1 (some [0, 1]))).2 = .err .fixed ∧
    (step z (run z (init z) (zops ++ [.remove 1])) (.setCell 1 (some [0, 1]))).2 = .err .fixed ∧
    (run z (init z) (zops ++ [.remove 1])).occ [0, 0] = [0, 2] := by decide +kernel
-- emptying the cell that lists a CellAgent, a FixedAgent and another CellAgent: all three leave the cell and the model
example : (clearCell z (run z (init z) zops) [0, 0]).2 = .ok ∧ (clearCell z (run z (init z) zops) [0, 0]).1.occ [0, 0] = [] ∧
    (run z (init z) zops).registry = [0, 1, 2] ∧ (clearCell z (run z (init z) zops) [0, 0]).1.registry = [] := by decide +kernel
-- `cell.empty` on a Network: absent before the first `add_agent`, then `is_empty` (False while occupied, True after leaving)
private def nw : Space := netSpace false 2 [(0, 1)] none
example : (init nw).flag [0] = none ∧ (run nw (init nw) [.new .cell, .setCell 0 (some [0])]).flag [0] = some false ∧
    (run nw (init nw) [.new .cell, .setCell 0 (some [0]), .setCell 0 (some [1])]).flag [0] = some true ∧
    (run nw (init nw) [.new .cell, .setCell 0 (some [0]), .setCell 0 (some [1])]).flag [1] = some false := by decide +kernel
-- rejection sampling: the draws 0, 3, 1 name (0,0), (1,1) — both occupied — and (0,1), which is returned; the list strategy
-- returns the `d % 2`-th of the two empty cells; with every cell occupied it raises IndexError without a draw
example : drawn sp0.cells [0, 3, 1] = [[0, 0], [1, 1], [0, 1]] ∧ (step sp0 s0 (.randEmpty [0, 3, 1])).2 = .okCell [0, 1] ∧
    (step sp0 s0 (.randEmpty [0, 3])).2 = .err .script := by decide +kernel
example : (step sp0 { s0 with tryRandom := false } (.randEmpty [5])).2 = .okCell [1, 0] := by decide +kernel
example : (step z { run z (init z) (zops ++ [.new .cell, .setCell 3 (some [0, 1])]) with tryRandom := false } (.randEmpty [5])).2
    = .err .index := by decide +kernel

end Mesa.Cells
