import MesaModel.Proofs.CopySetMain
/-!
# C19, AgentSet half — a deep copy / pickle round trip of an AgentSet is faithful, lasting and detached

Model: `Model/CopySet.lean` (identities; weak members; models own their agents; `Agent._ids`; liveness as after a garbage
collection; copy by identity shift).  `view w s` is what the program reads from set `s`: for every member that is alive its
identity, `unique_id`, attribute value and model, in the set's order, and the state of the set's generator.
The frame and detachment theorems assume a well-formed world (`WF w`); every world reached by any history is well-formed
(`C19_agentset_reachable_wf`).  What a copy shows (`C19_agentset_copy_faithful`, `C19_agentset_copy_registry`) holds for every
world.
-/
namespace Mesa.CopySet

/-- every world reached by a history of operations is well-formed (the hypothesis of the theorems below) -/
theorem C19_agentset_reachable_wf (ops : List Op) : WF (run init ops) := WF.init.run ops

/-- **Faithful and lasting.**  The copy shows the same `unique_id`s and attribute values in the same order and an equal
    generator state; every object it shows is a new one (`old + next`: members and their models).  `view` only shows members
    that survive a garbage collection, so the copy keeps its members (this is what the repair S24 establishes). -/
theorem C19_agentset_copy_faithful (w : World) (t : Nat) (w' : World) (t' : Nat) (hc : copySet w t = some (w', t')) :
    ∃ items script, view w t = some (items, script) ∧
      view w' t' = some (items.map (fun (a, u, x, m) => (a + w.next, u, x, m + w.next)), script) := by
  obtain ⟨r, hr, rfl, rfl⟩ := copySet_eq_some.mp hc
  exact ⟨_, _, by simp only [view, hr], copy_view t r⟩

/-- a small history: a model with a scripted generator, three agents, a set over two of them (in another order) -/
def demo : World := run init [.newModel [3, 1, 4], .create 1 2, .create 1 0, .create 1 5, .mkSet 1 [3, 2]]

example : view demo 5 = some ([(3, 2, 0, 1), (2, 1, 2, 1)], [3, 1, 4]) := by decide +kernel

def demoCopy : World := match copySet demo 5 with | some p => p.1 | none => demo

/-- what the copy of set `t` shows (`k = false`: the code before S24) -/
def copyView (w : World) (t : Nat) (k : Bool) : Option (List (Nat × Nat × Int × Nat) × List Nat) :=
  match copySet w t k with
  | some (w', t') => view w' t'
  | none => none

example : copyView demo 5 true = some ([(9, 2, 0, 7), (8, 1, 2, 7)], [3, 1, 4]) := by decide +kernel

/-- **The code before S24 violates the property**: without `_restored_models` nothing references the reconstructed model,
    and after a garbage collection the copy of a two-member set shows no member at all. -/
theorem C19_agentset_copy_without_owners_loses_members :
    view demo 5 = some ([(3, 2, 0, 1), (2, 1, 2, 1)], [3, 1, 4]) ∧ copyView demo 5 false = some ([], [3, 1, 4]) :=
  ⟨by decide +kernel, by decide +kernel⟩

/-- **The copied model.**  Every model of an (alive) member is reconstructed: it is alive, its registry `list(model.agents)` is
    the original registry shifted to the new objects — every registered agent, member of the set or not, in registration
    order — and the sharing of generators is preserved (a set that uses its members' model's generator does so in the copy). -/
theorem C19_agentset_copy_registry (w : World) (t : Nat) (r : SetRec) (hr : w.sets t = some r) (a : Nat)
    (ha : a ∈ aliveMembers w r) (w' : World) (t' : Nat) (hc : copySet w t = some (w', t')) :
    ∃ ar mr, w.agents a = some ar ∧ w.models ar.model = some mr ∧
      regView w ar.model = some mr.reg ∧
      regView w' (ar.model + w.next) = some (mr.reg.map (· + w.next)) ∧
      (r.gen = mr.gen → ∃ r' mr', w'.sets t' = some r' ∧ w'.models (ar.model + w.next) = some mr' ∧ r'.gen = mr'.gen) := by
  obtain ⟨ar, mr, har, hmr, halive, _, hm⟩ := member_model ha
  simp only [copySet, hr, Option.some.injEq, Prod.mk.injEq] at hc
  obtain ⟨rfl, rfl⟩ := hc
  refine ⟨ar, mr, har, hmr, by simp [regView, halive, hmr], copy_registry t hm hmr, ?_⟩
  intro hg
  exact ⟨_, _, copyWorld_sets_new t r true, copyWorld_models_copied t hm hmr true, by simp [hg]⟩

example : regView demoCopy 7 = some [8, 9, 10] ∧ regView demo 1 = some [2, 3, 4] := ⟨by decide +kernel, by decide +kernel⟩

/-- **Frame.**  A history none of whose operations writes an object the set depends on (the set, its generator, its members,
    their models) leaves what the set shows unchanged — whatever else it creates, removes, reorders or copies. -/
theorem C19_agentset_frame (w : World) (hw : WF w) (s : Nat) (r : SetRec) (hr : w.sets s = some r) (ops : List Op)
    (hav : WritesOnly (fun x => x ∉ deps w s) w ops) : view (run w ops) s = view w s :=
  frame_run hw hr ops hav

/-- **The copy leaves every existing set as it was** (also its liveness: copying creates no reference to an old object). -/
theorem C19_agentset_original_untouched_by_copy (w : World) (hw : WF w) (t s : Nat) (hs : s < w.next)
    (w' : World) (t' : Nat) (hc : copySet w t = some (w', t')) : view w' s = view w s :=
  (agree_copy hw hs t true hc).view_eq

/-- **Detached, both ways.**  After `copy t`:
    operations that only write objects created by or after the copy never change what the original shows, and
    operations that only write objects that existed before the copy never change what the copy shows —
    for operation sequences of any length. -/
theorem C19_agentset_copy_detached (w : World) (hw : WF w) (t : Nat) (w' : World) (t' : Nat)
    (hc : copySet w t = some (w', t')) :
    (∀ ops, WritesOnly (fun x => w.next ≤ x) w' ops → view (run w' ops) t = view w t) ∧
    (∀ ops, WritesOnly (fun x => x < w.next) w' ops → view (run w' ops) t' = view w' t') := by
  obtain ⟨r, hr, rfl, rfl⟩ := copySet_eq_some.mp hc
  have hw' := hw.copyWorld hr true
  have ht : t < w.next := (hw.setsLt t r hr).1
  have hag := agree_copyWorld hw ht t r true
  constructor
  · intro ops hwo
    have hr' : (copyWorld w t r true).sets t = some r := by rw [hag.set, hr]
    rw [frame_run hw' hr' ops (hwo.mono fun x hx hmem => ?_), hag.view_eq]
    rw [hag.deps_eq] at hmem
    have := deps_lt hw ht x hmem
    omega
  · intro ops hwo
    refine frame_run hw' (copyWorld_sets_new t r true) ops (hwo.mono fun x hx hmem => ?_)
    have := copy_deps_fresh t r true x hmem
    omega

/-- the two premises of `C19_agentset_copy_detached` are satisfiable by real work on either side: shuffling the copy and
    removing one of its members writes fresh objects only; changing an attribute of an original member, creating an agent in
    the original model and sorting the original set writes old objects only -/
example : WritesOnly (fun x => demo.next ≤ x) demoCopy [.shuffle 11, .remove 9] := by
  simp only [WritesOnly]
  decide +kernel

example : WritesOnly (fun x => x < demo.next) demoCopy [.setW 3 7, .create 1 4, .sortW 5] := by
  simp only [WritesOnly]
  decide +kernel

example : view (run demoCopy [.shuffle 11, .remove 9]) 11 = some ([(8, 1, 2, 7)], [1, 4]) := by decide +kernel

end Mesa.CopySet
