import MesaModel.Proofs.Registry
import MesaModel.Proofs.RegistryFrame
/-!
# C02 — the model's agent registry is exact and unique_ids are unique per model

The property theorems, with their non-vacuity examples (model: `Model/Registry.lean` + `Model/Activation.lean`; the
invariant `WInv` and its preservation: `Proofs/Registry.lean`; `Op.avoids` / `Quiet` for coexisting models:
`Proofs/RegistryFrame.lean`; walks and activations: `Proofs/Activation.lean`).  `run World.empty ops` ranges over **all** histories: any interleaving of model
creation, agent creation by constructor and by `create_agents` (any number, any classes, any models),
`remove` (also repeated, also of agents the program still holds), `remove_all_agents`, dropping of program
references, in-place `shuffle`/`sort` of any set, construction of AgentSets, and activations
(`do`, `shuffle_do`, `map`, `GroupBy.do/map`) whose callbacks — arbitrary scripts — remove and create agents
in any model in the middle of the iteration.

Reading of a registry `r = regs[m]`: `r.hard` = `Model._agents` (hard references), `r.all` = `model.agents`,
`r.byType` = `model.agents_by_type`, keys of `r.byType` = `model.agent_types`, `r.nextId` the next id.
`info[a]` records for agent `a` (named by its global creation serial) its model, exact class and `unique_id`;
`removedLog` lists the targets of all `remove()` calls so far (ghost state).  `createdFor info m` = the agents `info` records
for model `m`, in creation order; `modelOfI info a` = the model `info` records for `a`; `Op.avoids w0 m' w op` = `op`, performed
in `w`, creates, removes and reorders nothing of model `m'` and does not draw from its generator.
-/
namespace Mesa.Agents

/-- **Exactness.**  After every history, for every model: the hard references are exactly the agents
    created for that model and not yet named by a `remove()` call, in creation order; `model.agents` has
    exactly the same members (each once) and shows all of them. -/
theorem C02_registry_exact_all_histories (ops : List Op) (m : Nat) (r : Reg)
    (hr : (run World.empty ops).regs[m]? = some r) :
    r.hard = (createdFor (run World.empty ops).info m).filter (fun a => !(run World.empty ops).removedLog.contains a) ∧
    r.all.Perm r.hard ∧ r.all.Nodup ∧ members (run World.empty ops) (.all m) = r.all := by
  have h := winv_run_perm (winv_empty List.Perm) ops
  have hi := h.regs m r hr
  exact ⟨hi.hard, hi.all, hi.all.nodup_iff.mpr hi.hard_nodup, members_all_eq OrdRel.ofPerm h hr⟩

/-- **Grouping by exact class.**  After every history `agents_by_type` has one entry per class (no class
    twice), the set of a class holds exactly the registered agents of exactly that class (each once, all
    shown), and every class that has a live agent has an entry (`agent_types` names it). -/
theorem C02_by_type_exact_all_histories (ops : List Op) (m : Nat) (r : Reg)
    (hr : (run World.empty ops).regs[m]? = some r) :
    (r.byType.map (·.1)).Nodup ∧
    (∀ ts ∈ r.byType, ts.2.Perm (r.hard.filter (fun a => tyOf (run World.empty ops) a == ts.1)) ∧
       members (run World.empty ops) (.byType m ts.1) = ts.2) ∧
    (∀ a ∈ r.hard, tyOf (run World.empty ops) a ∈ r.byType.map (·.1)) := by
  have h := winv_run_perm (winv_empty List.Perm) ops
  have hi := h.regs m r hr
  simp only [tyOf_eq]
  refine ⟨hi.bt.keys, fun ts hts => ⟨hi.bt.groups ts hts, ?_⟩, hi.bt.cover⟩
  rw [members_byType_eq OrdRel.ofPerm h hr, lookup_of_mem_nodup hi.bt.keys hts]
  rfl

/-- **Creation order unless explicitly reordered.**  In every history that never reorders one of the
    registry's own sets in place, `model.agents` is the list of registered agents *in creation order* and
    each by-type set is the list of registered agents of that class in creation order. -/
theorem C02_creation_order_unless_reordered (ops : List Op) (hops : ∀ op ∈ ops, op.reordersRegistry = false)
    (m : Nat) (r : Reg) (hr : (run World.empty ops).regs[m]? = some r) :
    r.all = r.hard ∧ ∀ ts ∈ r.byType, ts.2 = r.hard.filter (fun a => tyOf (run World.empty ops) a == ts.1) := by
  have hi := (winv_run_eq (winv_empty Eq) ops hops).regs m r hr
  simp only [tyOf_eq]
  exact ⟨hi.all, hi.bt.groups⟩

/-- **Unique ids.**  After every history the `unique_id`s handed out by model `m`, in creation order, are
    exactly 1, 2, 3, … (so they are pairwise distinct, also between live and removed agents: no reuse),
    and the model's counter stands one past the last. -/
theorem C02_unique_ids_all_histories (ops : List Op) (m : Nat) (r : Reg)
    (hr : (run World.empty ops).regs[m]? = some r) :
    (((run World.empty ops).info.filter (fun i => i.model == m)).map (·.uid) = List.range' 1 (r.nextId - 1)) ∧
    (((run World.empty ops).info.filter (fun i => i.model == m)).map (·.uid)).Nodup ∧ 1 ≤ r.nextId := by
  have hi := (winv_run_perm (winv_empty List.Perm) ops).regs m r hr
  refine ⟨hi.uid.1, ?_, hi.uid.2⟩
  rw [hi.uid.1]
  exact List.nodup_range'

/-- **Ids are permanent.**  Continuing a history never changes what is recorded about an agent that
    already exists (its model, class and `unique_id`): the record only grows at the end. -/
theorem C02_ids_never_change (w : World) (ops : List Op) (a : Aid) (i : Info) (h : w.info[a]? = some i) :
    (run w ops).info[a]? = some i := by
  obtain ⟨e, he⟩ := run_info_ext w ops
  rw [he, List.getElem?_append_left (List.getElem?_eq_some_iff.mp h).1, h]

/-- **Removal is atomic and idempotent.**  After `a.remove()` at any reachable state the agent is in none
    of the three views of any model; a second `a.remove()` changes nothing observable. -/
theorem C02_remove_atomic_and_idempotent (ops : List Op) (a : Aid) :
    (∀ m r, (removeAgent (run World.empty ops) a).regs[m]? = some r →
        (∀ i, (run World.empty ops).info[a]? = some i → i.model = m → a ∉ r.hard ∧ a ∉ r.all ∧ ∀ ts ∈ r.byType, a ∉ ts.2)) ∧
    (let w1 := removeAgent (run World.empty ops) a
     let w2 := removeAgent w1 a
     w2.regs = w1.regs ∧ w2.info = w1.info ∧ w2.held = w1.held ∧ w2.sets = w1.sets ∧ w2.log = w1.log) := by
  have h0 := winv_run_perm (winv_empty List.Perm) ops
  have h1 := winv_removeAgent OrdRel.ofPerm h0 a
  generalize run World.empty ops = w at h0 h1
  have hnot : ∀ m r i, (removeAgent w a).regs[m]? = some r → w.info[a]? = some i → i.model = m → a ∉ r.hard := by
    intro m r i hr hi him hmem
    have hreg : ∃ r0, w.regs[i.model]? = some r0 :=
      ⟨_, List.getElem?_eq_getElem (h0.models i (List.mem_of_getElem? hi))⟩
    obtain ⟨r0, hr0⟩ := hreg
    exact ((h1.regs m r hr).mem_hard.mp hmem).2 (by rw [removeAgent_some hi hr0]; simp)
  refine ⟨fun m r hr i hi him =>
    ⟨hnot m r i hr hi him, (h1.regs m r hr).not_mem OrdRel.ofPerm (hnot m r i hr hi him)⟩, ?_⟩
  obtain ⟨rl, e⟩ := removeAgent_of_not_hard (removeAgent w a) a
    fun i r hi hr => hnot i.model r i hr (by rwa [removeAgent_info] at hi) rfl
  simp only [e, and_self]

/-- **Removed stays removed — in every model, at any distance.**  Once `a.remove()` has been called at some point of a
    history, then at every later moment (whatever else happened in between: churn, activations, reorderings) the agent is
    in none of the three views of *any* model, and calling `a.remove()` again changes nothing observable. -/
theorem C02_removed_stays_removed_everywhere (ops : List Op) (a : Aid) (h : a ∈ (run World.empty ops).removedLog) :
    (∀ (m : Nat) (r : Reg), (run World.empty ops).regs[m]? = some r → a ∉ r.hard ∧ a ∉ r.all ∧ ∀ ts ∈ r.byType, a ∉ ts.2) ∧
    (let w := run World.empty ops
     let w2 := removeAgent w a
     w2.regs = w.regs ∧ w2.info = w.info ∧ w2.held = w.held ∧ w2.sets = w.sets ∧ w2.log = w.log) := by
  have h0 := winv_run_perm (winv_empty List.Perm) ops
  generalize run World.empty ops = w at h0 h
  have hnot : ∀ (m : Nat) (r : Reg), w.regs[m]? = some r → a ∉ r.hard := by
    intro m r hr hmem
    exact ((h0.regs m r hr).mem_hard.mp hmem).2 h
  refine ⟨fun m r hr => ⟨hnot m r hr, (h0.regs m r hr).not_mem OrdRel.ofPerm (hnot m r hr)⟩, ?_⟩
  obtain ⟨rl, e⟩ := removeAgent_of_not_hard w a fun i r _ hr => hnot i.model r hr
  simp only [e, and_self]

/-- non-vacuity: agent 0 is removed, then a lot happens, then it is removed again -/
example : (0 : Aid) ∈ (run World.empty [.newModel ⟨[2, 1]⟩, .create 0 0 true [], .create 0 1 false [], .remove 0, .create 0 0 false [],
    .shuffle (.all 0), .doSet (fun _ => [.rm 0]) 1 (.all 0)]).removedLog := by decide +kernel

/-- **Coexisting models never influence each other.**  Creating agents in model `m`, removing an agent of
    model `m`, removing all agents of `m`, or reordering `m`'s sets in place leaves the registry of every
    other model — members, order, by-type sets, id counter, generator — exactly as it was. -/
theorem C02_other_models_untouched (ops : List Op) (m m' : Nat) (hne : m' ≠ m) :
    let w := run World.empty ops
    (∀ ty hold x, (createAgent w m ty hold x).regs[m']? = w.regs[m']?) ∧
    (∀ ty hold xs, (createN w m ty hold xs).regs[m']? = w.regs[m']?) ∧
    (∀ a i, w.info[a]? = some i → i.model = m → (removeAgent w a).regs[m']? = w.regs[m']?) ∧
    (removeAll w m).regs[m']? = w.regs[m']? ∧
    (∀ t, t.model w = m → (∀ k, t ≠ .set k) → (shuffleInPlace w t).regs[m']? = w.regs[m']? ∧
        ∀ asc, (sortInPlace w t asc).regs[m']? = w.regs[m']?) := by
  have h := winv_run_perm (winv_empty List.Perm) ops
  generalize run World.empty ops = w at h
  refine ⟨fun ty hold x => createAgent_regs_other w m m' hne ty hold x,
    fun ty hold xs => createN_regs_other w m m' hne ty hold xs,
    fun a i hi him => removeAgent_regs_other w a i hi m' (by rw [him]; exact hne), ?_, ?_⟩
  · unfold removeAll
    cases hr : w.regs[m]? with
    | none => rfl
    | some r =>
      apply foldl_removeAgent_regs_other w m m' hne
      intro a ha
      exact ((h.regs m r hr).mem_hard.mp ha).1
  · intro t ht hnk
    have hraw : ∀ l, (setRaw w t l).regs[m']? = w.regs[m']? :=
      fun l => setRaw_regs_other w t l m' fun _ => ht ▸ hne.symm
    refine ⟨?_, fun asc => hraw _⟩
    unfold shuffleInPlace
    rw [ht, setRng_regs, hraw]
    cases w.regs[m']? <;> simp [hne]

/-- **Coexisting models never influence each other — over whole histories.**  Start from any reachable world and run any
    history none of whose operations concerns model `m'` (`Op.avoids`: no agent created in `m'`; no agent of `m'` removed —
    directly, by `remove_all_agents` or by a callback —; none of `m'`'s own sets reordered in place; no shuffle or `shuffle_do`
    of a set that carries `m'`'s generator).  Everything else is allowed, in any number and order: churn in the other
    models, new models, program-made sets, in-place reorderings, every kind of activation with callbacks that remove,
    create, edit sets or raise.  Then the registry of `m'` — members, order, by-type sets, id counter, generator — is
    exactly what it was, and `m'` has the same agents. -/
theorem C02_other_models_untouched_all_histories (ops0 ops : List Op) (m' : Nat)
    (hm : m' < (run World.empty ops0).regs.length)
    (hav : ∀ pre op post, ops = pre ++ op :: post →
      Op.avoids (run World.empty ops0) m' (run (run World.empty ops0) pre) op) :
    (run (run World.empty ops0) ops).regs[m']? = (run World.empty ops0).regs[m']? ∧
    ∀ b, modelOfI (run (run World.empty ops0) ops).info b = some m' ↔ modelOfI (run World.empty ops0).info b = some m' := by
  have hw0 := winv_run_perm (winv_empty List.Perm) ops0
  generalize run World.empty ops0 = w0 at hw0 hm hav
  obtain ⟨_, hq⟩ : WInv List.Perm (run w0 ops) ∧ Quiet w0 m' (run w0 ops) := by
    refine foldl_inv_prefix (P := fun w => WInv List.Perm w ∧ Quiet w0 m' w) ⟨hw0, Quiet.refl w0 m'⟩
      fun pre op post hp (h : WInv List.Perm (run w0 pre) ∧ Quiet w0 m' (run w0 pre)) => ?_
    obtain ⟨hwi, hq⟩ := h
    have hlen : m' < (run w0 pre).regs.length := by
      have := hq.regs
      cases h1 : (run w0 pre).regs[m']? with
      | none =>
        rw [h1, List.getElem?_eq_getElem hm] at this
        simp at this
      | some r => exact (List.getElem?_eq_some_iff.mp h1).1
    exact ⟨winv_step_perm hwi op, quiet_step hwi hlen hq op (hav pre op post hp)⟩
  exact ⟨hq.regs, fun b => by rw [hq.agents b]; simp [agentOf]⟩

/-- non-vacuity: two models; while model 0 is left alone, model 1 sees churn, `remove_all_agents`, an in-place shuffle and an
    activation whose callbacks remove and create agents of model 1 and raise -/
example : (run (run World.empty [.newModel ⟨[1, 2]⟩, .newModel ⟨[3, 4, 5]⟩, .create 0 0 false [], .create 1 0 true [], .create 1 1 false []])
    [.create 1 0 false [], .shuffle (.all 1),
     .doSetX (fun a => if a = 1 then [.rm 2, .create 1 0 1 false] else []) (fun a => a == 3) 7 (.all 1),
     .removeAll 1, .newModel ⟨[]⟩]).regs[0]? =
    (run World.empty [.newModel ⟨[1, 2]⟩, .newModel ⟨[3, 4, 5]⟩, .create 0 0 false [], .create 1 0 true [], .create 1 1 false []]).regs[0]? := by
  decide +kernel

/-- **`register_agent` / `deregister_agent` called directly.**  At every reachable state: registering an agent that is
    registered (what `Agent.__init__` already did) changes nothing at all — no duplicate in any of the three structures, no
    change of order —; `deregister_agent` of an agent that is not registered raises `KeyError` (and nothing was changed
    before the raise), and of a registered agent it is exactly `Agent.remove()`, so every theorem about removal applies. -/
theorem C02_direct_register_and_deregister (ops : List Op) (a : Aid) :
    let w := run World.empty ops
    (registered w a = true → registerAgain w a = w ∧ deregisterDirect w a = some (removeAgent w a)) ∧
    (registered w a = false → deregisterDirect w a = none) := by
  have h := winv_run_perm (winv_empty List.Perm) ops
  generalize run World.empty ops = w at h
  refine ⟨fun hr => ⟨registerAgain_noop OrdRel.ofPerm h a hr, ?_⟩, fun hr => ?_⟩
  · obtain ⟨i, r, hi, hrr, ha⟩ := registered_iff.mp hr
    simp [deregisterDirect, hi, hrr, ha]
  · cases hi : w.info[a]? with
    | none => simp [deregisterDirect, hi]
    | some i =>
      cases hrr : w.regs[i.model]? with
      | none => simp [deregisterDirect, hi, hrr]
      | some r =>
        have : a ∉ r.hard := by
          intro ha
          have : registered w a = true := registered_iff.mpr ⟨i, r, hi, hrr, ha⟩
          rw [hr] at this
          simp at this
        simp [deregisterDirect, hi, hrr, this]

/-- non-vacuity: agent 1 is registered (registering it again is a no-op), agent 0 was removed but is held -/
example : registered (run World.empty [.newModel ⟨[]⟩, .create 0 0 true [], .create 0 1 false [], .remove 0]) 1 = true ∧
    registered (run World.empty [.newModel ⟨[]⟩, .create 0 0 true [], .create 0 1 false [], .remove 0]) 0 = false ∧
    (registerAgain (run World.empty [.newModel ⟨[]⟩, .create 0 0 true [], .create 0 1 false [], .remove 0]) 0).regs.map (·.hard)
      = [[1, 0]] := by decide +kernel

/-- **`create_agents` creates exactly n agents and splits only the sequences of length n.**  At any state, for
    every class, every n and every list of arguments (positional and keyword alike): exactly n agents are
    recorded, for this model and class, with the next n ids in order; the i-th receives, for each argument,
    element i of a sequence whose length is n, and the argument itself otherwise — a single object, or a
    sequence of *any other length*, which every agent then receives whole; the id counter moves by n. -/
theorem C02_create_agents_splits_arguments (w : World) (m : Nat) (r : Reg) (hr : w.regs[m]? = some r)
    (ty : Ty) (hold : Bool) (n : Nat) (args : List Arg) :
    let w' := createAgents w m ty hold n args
    w'.info.length = w.info.length + n ∧ (∀ a, a < w.info.length → w'.info[a]? = w.info[a]?) ∧
    (∀ i, i < n → w'.info[w.info.length + i]? =
      some { model := m, ty := ty, uid := r.nextId + i, x := args.map (Arg.at n i) }) ∧
    (∃ r', w'.regs[m]? = some r' ∧ r'.nextId = r.nextId + n) ∧
    (∀ i, i < n → (∀ v, Arg.at n i (.scalar v) = .int v) ∧
      (∀ l v, l.length = n → l[i]? = some v → Arg.at n i (.seq l) = .int v) ∧
      (∀ l, l.length ≠ n → Arg.at n i (.seq l) = .seq l)) := by
  intro w'
  obtain ⟨h1, h4⟩ := createN_info m ty hold (splitArgs n args) w r hr
  rw [splitArgs_length] at h4
  have h1' : w'.info = _ := h1
  refine ⟨by simp [h1', splitArgs_length], fun a ha => by rw [h1', List.getElem?_append_left ha], fun i hi => ?_, h4,
    fun i _ => ⟨fun v => rfl, fun l v hl hv => ?_, fun l hl => ?_⟩⟩
  · rw [h1', List.getElem?_append_right (Nat.le_add_right _ _), Nat.add_sub_cancel_left, List.getElem?_mapIdx,
      splitArgs_getElem? n args i hi]
    rfl
  · simp [Arg.at, hl, hv]
  · simp [Arg.at, hl]

/-- **Every set is duplicate-free after every history** (`model.agents`, each by-type set, each
    program-made set) — the hypothesis under which C04's "nobody is invoked twice" is stated. -/
theorem C02_sets_nodup_all_histories (ops : List Op) (t : Target) : (rawMembers (run World.empty ops) t).Nodup :=
  (winv_run_perm (winv_empty List.Perm) ops).rawMembers_nodup OrdRel.ofPerm t

/-! ### non-vacuity: two models, three classes, removal and creation inside an activation -/

private def demoOps : List Op :=
  [.newModel ⟨[3, 1, 4]⟩, .newModel ⟨[]⟩,
   .create 0 0 false [.int 0], .create 1 2 true [.int 0], .createAgents 0 1 false 2 [.seq [5, 6]], .create 0 0 false [],
   -- agent 0 removes agent 2 (twice) and creates an agent in the *other* model; agent 4 removes itself
   .doSet (fun a => if a = 0 then [.rm 2, .rm 2, .create 1 1 1 false] else if a = 4 then [.rmSelf] else []) 9 (.all 0),
   .remove 1, .remove 1]

example : (run World.empty demoOps).regs.map (fun r => (r.all, r.byType, r.nextId)) =
    [([0, 3], [(0, [0]), (1, [3])], 5), ([5], [(2, []), (1, [5])], 3)] := by decide +kernel
example : (run World.empty demoOps).removedLog = [2, 2, 4, 1, 1] ∧
    (run World.empty demoOps).info.map (fun i => (i.model, i.uid)) = [(0, 1), (1, 1), (0, 2), (0, 3), (0, 4), (1, 2)] := by
  decide +kernel
example : ∀ op ∈ demoOps, op.reordersRegistry = false := by decide +kernel
/-- `create_agents(model, 3, [7, 8, 9], y=[1, 2])`: the first argument is split, the second (length 2) is not -/
example : ((createAgents (newModel World.empty ⟨[]⟩) 0 1 false 3 [.seq [7, 8, 9], .seq [1, 2]]).info.map (·.x)) =
    [[.int 7, .seq [1, 2]], [.int 8, .seq [1, 2]], [.int 9, .seq [1, 2]]] := by decide +kernel

theorem alive_copySet (w : World) (t : Target) (a : Aid) : alive (copySet w t) a = alive w a := by
  rfl

/-- **A copy shows exactly the members of the original at that moment.**  After every history, `set.select()` without
    criteria / `copy.copy(set)` (`copySet`) of any set — `model.agents`, a by-type set, a program-made set — is a further
    program-made set that shows, by iteration and by position, exactly the live members of the original in the original's
    order (the constructor's de-duplication and liveness filter change nothing, because every set is duplicate-free after
    every history), and it carries the generator of the same model.
    That the copy and the original are different *storage* is not a claim: it is true in the model by construction, every
    program-made set being its own list; a copy that shares the member dictionary is caught by the correspondence tie and
    the oracle, see design.d/C02.md. -/
theorem C02_copy_shows_the_members_at_that_moment (ops : List Op) (t : Target) :
    let w := run World.empty ops
    members (copySet w t) (.set w.sets.length) = members w t ∧ itemsOf (copySet w t) (.set w.sets.length) = members w t ∧
    rawMembers (copySet w t) (.set w.sets.length) = members w t ∧
    Target.model (copySet w t) (.set w.sets.length) = t.model w := by
  intro w
  have hnd : (members w t).Nodup := (C02_sets_nodup_all_histories ops t).filter _
  have hf : (members w t).filter (alive w) = members w t := by simp [members]
  have hraw : rawMembers (copySet w t) (.set w.sets.length) = members w t := by
    have : rawMembers (copySet w t) (.set w.sets.length) = dedup ((members w t).filter (alive w)) := by
      simp [rawMembers, copySet, mkSet]
    rw [this, hf, dedup_of_nodup hnd]
  have hm : members (copySet w t) (.set w.sets.length) = members w t := by
    have hal : alive (copySet w t) = alive w := funext (alive_copySet w t)
    rw [members, hraw, hal, hf]
  exact ⟨hm, hm, hraw, by simp [Target.model, copySet, mkSet]⟩

/-- non-vacuity: three agents, one removed; the copy of `model.agents` loses a member, `model.agents` does not -/
example : let w := run World.empty [.newModel ⟨[]⟩, .create 0 0 true [], .create 0 1 false [], .create 0 0 false [], .remove 1]
    members (copySet w (.all 0)) (.set 0) = [0, 2] ∧
    members (setDiscard (copySet w (.all 0)) 0 0) (.set 0) = [2] ∧
    members (setDiscard (copySet w (.all 0)) 0 0) (.all 0) = [0, 2] := by decide +kernel

/-- **Dropped models.**  A history in which the program drops whole models (`dropModel`: the model and its agents
    become garbage) is one of the histories of the theorems above, and whatever happened before - agents created, removed,
    models dropped - the model constructed next has an empty registry and hands out `unique_id` 1 first: no model, alive or
    dead, influences its id sequence.  (That a *dead* model's storage is reused by the runtime for the new one cannot be
    said in a model without addresses; see design.d/C02.md.) -/
theorem C02_new_model_numbers_from_one_also_after_dropped_models (ops : List Op) (m : Nat) (g : Rng) :
    let w := run World.empty ops
    dropModel w m = run World.empty (ops ++ dropModelOps w m) ∧
    (step (dropModel w m) (.newModel g)).regs[(dropModel w m).regs.length]? = some (Reg.new g) := by
  intro w
  exact ⟨by simp [dropModel, run, w, List.foldl_append], by simp [step, newModel]⟩

/-- non-vacuity: model 0 with three agents (one held) is dropped: none of its agents is alive, model 1 is untouched, the
    next model starts at 1 -/
example : let w := run World.empty [.newModel ⟨[]⟩, .newModel ⟨[]⟩, .create 0 0 true [], .create 1 1 true [], .create 0 0 false []]
    let w' := step (dropModel w 0) (.newModel ⟨[]⟩)
    (List.range 3).filter (alive w') = [1] ∧ members w' (.all 1) = [1] ∧
    ((step w' (.create 2 0 false [])).info[3]?.map (·.uid)) = some 1 := by decide +kernel

end Mesa.Agents
