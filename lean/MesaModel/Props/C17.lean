import MesaModel.Proofs.Computed
import MesaModel.Proofs.ComputedCycle
/-!
# C17 — a Computable is never stale and recomputes only when an input changed

The property theorems, with the definitions only they need (`Reachable`, `AlwaysWrites`, `ReadsThenWrites`, `Idle`, `runOps`
and the example programs) and two helpers (`reachable_good`, `evalTree_cycle`).  Model: `Model/Computed.lean`; the rest of
the statements' vocabulary and the lemmas: `Proofs/Computed.lean`, `Proofs/ComputedCycle.lean`.

`init decls progs`: owners with their declared Observables / Computables, every Observable holding 0 (values are ints
or `None`: `V = Option Int`), and the
Computables that user handler `h` reads while it is being notified (`progs h`).  Operations: `define` (assign
a `Computed` whose function is a read tree), `assign`, `read`, user `observe` / `unobserve` / `drop`.
`Den s t v`: the function `t` returns `v` when it is evaluated in state `s` from scratch (Observables from
the store, Computables by evaluating *their* functions) — "what its function would return if evaluated right now";
`DenFail s t`: evaluated from scratch it raises (it arrives at a `fail` node, or at the read of a Computable whose
function raises, or of one that is not defined).
-/
namespace Mesa.Computed
open Mesa.Signals

/-- states reachable from a fresh model — user handler `h` reads the Computables `progs h` whenever it is notified —
    by any sequence of operations, **whether they returned or raised**: definitions of pure functions (which may raise
    on their own: `fail`) that read only earlier Computables, assignments (also restoring old values), reads, handler
    (un)subscriptions and deaths; `OpOK`: a handler that reads Computables subscribes to Observables, a handler that
    subscribes to a Computable is passive.
    **Not covered** (do not over-read the theorems about `Reachable` states): a function with an assignment (`write`
    node) is no admissible definition (`DefineOK.pure`) — after such a definition, cyclic or not, none of the theorems
    below about reachable states applies any more (only the cycle theorems, which hold in any state); a Computable is
    never defined twice (`DefineOK.fresh`); a handler subscribed to a Computable reads no Computables (`OpOK.observe`).
    All read theorems are partial-correctness statements: their hypothesis is that the read returned (`step fuel … =
    some …`); that some fuel makes a read of a reachable state return is not proved (see design.d/C17.md) -/
inductive Reachable (decls : Nat → List Decl) (progs : Nat → List Nat) : St → Prop
  | init : Reachable decls progs (init decls progs)
  | step {s s' : St} {op : Op} {fuel : Nat} {r : R} (h : Reachable decls progs s) (ok : OpOK s op)
      (hs : step fuel s op = some (s', r)) : Reachable decls progs s'

theorem reachable_good {decls : Nat → List Decl} (hd : DeclsOK decls) {progs : Nat → List Nat} {s : St}
    (h : Reachable decls progs s) : Good s := by
  induction h with
  | init => exact init_good hd progs
  | step _ ok hs ih => exact step_good _ ih ok hs

/-- **No stale read** (G7 repaired: user handlers may read Computables while an Observable notifies them; partial:
    a handler subscribed to a *Computable* is passive — one that read Computables there would run in the middle of the
    dirty cascade or of an evaluation).
    In every reachable state, whatever dependency structure (several owners, branches that switch what is
    read, chains of Computables) and whatever history of assignments and reads — including reads and
    definitions whose function raised (G11 repaired: nothing cached before a failure is ever served again) —:
    a read of a Computable that returns `v` returns what its function evaluates to now; the read changes no
    Observable. -/
theorem C17_no_stale_partial {decls : Nat → List Decl} (hd : DeclsOK decls) {s s' : St} {progs : Nat → List Nat} (h : Reachable decls progs s)
    {fuel c : Nat} {v : V} (hr : step fuel s (.read c) = some (s', .ok v)) :
    s'.store = s.store ∧ ∃ x, s'.comps c = some x ∧ Den s' x.tree v := by
  obtain ⟨_, hst, _, x, hx, _, _, hden⟩ := read_spec fuel (reachable_good hd h) hr
  exact ⟨hst, x, hx, hden⟩

/-- **No stale read, for the value a definition returns** (`owner.name = Computed(f)` evaluates once): it is what `f`
    evaluates to now. -/
theorem C17_define_fresh {decls : Nat → List Decl} (hd : DeclsOK decls) {s s' : St} {progs : Nat → List Nat} (h : Reachable decls progs s)
    {fuel c o n : Nat} {t : Tree} {v : V} (ok : DefineOK s c o n t)
    (hr : step fuel s (.define c o n t) = some (s', .ok v)) : ∃ x, s'.comps c = some x ∧ x.tree = t ∧ Den s' t v := by
  obtain ⟨_, _, se, x, hx, _, _, hden⟩ := read_spec fuel ((reachable_good hd h).define ok) hr
  obtain ⟨_, _, ht⟩ := (se.comps c).2 _ x (setComp_same _ _ _) hx
  have ht' : x.tree = t := ht
  exact ⟨x, hx, ht', by rw [← ht']; exact hden⟩

/-- **A read raises only if the function raises now** (G11, G12 repaired): in every reachable state, if reading a
    defined Computable raises, then its function evaluated right now raises (so the dirty pre-check never lets the
    failure of a Computable through that the function would not read any more), no Observable changed, and the
    Computed is marked to run its function again at the next read instead of re-validating an older value. -/
theorem C17_raise_is_fresh {decls : Nat → List Decl} (hd : DeclsOK decls) {s s' : St} {progs : Nat → List Nat} (h : Reachable decls progs s)
    {fuel c : Nat} {x : Comp} (hx : s.comps c = some x) {e : Err}
    (hr : step fuel s (.read c) = some (s', .err e)) :
    s'.store = s.store ∧ ∃ y, s'.comps c = some y ∧ y.tree = x.tree ∧ DenFail s' y.tree ∧
      y.first = true ∧ y.dirty = true := by
  obtain ⟨_, hst, se, _, herr⟩ := read_spec_all fuel (reachable_good hd h) hr
  rcases herr e rfl with hnone | ⟨y, hy, hyf, hyd, hdf⟩
  · rw [hx] at hnone; cases hnone
  · obtain ⟨_, _, ht⟩ := (se.comps c).2 x y hx hy
    exact ⟨hst, y, hy, ht, hdf, hyf, hyd⟩

/-- "returns `v`" and "raises" exclude each other (and the value is unique): the two theorems above never both apply -/
theorem C17_den_deterministic {s : St} {t : Tree} {v : V} (h : Den s t v) :
    (∀ v', Den s t v' → v' = v) ∧ ¬ DenFail s t := by
  induction h with
  | ret v => exact ⟨fun v' h' => by cases h'; rfl, fun h' => by cases h'⟩
  | read k cont v _ ih =>
    refine ⟨fun v' h' => ?_, fun h' => ?_⟩
    · cases h' with | read _ _ _ h' => exact ih.1 v' h'
    · cases h' with | read _ _ h' => exact ih.2 h'
  | readC c cont x a v hx _ _ iha ih =>
    refine ⟨fun v' h' => ?_, fun h' => ?_⟩
    · cases h' with
      | readC _ _ x' a' _ hx' ha' h' =>
        rw [hx] at hx'; cases hx'
        have := iha.1 a' ha'; subst this
        exact ih.1 v' h'
    · cases h' with
      | readCFail _ _ x' hx' hf => rw [hx] at hx'; cases hx'; exact iha.2 hf
      | readC _ _ x' a' hx' ha' hf =>
        rw [hx] at hx'; cases hx'
        have := iha.1 a' ha'; subst this
        exact ih.2 hf
      | readCUndef _ _ hx' => rw [hx] at hx'; cases hx'

/-- In every reachable state a Computed that never ran, or whose last evaluation raised, is dirty (so it is not served
    from the cache), and it remembers — and is subscribed to — exactly what that evaluation read before it raised
    (an initial part of a way through its function; nothing for a Computed that never ran). -/
theorem C17_failed_is_dirty {decls : Nat → List Decl} (hd : DeclsOK decls) {s : St} {progs : Nat → List Nat} (h : Reachable decls progs s)
    {c : Nat} {x : Comp} (hx : s.comps c = some x) (hf : x.first = true) :
    x.dirty = true ∧ ∃ ps, Prefix x.tree ps ∧ ∀ e, e ∈ ps ↔ e ∈ x.parents :=
  ((reachable_good hd h).inv.evald c x hx (by simp [NoS])).1 hf

/-- **The cache is never stale**: in every reachable state every Computed that is not marked dirty holds
    exactly the value its function evaluates to now (so a read served from the cache is right). -/
theorem C17_clean_is_fresh {decls : Nat → List Decl} (hd : DeclsOK decls) {s : St} {progs : Nat → List Nat} (h : Reachable decls progs s)
    {c : Nat} {x : Comp} (hx : s.comps c = some x) (hc : x.dirty = false) : ∃ v, x.value = some v ∧ Den s x.tree v :=
  clean_den (reachable_good hd h).inv c x hx hc

/-- **What a Computed remembers is exactly what its last evaluation read** (needs G4, G8, G9 repaired): the
    cached value is the result of following the function along the remembered (reference, value) pairs, and
    nothing else is remembered. -/
theorem C17_remembers_exactly_last_reads {decls : Nat → List Decl} (hd : DeclsOK decls) {s : St}
    {progs : Nat → List Nat} (h : Reachable decls progs s) {c : Nat} {x : Comp} (hx : s.comps c = some x) (hf : x.first = false) :
    ∃ v ps, x.value = some v ∧ PathR x.tree ps v ∧ ∀ e, e ∈ ps ↔ e ∈ x.parents :=
  ((reachable_good hd h).inv.evald c x hx (by simp [NoS])).2 hf

/-- **Minimal recomputation, at most once** (partial: "at most once" is stated for the Computable that is read; for
    every other Computable `C17_minimal` gives the reasons but no count — a Computable read in turn whose function
    raises can run twice in one read, once in the dirty pre-check and once more when the function reads it: the code
    does that).  A read — returning or raising — runs the function body at most once, and
    only if it never ran before, or raised the last time it ran (`first`), or some value it read last time (by the
    previous theorem: some remembered pair) differs from the present value of that Observable / the up-to-date
    value of that Computable (or that Computable raises now). -/
theorem C17_minimal_partial {decls : Nat → List Decl} (hd : DeclsOK decls) {s s' : St} {progs : Nat → List Nat} (h : Reachable decls progs s)
    {fuel c : Nat} {r : R} {x : Comp} (hx : s.comps c = some x) (hr : step fuel s (.read c) = some (s', r)) :
    ∃ y, s'.comps c = some y ∧
      (y.evals = x.evals ∨ (y.evals = x.evals + 1 ∧ (x.first = true ∨ ∃ e ∈ x.parents, Stale s' e))) := by
  obtain ⟨⟨hok, herr⟩, _⟩ := (reachable_good hd h).read hr
  have fin : ∀ y, Justified x s' y →
      (y.evals = x.evals ∨ (y.evals = x.evals + 1 ∧ (x.first = true ∨ ∃ e ∈ x.parents, Stale s' e))) :=
    fun y hj => hj.imp id fun ⟨h1, _, h3⟩ => ⟨h1, h3⟩
  cases r with
  | ok v =>
    obtain ⟨y, hy, _, _, hj⟩ := (hok v rfl).clean
    exact ⟨y, hy, fin y (hj x hx)⟩
  | err e =>
    rcases (herr e rfl).failed with hnone | ⟨y, hy, _, _, _, hj⟩
    · rw [hx] at hnone; cases hnone
    · exact ⟨y, hy, fin y (hj x hx)⟩

/-- **Minimal recomputation, for every Computable** (the statement assembled over all nested reads, pre-checks and
    evaluations of one read, returning or raising): for each Computable `q` — the one read, the ones it reads in turn,
    all others — either its function did not run, and then nothing at all happened to `q` unless it was re-validated
    (it is no longer dirty); or its function ran, and then `q` was dirty and it had never run / had raised the last
    time it ran, or some value it read last time differs from the present value of that Observable / the up-to-date
    value of that Computable (or that Computable raises now). -/
theorem C17_minimal {decls : Nat → List Decl} (hd : DeclsOK decls) {s s' : St} {progs : Nat → List Nat} (h : Reachable decls progs s)
    {fuel c : Nat} {r : R} (hr : step fuel s (.read c) = some (s', r)) :
    ∀ q x, s.comps q = some x → ∃ y, s'.comps q = some y ∧
      ((y.evals = x.evals ∧ (y.dirty = true → y = x)) ∨
       (x.evals < y.evals ∧ x.dirty = true ∧ (x.first = true ∨ ∃ e ∈ x.parents, Stale s' e))) := by
  obtain ⟨_, _, _, _, _, hab, hbl⟩ := (reachable_good hd h).read hr
  intro q x hx
  by_cases hq : q ≤ c
  · exact hbl q x hq hx
  · exact ⟨x, by rw [hab q (by omega)]; exact hx, Or.inl ⟨rfl, fun _ => rfl⟩⟩

/-- **A read runs nothing it need not run, also among the Computables it reads in turn** (the assembled part of
    minimality): whatever a read of `c` — returning or raising — does in nested reads, pre-checks and evaluations,
    every Computable whose cache is valid (not dirty) stays exactly as it is — its function does not run, its
    remembered values and its counter are untouched — and so does every Computable defined after `c`. -/
theorem C17_read_leaves_clean_and_later_untouched {decls : Nat → List Decl} (hd : DeclsOK decls) {s s' : St}
    {progs : Nat → List Nat} (h : Reachable decls progs s) {fuel c : Nat} {r : R} (hr : step fuel s (.read c) = some (s', r)) :
    (∀ q x, s.comps q = some x → x.dirty = false → s'.comps q = some x) ∧
    (∀ q, c < q → s'.comps q = s.comps q) := by
  obtain ⟨_, _, _, _, hk, hab, _⟩ := (reachable_good hd h).read hr
  exact ⟨hk, hab⟩

/-- A read of a Computable that is not dirty runs no function at all and changes nothing. -/
theorem C17_cached_read_is_free {decls : Nat → List Decl} (hd : DeclsOK decls) {s : St} {progs : Nat → List Nat} (h : Reachable decls progs s)
    {c : Nat} {x : Comp} (hx : s.comps c = some x) (hc : x.dirty = false) (fuel : Nat) :
    ∃ v, x.value = some v ∧ step (fuel + 1) s (.read c) = some (s, .ok v) := by
  have g := reachable_good hd h
  obtain ⟨v, hv, _⟩ := clean_den g.inv c x hx hc
  refine ⟨v, hv, ?_⟩
  simp [step, exec, stepF, getC, hx, callC, hc, hv, g.cur]

/-! ### cycles

`TSteps rec t s t' s'` (`Proofs/ComputedCycle.lean`): evaluating the function `t` from state `s` executes some of its
nodes — reads of Observables, reads of Computables, assignments, each with everything it triggers (pre-checks, nested
evaluations, notification cascades, user handlers), each returning normally — and arrives at the rest `t'` in state
`s'`.  `Computed.__call__` runs a function with `CURRENT_COMPUTED = p` and `EVALUATION_DEPTH > 0` (`evalBody`). -/

/-- **Cycle rejection** (G10 repaired).  Inside an evaluation on behalf of a Computed `p`, in *any* state: if the
    function reads the Observable `k` and its execution later — after any further reads, reads of Computables
    (cached, re-validated or re-evaluated, whatever their functions and the notified handlers do) and completed
    assignments — arrives at an assignment to `k`, then the evaluation raises `ValueError` at that very assignment:
    the assignment is not performed, no value is returned, nothing loops. -/
theorem C17_cycle_rejected (f p : Nat) (k : Key) (cont : V → Tree) (s : St) (hcur : s.cur = some p)
    (hdepth : 0 < s.depth) {v : V} {next : Tree} {s' : St}
    (path : TSteps (exec (f + 1)) (.read k cont) s (.write k v next) s') :
    evalTree (exec (f + 1)) (.read k cont) s = some (s', .err .value) := by
  cases path with
  | head h hs =>
    rw [evalTree_tstep h]
    cases h with
    | readTop _ _ hc => rw [hcur] at hc; cases hc
    | read _ _ hc ha => exact tsteps_write_rejected (.read hc hdepth ha) hs

/-- whatever values it reads, the function arrives at an assignment to `k` -/
inductive AlwaysWrites (k : Key) : Tree → Prop
  | write (v : V) (next : Tree) : AlwaysWrites k (.write k v next)
  | other (k' : Key) (v : V) (next : Tree) (h : AlwaysWrites k next) : AlwaysWrites k (.write k' v next)
  | read (k' : Key) (cont : V → Tree) (h : ∀ x, AlwaysWrites k (cont x)) : AlwaysWrites k (.read k' cont)
  | readC (c : Nat) (cont : V → Tree) (h : ∀ x, AlwaysWrites k (cont x)) : AlwaysWrites k (.readC c cont)

/-- **A cycle never returns a value**, with no hypothesis about the execution: a function that reads `k` and then, along every branch, gets to
    an assignment to `k` never returns a value — for every state, every fuel, whatever the Computables it reads and
    the handlers it triggers do (they may raise or not terminate; they cannot make the cycle pass). -/
theorem C17_cycle_never_returns (fuel p : Nat) (k : Key) (cont : V → Tree) (s : St) (hcur : s.cur = some p)
    (hdepth : 0 < s.depth) (hw : ∀ x, AlwaysWrites k (cont x)) {s' : St} {r : R}
    (h : evalTree (exec fuel) (.read k cont) s = some (s', r)) : ∃ e, r = .err e := by
  have key : ∀ t, AlwaysWrites k t → ∀ s s' r, Inside p k s → evalTree (exec fuel) t s = some (s', r) → ∃ e, r = .err e := by
    intro t ht
    induction ht with
    | write v next =>
      intro s s' r i h
      cases fuel with
      | zero => simp [evalTree, exec] at h
      | succ f => rw [write_inside i.cur i.mem f v next] at h; cases h; exact ⟨_, rfl⟩
    | other k' v next _ ih =>
      intro s s' r i h
      simp only [evalTree] at h
      split at h
      · cases h
      · cases h; exact ⟨_, rfl⟩
      · next hg => exact ih _ s' r (i.of_frame (exec_frame fuel _ _ _ _ hg)) h
    | read k' cont _ ih =>
      intro s s' r i h
      simp only [evalTree, i.cur] at h
      split at h
      · cases h; exact ⟨_, rfl⟩
      · next ha => exact ih _ _ s' r (i.of_frame (.of_addParent i.cur ha [k'])) h
    | readC c cont _ ih =>
      intro s s' r i h
      simp only [evalTree] at h
      split at h
      · cases h
      · cases h; exact ⟨_, rfl⟩
      · next hg => exact ih _ _ s' r (i.of_frame (exec_frame fuel _ _ _ _ hg)) h
  simp only [evalTree, hcur] at h
  split at h
  · cases h; exact ⟨_, rfl⟩
  · next ha => exact key _ (hw _) _ s' r (.read hcur hdepth ha) h

/-- along the path the function takes in the store `σ`: reads of Observables, then an assignment to `k` -/
inductive ReadsThenWrites (σ : Key → V) (k : Key) : Tree → Prop
  | write (v : V) (t : Tree) : ReadsThenWrites σ k (.write k v t)
  | read (k' : Key) (cont : V → Tree) (h : ReadsThenWrites σ k (cont (σ k'))) : ReadsThenWrites σ k (.read k' cont)

theorem evalTree_cycle (f p : Nat) (k : Key) {t : Tree} {s : St} (h : ReadsThenWrites s.store k t)
    (hcur : s.cur = some p) (hproc : k ∈ s.proc) : ∃ s' e, evalTree (exec (f + 1)) t s = some (s', .err e) := by
  generalize hσ : s.store = σ at h
  induction h generalizing s with
  | write v t => exact ⟨s, .value, write_inside hcur hproc f v t⟩
  | read k' cont _ ih =>
    simp only [evalTree, hcur]
    cases ha : addParent s p (.obs k') (s.store k') with | mk s1 r1 =>
    cases r1 with
    | err e => exact ⟨s1, e, rfl⟩
    | ok u =>
      obtain ⟨h1, _, h2, h3⟩ := addParent_ctx ha
      rw [hσ]
      exact ih (s := { s1 with proc := k' :: s1.proc }) (h1.trans hcur) (List.mem_cons_of_mem _ (h2 ▸ hproc))
        (h3.trans hσ)

/-- The direct cycle (the function reads `k`, reads other Observables, assigns `k`) needs no hypothesis about the
    execution at all: evaluating it — whatever the state — always ends, with an exception. -/
theorem C17_cycle_rejected_direct (f p : Nat) (k : Key) (cont : V → Tree) (s : St) (hcur : s.cur = some p)
    (h : ReadsThenWrites s.store k (cont (s.store k))) :
    ∃ s' e, evalTree (exec (f + 1)) (.read k cont) s = some (s', .err e) := by
  simp only [evalTree, hcur]
  cases ha : addParent s p (.obs k) (s.store k) with | mk s1 r1 =>
  cases r1 with
  | err e => exact ⟨s1, e, rfl⟩
  | ok u =>
    obtain ⟨h1, _, _, h3⟩ := addParent_ctx ha
    exact evalTree_cycle f p k (s := { s1 with proc := k :: s1.proc }) (h3 ▸ h) (h1.trans hcur) List.mem_cons_self

/-- **A cycle through a Computable is rejected** (G15 repaired).  Inside an evaluation on behalf of a Computed `p`,
    in *any* state: the function reads the Computable `c` and is handed the value `c` held before (`c` is served from
    its cache, or re-validated by its pre-check, or recomputed to the same value — so possibly no function reads any
    Observable now); if the walk over what `c` remembers (`sourcesOf` = `Computed._sources`) finds the Observable `k`,
    and the execution later — after any reads, reads of Computables, completed assignments — arrives at an assignment
    to `k`, the evaluation raises `ValueError` at that assignment.  (When `c` hands out a *new* value, its function ran
    inside this evaluation and its reads are on record by themselves: `C17_cycle_rejected` for that function.) -/
theorem C17_cycle_through_computable_rejected (f p c : Nat) (cont : V → Tree) (s : St) (hcur : s.cur = some p)
    (hdepth : 0 < s.depth) {x : Comp} (hx : s.comps c = some x) {s1 s' : St}
    (hread : exec (f + 1) (.readC c) s = some (s1, .ok x.value.join))
    {k : Key} (hdep : k ∈ sourcesOf s1 (c + 1) c) {v : V} {next : Tree}
    (path : TSteps (exec (f + 1)) (cont x.value.join) s1 (.write k v next) s') :
    evalTree (exec (f + 1)) (.readC c cont) s = some (s', .err .value) := by
  rw [evalTree_tstep (.readC c cont hread)]
  have fr := exec_frame (f + 1) _ _ _ _ hread
  exact tsteps_write_rejected ⟨fr.cur.trans hcur, by rw [fr.depth]; exact hdepth,
    getC_records (exec_frame f) hcur hx hread rfl k hdep⟩ path

/-- **The walk finds exactly the dependencies**: in every reachable state `sourcesOf` (what `Computed._sources`
    returns for `c`) is the set of Observables `c` depends on — the ones it remembers, and the ones the Computables it
    remembers depend on, to any depth (`c + 1` levels suffice: a function reads only Computables defined before it) -/
theorem C17_sources_are_the_dependencies {decls : Nat → List Decl} (hd : DeclsOK decls) {s : St}
    {progs : Nat → List Nat} (h : Reachable decls progs s) (c : Nat) (k : Key) :
    k ∈ sourcesOf s (c + 1) c ↔ DependsOn s c k := by
  refine ⟨dependsOn_of_sourcesOf (c + 1) c k, fun hdep => sourcesOf_of_dependsOn ?_ hdep (c + 1) (by omega)⟩
  intro q y hy c' v hm
  exact ((reachable_good hd h).inv.parents q y hy (.comp c') v hm).1 c' rfl

/-- nothing is evaluating and nothing is on record as read -/
def Idle (s : St) : Prop := s.cur = none ∧ s.depth = 0 ∧ s.proc = []

/-- **The record of what was read lives exactly as long as the outermost evaluation**: between top-level
    operations — whether they returned or raised — nothing is evaluating and `PROCESSING_SIGNALS` is empty, so an
    evaluation is only ever rejected for what was read during that same outermost evaluation. -/
theorem C17_cycle_record_per_evaluation (decls : Nat → List Decl) (progs : Nat → List Nat) :
    Idle (init decls progs) ∧
    ∀ (fuel : Nat) (s s' : St) (op : Op) (r : R), Idle s → step fuel s op = some (s', r) → Idle s' := by
  refine ⟨⟨rfl, rfl, rfl⟩, fun fuel s s' op r ⟨h1, h2, h3⟩ h => ?_⟩
  have f := step_frame fuel h
  exact ⟨f.cur.trans h1, f.depth.trans h2, f.idle h2 h1 h3⟩

/-! ### examples: values, handlers that read Computables while notified (finding G7, repaired) -/

/-- for the examples: an int as a value, int arithmetic on values (`None` is contagious) -/
@[reducible] def i (n : Int) : V := some n
def vmul (a : Int) (x : V) : V := x.map (a * ·)
def vdiv (a : Int) (x : V) : V := x.map (a / ·)
def vadd (x y : V) : V := x.bind fun a => y.map (a + ·)

def runOps (fuel : Nat) : St → List Op → Option (St × List R)
  | s, [] => some (s, [])
  | s, op :: ops =>
    match step fuel s op with
    | none => none
    | some (s1, r) => (runOps fuel s1 ops).map fun res => (res.1, r :: res.2)

/-- one owner with an Observable `x` (name 0) and a Computable `c` (name 1) -/
def exDecls : Nat → List Decl := fun o => if o = 0 then [⟨0, .obs, [.change]⟩, ⟨1, .comp, [.change]⟩] else []
/-- `c = 10 * x` -/
def exTree : Tree := .read (0, 0) fun x => .ret (vmul 10 x)

theorem den_exTree {s : St} {v : V} (h : Den s exTree v) : v = vmul 10 (s.store (0, 0)) := by
  cases h with
  | read _ _ _ h => cases h; rfl

def g7progs : Nat → List Nat := fun h => if h = 0 then [0] else []
def g7ops : List Op := [.define 0 0 1 exTree, .observe (0, 0) 0, .assign (0, 0) (i 7), .read 0]

/-- **G7 (repaired)**: `c = Computed(10*x)` (x = 0); `observe(x, h)` where `h` reads `c` whenever it is notified;
    `x = 7; read c` returns 70.  Before the repair `Observable.__set__` notified before it stored: the handler's read
    re-validated `c` against the old `x`, `c` was clean when the store happened, and the read returned 0. -/
example : (runOps 30 (init exDecls g7progs) g7ops).map (·.2) = some [.ok (i 0), .ok none, .ok none, .ok (i 70)] := by
  decide +kernel

/-- non-vacuity of `OpOK` for a handler that reads Computables: it may subscribe to the Observable `x` -/
example : OpOK (init exDecls g7progs) (.observe (0, 0) 0) := .observe _ _ (Or.inr (by decide))

/-- the same history without the reading handler: 70 as well -/
example : (runOps 30 (init exDecls fun _ => []) g7ops).map (·.2) = some [.ok (i 0), .ok none, .ok none, .ok (i 70)] := by
  decide +kernel

/-- values may be `None` (all theorems above quantify over such functions too): `c0 = None if x == 0 else 5`,
    `c1 = 1 if c0 is None else 2`.  The dirty signal of a Computable carries `None` as its new value: a `_set_dirty`
    that ignored signals with equal old and new value would never invalidate `c1` (seeded change
    `C17-r2-set-dirty-ignores-equal`) -/
example : (runOps 40 (init (fun o => if o = 0 then [⟨0, .obs, [.change]⟩, ⟨1, .comp, [.change]⟩, ⟨2, .comp, [.change]⟩] else [])
      fun _ => [])
    [.define 0 0 1 (.read (0, 0) fun x => if x = i 0 then .ret none else .ret (i 5)),
     .define 1 0 2 (.readC 0 fun a => if a = none then .ret (i 1) else .ret (i 2)),
     .assign (0, 0) (i 1), .read 1, .assign (0, 0) none, .read 1, .assign (0, 0) (i 0), .read 1, .read 0]).map (·.2) =
    some [.ok none, .ok (i 1), .ok none, .ok (i 2), .ok none, .ok (i 2), .ok none, .ok (i 1), .ok none] := by
  decide +kernel

/-! ### functions that raise: non-vacuity -/

/-- one owner: Observables `x` (0), `d` (1), Computables `c4` (2), `c` (3); a second owner with the Observable `flag` -/
def flDecls : Nat → List Decl := fun o =>
  if o = 0 then [⟨0, .obs, [.change]⟩, ⟨1, .obs, [.change]⟩, ⟨2, .comp, [.change]⟩, ⟨3, .comp, [.change]⟩]
  else if o = 1 then [⟨0, .obs, [.change]⟩] else []
/-- `c4 = 10 // d` -/
def divTree : Tree := .read (0, 1) fun d => if d = i 0 then .fail else .ret (vdiv 10 d)

/-- G11 (repaired): `c4 = 10 // d` with `d = 1` is 10; `d = 0`: the read raises; the next read raises again (before
    the repair it re-validated the half-built dependency set and served the 10 cached before the failure); `d = 2`: 5 -/
example : (runOps 40 (init flDecls fun _ => [])
    [.assign (0, 1) (i 1), .define 0 0 2 divTree, .assign (0, 1) (i 0), .read 0, .read 0, .assign (0, 1) (i 2), .read 0]).map (·.2) =
    some [.ok none, .ok (i 10), .ok none, .err .user, .err .user, .ok none, .ok (i 5)] := by decide +kernel

/-- G12 (repaired): `c = x + (c4 if flag else 0)` reads `x`, then `flag` (another owner), then `c4`: the remembered
    values are kept per owner, so the dirty pre-check looks at `x`, `c4`, `flag` in that order.  With `flag = 0` and
    `d = 0` the function does not read `c4` any more and returns 0; before the repair the pre-check let the
    `ZeroDivisionError` of `c4` through and every later read of `c` raised -/
example : (runOps 60 (init flDecls fun _ => [])
    [.assign (0, 1) (i 1), .assign (1, 0) (i 1), .define 0 0 2 divTree,
     .define 1 0 3 (.read (0, 0) fun x => .read (1, 0) fun fl => if fl = i 0 then .ret x else .readC 0 fun a => .ret (vadd x a)),
     .assign (1, 0) (i 0), .assign (0, 1) (i 0), .read 1, .read 1]).map (·.2) =
    some [.ok none, .ok none, .ok (i 10), .ok (i 10), .ok none, .ok none, .ok (i 0), .ok (i 0)] := by decide +kernel

/-- non-vacuity of `C17_raise_is_fresh` / `DenFail`: with `d = 0` the function of `c4` raises -/
example (s : St) (h : s.store (0, 1) = i 0) : DenFail s divTree := by
  refine .read _ _ ?_
  rw [h]; exact .fail

/-- non-vacuity of the hypotheses about definitions: `divTree` is an admissible function (`d = 0`: the `fail` leaf,
    otherwise the `ret` leaf) -/
example : Pure divTree ∧ Ranked 0 divTree :=
  ⟨.read _ _ fun d => by by_cases h : d = i 0 <;> simp only [h, if_true, if_false] <;> first | exact .fail | exact .ret _,
   .read _ _ fun d => by by_cases h : d = i 0 <;> simp only [h, if_true, if_false] <;> first | exact .fail | exact .ret _⟩

/-- non-vacuity of `C17_read_leaves_clean_and_later_untouched`: `c4 = 10 // d`, `c = x + c4`; after `x = 3` the read
    of `c` runs the function of `c` a second time and not that of `c4` (clean: counter still 1) -/
example : (runOps 60 (init flDecls fun _ => [])
    [.assign (0, 1) (i 1), .define 0 0 2 divTree,
     .define 1 0 3 (.read (0, 0) fun x => .readC 0 fun a => .ret (vadd x a)),
     .assign (0, 0) (i 3), .read 1]).map
      (fun res => (res.2.getLast?, (res.1.comps 0).map (·.evals), (res.1.comps 1).map (·.evals))) =
    some (some (.ok (i 13)), some 1, some 2) := by decide +kernel

/-- non-vacuity of `C17_minimal` for a Computable read in turn: `c4 = 10 // d`, `c = x + c4`.  `d = 2`, then `d = 1`
    again: reading `c` re-validates both and runs nothing (counters 1, 1); `d = 2`: reading `c` runs both (2, 2), `c4`
    because the `d` it remembers is stale, `c` because the `c4` it remembers is -/
example : (runOps 60 (init flDecls fun _ => [])
    [.assign (0, 1) (i 1), .define 0 0 2 divTree,
     .define 1 0 3 (.read (0, 0) fun x => .readC 0 fun a => .ret (vadd x a)),
     .assign (0, 1) (i 2), .assign (0, 1) (i 1), .read 1]).map
      (fun res => (res.2.getLast?, (res.1.comps 0).map (·.evals), (res.1.comps 1).map (·.evals))) =
    some (some (.ok (i 10)), some 1, some 1) := by decide +kernel

example : (runOps 60 (init flDecls fun _ => [])
    [.assign (0, 1) (i 1), .define 0 0 2 divTree,
     .define 1 0 3 (.read (0, 0) fun x => .readC 0 fun a => .ret (vadd x a)),
     .assign (0, 1) (i 2), .read 1]).map
      (fun res => (res.2.getLast?, (res.1.comps 0).map (·.evals), (res.1.comps 1).map (·.evals))) =
    some (some (.ok (i 5)), some 2, some 2) := by decide +kernel

/-! ### cycles: non-vacuity -/

def cyDecls : Nat → List Decl :=
  fun o => if o = 0 then [⟨0, .obs, [.change]⟩, ⟨1, .obs, [.change]⟩, ⟨2, .comp, [.change]⟩, ⟨3, .comp, [.change]⟩] else []
/-- `f = (read x; p := 1; x := 1; return 0)`: the witness of G10 -/
def cyTree : Tree := .read (0, 0) fun _ => .write (0, 1) (i 1) (.write (0, 0) (i 1) (.ret (i 0)))

/-- the G10 witness is rejected (before the repair it was evaluated without error: the assignment to `p` cleared the
    record) -/
example : (step 30 (init cyDecls fun _ => []) (.define 0 0 2 cyTree)).map (·.2) = some (.err .value) := by
  decide +kernel

/-- the direct cycle `(read x; x := 1)` is rejected -/
example :
    (step 30 (init cyDecls fun _ => []) (.define 0 0 2 (.read (0, 0) fun _ => .write (0, 0) (i 1) (.ret (i 0))))).map (·.2) =
      some (.err .value) := by
  decide +kernel

/-- a cycle with a nested evaluation between the read and the assignment is rejected (`c0 = p`,
    `c1 = (read x; read c0; x := 1)`, `c0` dirty and changed when `c1` reads it) -/
example : (runOps 40 (init cyDecls fun _ => [])
    [.define 0 0 2 (.read (0, 1) fun x => .ret x), .assign (0, 1) (i 5),
     .define 1 0 3 (.read (0, 0) fun _ => .readC 0 fun _ => .write (0, 0) (i 1) (.ret (i 0)))]).map (·.2) =
    some [.ok (i 0), .ok none, .err .value] := by decide +kernel

/-- no false rejection: `c0 = x` is evaluated, afterwards the function of `c1` assigns `x` without reading it
    (before the repair the read of the *earlier* evaluation was still on record and `c1` was rejected) -/
example : (runOps 40 (init cyDecls fun _ => [])
    [.define 0 0 2 (.read (0, 0) fun x => .ret x), .define 1 0 3 (.write (0, 0) (i 5) (.ret (i 1))), .read 0]).map (·.2) =
    some [.ok (i 0), .ok (i 1), .ok (i 5)] := by decide +kernel

/-- `c0 = x` -/
def g15c0 : Tree := .read (0, 0) fun x => .ret x
/-- `c1 = (a = c0; x = 5; return a)` -/
def g15c1 : Tree := .readC 0 fun a => .write (0, 0) (i 5) (.ret a)

/-- G15 (repaired): `c0` is served from its cache when `c1` reads it, no function reads `x` during the evaluation of
    `c1`, and `c1` depends on `x`.  The definition of `c1` and every read of it are rejected; before the repair the
    history returned `[0, 0, 0, 5, 5]`: the third operation served 0 from a clean `c1` while `c0` evaluated to 5 -/
example : (runOps 60 (init cyDecls fun _ => [])
    [.define 0 0 2 g15c0, .define 1 0 3 g15c1, .read 1, .read 0, .read 1]).map (·.2) =
    some [.ok (i 0), .err .value, .err .value, .ok (i 0), .err .value] := by decide +kernel

/-- no false rejection: `c1 = (a = c0; p = 5; return a)` assigns an Observable `c0` does not depend on -/
example : (runOps 60 (init cyDecls fun _ => [])
    [.define 0 0 2 g15c0, .define 1 0 3 (.readC 0 fun a => .write (0, 1) (i 5) (.ret a)), .read 1, .read 0]).map (·.2) =
    some [.ok (i 0), .ok (i 0), .ok (i 0), .ok (i 0)] := by decide +kernel

/-- a state inside the evaluation of Computed 1 = `g15c1`, with `c0 = x` defined and clean -/
def g15St : St :=
  match step 30 (init cyDecls fun _ => []) (.define 0 0 2 g15c0) with
  | some r => { r.1.setComp 1 { owner := 0, name := 3, tree := g15c1 } with cur := some 1, depth := 1 }
  | none => init cyDecls fun _ => []

/-- non-vacuity of `C17_cycle_through_computable_rejected`: in `g15St` the read of `c0` is served from the cache (the
    value it held, its function does not run: counter still 1), the walk finds `x`, and the function is at the
    assignment to `x` at once (`TSteps.refl`) -/
example : g15St.cur = some 1 ∧ 0 < g15St.depth ∧ (g15St.comps 0).map (·.value.join) = some (i 0) ∧
    (exec 30 (.readC 0) g15St).map (fun r => (r.2, decide ((0, 0) ∈ sourcesOf r.1 1 0), (r.1.comps 0).map (·.evals))) =
      some (.ok (i 0), true, some 1) := by decide +kernel

/-- non-vacuity of `DependsOn` through a chain: after `c0 = x`, `c1 = c0` the Computed `c1` depends on `x` -/
example : (runOps 40 (init cyDecls fun _ => [])
    [.define 0 0 2 g15c0, .define 1 0 3 (.readC 0 fun a => .ret a)]).map
      (fun r => (sourcesOf r.1 2 1, sourcesOf r.1 1 0, sourcesOf r.1 1 1)) = some ([(0, 0)], [(0, 0)], []) := by
  decide +kernel

/-- a state inside the evaluation of Computed 0 -/
def cySt : St :=
  { (init cyDecls fun _ => []).setComp 0 { owner := 0, name := 2, tree := cyTree } with cur := some 0, depth := 1 }

/-- non-vacuity of `C17_cycle_rejected`: the path of the G10 witness — read `x`, assign `p` (completed), arrive at the
    assignment to `x` — exists -/
example : ∃ s', TSteps (exec 30) cyTree cySt (.write (0, 0) (i 1) (.ret (i 0))) s' := by
  have H : let a := addParent cySt 0 (.obs (0, 0)) (cySt.store (0, 0))
      a.2 = .ok none ∧
      (exec 30 (.assign (0, 1) (i 1)) { a.1 with proc := (0, 0) :: a.1.proc }).map (·.2) = some (.ok none) := by
    decide +kernel
  generalize ha : addParent cySt 0 (.obs (0, 0)) (cySt.store (0, 0)) = a at H
  obtain ⟨s1, r1⟩ := a
  simp only [Option.map_eq_some_iff] at H
  obtain ⟨h1, ⟨s3, r3⟩, hs, h3⟩ := H
  cases h1; cases h3
  exact ⟨s3, .head (.read (0, 0) _ rfl ha) (.head (.write (0, 1) (i 1) _ hs) (.refl _ _))⟩

/-- non-vacuity of `C17_cycle_never_returns` -/
example : ∀ x : V, AlwaysWrites (0, 0) ((fun _ => Tree.write (0, 1) (i 1) (.write (0, 0) (i 1) (.ret (i 0)))) x) :=
  fun _ => .other _ _ _ (.write _ _)

/-- non-vacuity: the G8 chain (`c0 = x`, `c1 = if flag then 10*c0 else 0`) — every read is fresh and the second
    read of an unchanged chain is served from the cache -/
example : (runOps 40 (init (fun o => if o = 0 then [⟨0, .obs, [.change]⟩, ⟨1, .obs, [.change]⟩, ⟨2, .comp, [.change]⟩,
      ⟨3, .comp, [.change]⟩] else []) fun _ => [])
    [.define 0 0 2 (.read (0, 0) fun x => .ret x),
     .define 1 0 3 (.read (0, 1) fun fl => if fl = i 0 then .ret (i 0) else .readC 0 fun a => .ret (vmul 10 a)),
     .assign (0, 0) (i 1), .assign (0, 1) (i 1), .read 1, .assign (0, 0) (i 0), .read 1, .read 1]).map (·.2) =
    some [.ok (i 0), .ok (i 0), .ok none, .ok none, .ok (i 10), .ok none, .ok (i 0), .ok (i 0)] := by decide +kernel

/-- non-vacuity of `DeclsOK`: the declarations of the examples above -/
example : DeclsOK exDecls := by
  intro o; unfold exDecls; split <;> simp

/-- non-vacuity of `Reachable` / `DefineOK`: `c = Computed(10*x)` defined, `x = 7` assigned, `c` read: a reachable state
    in which the read returned 70 -/
example : ∃ s, Reachable exDecls (fun _ => []) s ∧ ∃ s' , step 30 s (.read 0) = some (s', .ok (i 70)) := by
  have ok0 : DefineOK (init exDecls fun _ => []) 0 0 1 exTree :=
    ⟨rfl, .read _ _ fun _ => .ret _, .read _ _ fun _ => .ret _, .read _ _ (by decide) fun _ => .ret _, by decide,
      by rintro ⟨c, x, hx, _⟩; simp [init] at hx⟩
  have H : ((step 30 (init exDecls fun _ => []) (.define 0 0 1 exTree)).bind fun r1 =>
      (step 30 r1.1 (.assign (0, 0) (i 7))).bind fun r2 => (step 30 r2.1 (.read 0)).map (·.2)) = some (.ok (i 70)) := by
    decide +kernel
  simp only [Option.bind_eq_some_iff, Option.map_eq_some_iff] at H
  obtain ⟨⟨s1, v1⟩, hs1, ⟨s2, v2⟩, hs2, ⟨s3, v3⟩, hs3, h3⟩ := H
  cases h3
  exact ⟨s2, .step (.step .init (.define 0 0 1 exTree ok0) hs1) (.assign (0, 0) (i 7)) hs2, s3, hs3⟩

end Mesa.Computed
