import MesaModel.Proofs.Collect
import MesaModel.Proofs.CollectHeap
/-!
# C12 — DataCollector records exactly what the model showed at each collect

Property theorems and their non-vacuity examples (helper lemmas: `Proofs/Collect.lean`, `Proofs/CollectHeap.lean`;
models: `Model/Collect.lean`, `Model/CollectHeap.lean`).

A *history* is any list of `Op`s (create / remove agents, `step`, set / mutate in place / delete model
and agent attributes, `collect`, `add_table_row`) applied to a fresh `DataCollector` for arbitrary
reporter dictionaries `cfg` (the four reporter forms at model, agent and agent-type level, each an
arbitrary function of the snapshot) and arbitrary tables.  `storedSnaps cfg s₀ ops` is the list of
model snapshots at those `collect` calls of the history that got past the validation of the model
reporters (all of them except a first one whose string reporter names a missing attribute or whose plain
function raises at the trial call: that call raises before storing anything).

A reporter function returns a value or raises (`Except Err Val`).  `Total cfg` = no reporter ever raises:
the domain of C12's quantifier; the theorems that carry it are the property's clauses.  The theorems without
it say what the code does when a reporter raises (C12 is silent there; C18 does not list `collect`): the call
ends where the reporter stands and what was appended before stays — a *partial collect is visible*.
-/
namespace Mesa.Collect

/-- Each collect appends exactly one value per model reporter — the reporter evaluated on the model as
    it was at that moment — and one entry to `_collection_steps`.  The history after the collect is
    arbitrary (attributes rebound, lists mutated in place, agents removed): what was stored is a function
    of the snapshots alone, so later mutation cannot reach it. -/
theorem C12_model_vars_are_snapshots (cfg : Cfg) (hT : Total cfg) (tables : List (Nat × List Nat)) (ops : List Op) :
    (run cfg (init cfg tables) ops).modelVars =
      cfg.mreps.map (fun r => (storedSnaps cfg (init cfg tables) ops).map r.eval) ∧
    (run cfg (init cfg tables) ops).collSteps = (storedSnaps cfg (init cfg tables) ops).map (·.steps) := by
  have h := holds_history hT tables ops
  exact ⟨h.modelVars, h.collSteps⟩

/-- Values stored by a prefix of a history are never touched by its continuation: every column after
    `ops₁ ++ ops₂` is the column after `ops₁` followed by what the collects of `ops₂` add. -/
theorem C12_stored_values_immune (cfg : Cfg) (hT : Total cfg) (tables : List (Nat × List Nat)) (ops₁ ops₂ : List Op) :
    (run cfg (init cfg tables) (ops₁ ++ ops₂)).modelVars =
      List.zipWith (· ++ ·) (run cfg (init cfg tables) ops₁).modelVars
        (cfg.mreps.map fun r => (storedSnaps cfg (run cfg (init cfg tables) ops₁) ops₂).map r.eval) := by
  rw [(C12_model_vars_are_snapshots cfg hT tables (ops₁ ++ ops₂)).1, (C12_model_vars_are_snapshots cfg hT tables ops₁).1,
    storedSnaps_append]
  generalize cfg.mreps = l
  induction l with
  | nil => rfl
  | cons r rs ih => simp

/-- **Immune to later mutation, with references, to any depth.**  In the heap model
    (`Model/CollectHeap.lean`: a mutable list is an object with an identity whose items are `None`, ints or REFERENCES to
    other objects — `[[1], [2]]` is three objects, an object may contain itself —; attributes hold references;
    `model.a = model.b[p…]` gives an object one more name; `model.a[p…].append(x)`, `.append(model.b[q…])`, `.pop()` mutate
    the addressed object in place, at any nesting level and through whichever name; `collect` stores
    `deepcopy(getattr(model, a, None))` = fresh identities for everything reachable, same shape): after EVERY history —
    whatever is rebound, aliased or mutated after a collect — reading the stored column at the end shows, entry by
    entry and down to EVERY depth `d` (so: the whole tree the entry denotes; `read d` cuts below depth `d` only because an
    object containing itself denotes an infinite tree), exactly what the reporter showed at the moment of its collect.
    This is what justifies treating collected model-level values as plain immutable values in `Model/Collect.lean` and in
    the driver.  It depends on the copy being deep: for `Copy.shallow` (`list(v)` / `copy.copy(v)`) and `Copy.alias`
    (the reference is stored) the statement is false — `C12_shallow_copy_not_immune`, `C12_stored_reference_not_immune`.
    One string reporter; the other three reporter forms hand their value to the same `deepcopy`. -/
theorem C12_deepcopy_makes_stored_values_immune (ops : List CollectHeap.HOp) (d : Nat) :
    CollectHeap.stored .deep d ops = CollectHeap.seen .deep d CollectHeap.empty ops := by
  simpa [CollectHeap.stored, CollectHeap.empty] using
    CollectHeap.run_deep (fun _ => False) CollectHeap.empty ops CollectHeap.inv_empty d

/-- the depth-2 history used below: `model.x2 = [model.x0, model.x1] = [[1], [2]]; collect; model.x2[0].append(5)` -/
def heapInnerOps : List CollectHeap.HOp :=
  [.setNew 0 [1], .setNew 1 [2], .setNew 2 [], .appRef 2 [] 0 [], .appRef 2 [] 1 [], .collect 2, .app 2 [0] 5]

/-- **A shallow copy is not enough**: a collector storing `list(v)` shows the inner append made after the collect —
    the stored entry reads `[[1, 5], [2]]` where the reporter showed `[[1], [2]]`.  (At depth 1 — the outer list —
    the shallow copy is immune.) -/
theorem C12_shallow_copy_not_immune :
    ∃ ops d, CollectHeap.stored .shallow d ops ≠ CollectHeap.seen .shallow d CollectHeap.empty ops := by
  refine ⟨heapInnerOps, 2, ?_⟩
  have h1 : CollectHeap.stored .shallow 2 heapInnerOps = [.node [.node [.int 1, .int 5], .node [.int 2]]] := by rfl
  have h2 : CollectHeap.seen .shallow 2 CollectHeap.empty heapInnerOps = [.node [.node [.int 1], .node [.int 2]]] := by rfl
  rw [h1, h2]; simp

/-- **Storing the reference is not enough** either (already for a flat value: `model.x0 = [1]; collect; model.x0.append(5)`) -/
theorem C12_stored_reference_not_immune :
    ∃ ops d, CollectHeap.stored .alias d ops ≠ CollectHeap.seen .alias d CollectHeap.empty ops := by
  refine ⟨[.setNew 0 [1], .collect 0, .app 0 [] 5], 1, ?_⟩
  have h1 : CollectHeap.stored .alias 1 [.setNew 0 [1], .collect 0, .app 0 [] 5] = [.node [.int 1, .int 5]] := by rfl
  have h2 : CollectHeap.seen .alias 1 CollectHeap.empty [.setNew 0 [1], .collect 0, .app 0 [] 5] = [.node [.int 1]] := by rfl
  rw [h1, h2]; simp

/-- A collect at which no model reporter and no agent reporter raises records, under the current step, exactly
    one row per agent registered at that moment, in registry order: `(steps, unique_id, the values the agent
    reporters return for that agent)`. -/
theorem C12_collect_records_registered_agents (cfg : Cfg) (s : State) (hs : stores cfg s = true)
    (hm : ∀ r ∈ cfg.mreps, r.exc s.snap = none) (ha : aOk cfg s.snap = true) (hne : cfg.areps ≠ []) :
    (collect cfg s).1.records.lookup s.steps = some (agentRows cfg s.snap) ∧
    (agentRows cfg s.snap).map (·.id) = s.agents.map (·.id) ∧
    ∀ row ∈ agentRows cfg s.snap, row.step = s.steps ∧
      ∃ ag ∈ s.agents, row.id = ag.id ∧ row.vals = cfg.areps.map fun r => r.eval s.snap ag := by
  refine ⟨?_, ?_, ?_⟩
  · rw [collect_eq hs]
    simp [mLoop_snd_none _ _ _ hm, ha, hne, lookup_setKey_self]
  · simp [agentRows, mkRow]
  · intro row hrow
    obtain ⟨ag, hag, rfl⟩ := List.mem_map.mp hrow
    exact ⟨rfl, ag, hag, rfl, rfl⟩

/-- Over a whole history `_agent_records` is a dict with strictly increasing step keys whose entry for
    step `k` is the rows of the last storing collect made at step `k` (several collects in one step
    overwrite each other); there is an entry exactly for the steps at which a collect stored. -/
theorem C12_agent_records_by_step (cfg : Cfg) (hT : Total cfg) (tables : List (Nat × List Nat)) (ops : List Op)
    (hne : cfg.areps ≠ []) :
    ((run cfg (init cfg tables) ops).records.map (·.1)).Pairwise (· < ·) ∧
    ∀ k, (run cfg (init cfg tables) ops).records.lookup k =
      (lastWith (fun sn => sn.steps == k) (storedSnaps cfg (init cfg tables) ops)).map (agentRows cfg) := by
  have h := holds_history hT tables ops
  rw [h.records_of_ne hne]
  exact ⟨keys_assign_sorted _ _ _ h.sorted, fun k => lookup_assign _ _ _ k⟩

/-- The agent frame is a lossless re-indexing of those records, stated as a function of the history: for each step at
    which a collect stored, in increasing step order (`assign` = the dict written by the storing collects in turn), the
    rows `agentRows` of the *last* storing collect at that step (`C12_agent_records_by_step`), rows of one step in the
    order of `model.agents` at that collect; it is the rows of `_agent_records` concatenated in key order; one value per
    agent reporter in every row. -/
theorem C12_agent_frame_is_records (cfg : Cfg) (hT : Total cfg) (tables : List (Nat × List Nat)) (ops : List Op)
    (hne : cfg.areps ≠ []) :
    agentFrame cfg (run cfg (init cfg tables) ops) =
      .ok ((assign (·.steps) (agentRows cfg) (storedSnaps cfg (init cfg tables) ops)).flatMap (·.2)) ∧
    agentFrame cfg (run cfg (init cfg tables) ops) =
      .ok ((run cfg (init cfg tables) ops).records.flatMap (·.2)) ∧
    ∀ row ∈ (run cfg (init cfg tables) ops).records.flatMap (·.2), row.vals.length = cfg.areps.length := by
  have h := (holds_history hT tables ops).records_of_ne hne
  have hf : agentFrame cfg (run cfg (init cfg tables) ops) = .ok ((run cfg (init cfg tables) ops).records.flatMap (·.2)) := by
    rw [agentFrame, if_neg (by simpa using hne)]
  refine ⟨by rw [hf, h], hf, ?_⟩
  intro row hrow
  obtain ⟨e, hm, hr⟩ := List.mem_flatMap.mp hrow
  rw [h] at hm
  -- every entry of the dict was written by some collect
  obtain ⟨sn, _, rfl⟩ := mem_assign _ _ _ e hm
  obtain ⟨ag, _, rfl⟩ := List.mem_map.mp hr
  simp [mkRow]

/-- The model frame is rectangular — one row per storing collect, one column per model reporter holding
    that reporter's value at each of those collects — so `pd.DataFrame(model_vars)` never sees ragged input. -/
theorem C12_model_frame_is_model_vars (cfg : Cfg) (hT : Total cfg) (tables : List (Nat × List Nat)) (ops : List Op)
    (hne : cfg.mreps ≠ []) :
    modelFrame cfg (run cfg (init cfg tables) ops) =
      .ok ((storedSnaps cfg (init cfg tables) ops).length,
           cfg.mreps.map fun r => (storedSnaps cfg (init cfg tables) ops).map r.eval) := by
  exact modelFrame_of_cols _ (fun r => r.eval) hne (holds_history hT tables ops).modelVars

/-- `_agenttype_records` is, like the agent records, a dict over the steps of the storing collects whose
    entry for step `k` is what the last collect at step `k` wrote: one list of rows per agent-type key. -/
theorem C12_agenttype_records_by_step (cfg : Cfg) (hT : Total cfg) (tables : List (Nat × List Nat)) (ops : List Op)
    (hne : cfg.treps ≠ []) :
    ((run cfg (init cfg tables) ops).typeRecords.map (·.1)).Pairwise (· < ·) ∧
    ∀ k, (run cfg (init cfg tables) ops).typeRecords.lookup k =
      (lastWith (fun sn => sn.steps == k) (storedSnaps cfg (init cfg tables) ops)).map (typeDict cfg) := by
  have h := holds_history hT tables ops
  rw [h.typeRecords_of_ne hne]
  exact ⟨keys_assign_sorted _ _ _ h.sorted, fun k => lookup_assign _ _ _ k⟩

/-- What one collect writes for an agent-type key `T` (all keys being Agent classes, keys distinct as in a
    dict, no agent-type reporter raising on the agents it is applied to): one row per agent of class `T` — `T` a
    concrete class without subclassed instances, or a base class without direct instances (C12's quantifier) —
    with `T`'s reporters evaluated on that agent.  Row order: a class with direct instances is read from
    `agents_by_type[T]`, whose order no reordering of `model.agents` touches — its rows come in creation order
    (ascending `unique_id`); a base class without direct instances is filtered out of `model.agents` — its rows
    follow the current order of `model.agents`.  While `model.agents` is in creation order (`IdSorted`: always,
    unless it was reordered in place, see `C12_creation_order_without_reorder`) the two coincide. -/
theorem C12_agenttype_rows_are_class_members (cfg : Cfg) (sn : Snap) (T : Nat) (reps : List ARep)
    (hT : cfg.treps.lookup T = some reps) (hnd : (cfg.treps.map (·.1)).Nodup)
    (hcls : ∀ x ∈ cfg.treps, cfg.isAgentClass x.1 = true) (hrefl : ∀ c, cfg.isSub c c = true)
    (hnr : ∀ x ∈ cfg.treps, ∀ r ∈ x.2, ∀ ag ∈ sn.agents, r.exc sn ag = none)
    (hq : (∀ a ∈ sn.agents, cfg.isSub a.ty T = true → a.ty = T) ∨ (∀ a ∈ sn.agents, a.ty ≠ T)) :
    let members := sn.agents.filter fun a => cfg.isSub a.ty T
    let direct := sn.agents.any fun a => a.ty == T
    (typeDict cfg sn).lookup T =
      some ((if direct then byCreation members else members).map (mkRow reps sn)) ∧
    (byCreation members).Perm members ∧ (byCreation members).Pairwise (fun a b => a.id ≤ b.id) ∧
    (IdSorted sn.agents → (typeDict cfg sn).lookup T = some (members.map (mkRow reps sn))) := by
  intro members direct
  have hk : ∀ x ∈ cfg.treps, KeyOk cfg sn x := fun x hx => keyOk_of_agentClass (hcls x hx) (hnr x hx)
  have hA : cfg.isAgentClass T = true := hcls (T, reps) (mem_of_lookup hT)
  have hmain : (typeDict cfg sn).lookup T =
      some ((if direct then byCreation members else members).map (mkRow reps sn)) := by
    rw [typeDict_lookup cfg sn hk hnd hT, classAgents_members cfg sn T hA hrefl hq]
    rfl
  refine ⟨hmain, byCreation_perm _, byCreation_sorted _, ?_⟩
  intro hs
  rw [hmain, byCreation_of_idSorted (hs.filter _)]
  cases direct <;> rfl

/-- An in-place reordering of `model.agents` — `sort(…, inplace=True)` by id or by a key, or `shuffle(inplace=True)`
    drawing *any* permutation of the positions (`ReKind.perm p`, so the histories of every theorem of this file contain
    shuffles with every possible outcome, not only reversals and rotations) — touches no other field of the state: what
    the DataCollector holds, the step counter, the attributes are as before; it never raises; and the registered
    agents are the same agents, each as often as before. -/
theorem C12_reorder_only_permutes_agents (cfg : Cfg) (s : State) (k : ReKind) :
    (apply cfg s (.reorder k)).1 = { s with agents := (apply cfg s (.reorder k)).1.agents } ∧
    (apply cfg s (.reorder k)).2 = none ∧ (apply cfg s (.reorder k)).1.agents.Perm s.agents :=
  ⟨rfl, rfl, reorderList_perm k s.agents⟩

/-- **`shuffle(inplace=True)`, whatever it draws**: for every permutation `p` of the positions the agent that was at
    position `p[j]` is afterwards at position `j` — so the rows of the next collect (`C12_collect_records_registered_agents`:
    one per agent, in the order of `model.agents` at that moment) come in that order, whichever it is. -/
theorem C12_shuffle_any_order (cfg : Cfg) (s : State) (p : List Nat) (hp : p.Perm (List.range s.agents.length)) :
    (apply cfg s (.reorder (.perm p))).1.agents.length = s.agents.length ∧
    ∀ j : Nat, (apply cfg s (.reorder (.perm p))).1.agents[j]? = (p[j]?).bind (fun i => s.agents[i]?) := by
  have hperm : isPermOfRange p s.agents.length = true := List.isPerm_iff.mpr hp
  have hlt : ∀ i ∈ p, i < s.agents.length := fun i hi => List.mem_range.mp (hp.mem_iff.mp hi)
  have h := filterMap_getElem?_pick s.agents p hlt
  simp only [apply, reorderList, hperm, if_true]
  exact ⟨by rw [h.1, hp.length_eq, List.length_range], h.2⟩

/-- `model.agents` is in creation order (strictly ascending `unique_id`) after every history that does not
    reorder it in place; after any history at all the ids are distinct and below the next id to be handed out.
    With `C12_collect_records_registered_agents` (rows in the order of `model.agents` at the collect, whatever that
    order is) this is the row-order clause: creation order unless the user reordered the registry, then that order. -/
theorem C12_creation_order_without_reorder (cfg : Cfg) (tables : List (Nat × List Nat)) (ops : List Op) :
    ((run cfg (init cfg tables) ops).agents.map (·.id)).Nodup ∧
    (∀ a ∈ (run cfg (init cfg tables) ops).agents, a.id < (run cfg (init cfg tables) ops).nextId) ∧
    ((∀ op ∈ ops, noReorder op = true) → IdSorted (run cfg (init cfg tables) ops).agents) := by
  have h0 : IdsInv (init cfg tables) := ⟨List.nodup_nil, by simp [init]⟩
  have h := run_idsInv cfg _ ops h0
  exact ⟨h.1, fun a ha => h.2 _ (List.mem_map_of_mem ha), fun hops => run_idSorted cfg _ ops hops h0 List.Pairwise.nil⟩

/-- `get_agenttype_vars_dataframe(T)` for a key `T` of the reporter dict (all keys Agent classes, keys distinct): every
    per-step dict written by a storing collect has an entry for `T` (the `if agent_type in records` filter never drops a
    step, no default is taken), that entry is the rows of `T`'s agents at the last storing collect `sn` of the step
    (`classAgents`, characterised by `C12_agenttype_rows_are_class_members`) with `T`'s reporters, and the frame is those
    entries concatenated in increasing step order. -/
theorem C12_agenttype_frame_is_records (cfg : Cfg) (hT : Total cfg) (tables : List (Nat × List Nat)) (ops : List Op)
    (T : Nat) (reps : List ARep) (hl : cfg.treps.lookup T = some reps) (hnd : (cfg.treps.map (·.1)).Nodup)
    (hcls : ∀ x ∈ cfg.treps, cfg.isAgentClass x.1 = true) :
    let dicts := assign (·.steps) (typeDict cfg) (storedSnaps cfg (init cfg tables) ops)
    typeFrame cfg (run cfg (init cfg tables) ops) T = some (dicts.flatMap fun e => (e.2.lookup T).getD []) ∧
    (dicts.map (·.1)).Pairwise (· < ·) ∧
    ∀ e ∈ dicts, ∃ sn ∈ storedSnaps cfg (init cfg tables) ops, e.1 = sn.steps ∧
      ∃ ags, classAgents cfg sn T = some ags ∧ e.2.lookup T = some (ags.map (mkRow reps sn)) := by
  intro dicts
  have h := holds_history hT tables ops
  have hne : cfg.treps ≠ [] := fun e => by simp [e] at hl
  refine ⟨?_, keys_assign_sorted _ _ _ h.sorted, ?_⟩
  · rw [typeFrame, hl, h.typeRecords_of_ne hne]
    rfl
  · intro e he
    obtain ⟨sn, hsn, rfl⟩ := mem_assign _ _ _ e he
    have hk : ∀ x ∈ cfg.treps, KeyOk cfg sn x := fun x hx =>
      keyOk_of_agentClass (hcls x hx) fun r hr ag _ => hT.t x hx r hr sn ag
    obtain ⟨ags, hags, _⟩ := hk (T, reps) (mem_of_lookup hl)
    refine ⟨sn, hsn, rfl, ags, hags, ?_⟩
    rw [typeDict_lookup cfg sn hk hnd hl, hags]
    rfl

/-- Table rows are appended column-aligned: over every history every column of every table holds exactly
    the cells of the rows `add_table_row` accepted for that table, in order (`None` for a key missing
    under `ignore_missing`); in particular all columns have the same length and `get_table_dataframe`
    never sees ragged input.  The table is unknown exactly if it was not declared: a declared table is never lost. -/
theorem C12_table_rows_aligned (cfg : Cfg) (tables : List (Nat × List Nat)) (ops : List Op) (t : Nat) :
    (tableFrame (run cfg (init cfg tables) ops) t = .error .unknown ↔ t ∉ tables.map (·.1)) ∧
    (tableFrame (run cfg (init cfg tables) ops) t = .error .unknown ∨
    ∃ tab, (run cfg (init cfg tables) ops).tables.lookup t = some tab ∧
      tableFrame (run cfg (init cfg tables) ops) t =
        .ok ((if tab = [] then 0 else (acceptedRows cfg t (init cfg tables) ops).length), tab) ∧
      ∀ cv ∈ tab, cv.2 = (acceptedRows cfg t (init cfg tables) ops).map (cell cv.1)) := by
  have h := tabHolds_run (cfg := cfg) (tabHolds_init cfg tables) ops
  simp only [List.nil_append] at h
  refine ⟨?_, ?_⟩
  · rw [tableFrame_unknown_iff, ← Option.not_isSome_iff_eq_none, run_tables_known, init_tables_known]
    simp
  rcases tableFrame_of_tabHolds h t with hu | ⟨tab, hl, hf⟩
  · exact Or.inl hu
  · exact Or.inr ⟨tab, hl, hf, h t tab hl⟩

/-! ### reporters that raise (outside C12's quantifier: what the code does, stated exactly) -/

/-- Over every history, for reporters that may raise: the column of the `k`-th model reporter holds its value at
    exactly those collects (past validation) at which reporters `0..k` all returned — so a collect whose `k`-th
    reporter raises leaves columns `0..k-1` one entry longer than the others (the partial collect is visible in
    `model_vars`) — and `_collection_steps` has one entry per collect at which *every* model reporter returned. -/
theorem C12_partial_collect_visible (cfg : Cfg) (tables : List (Nat × List Nat)) (ops : List Op) :
    (∀ k r, cfg.mreps[k]? = some r →
      (run cfg (init cfg tables) ops).modelVars[k]? =
        some (((storedSnaps cfg (init cfg tables) ops).filter fun sn =>
                (cfg.mreps.take (k + 1)).all (·.passes sn)).map r.eval)) ∧
    (run cfg (init cfg tables) ops).collSteps =
      ((storedSnaps cfg (init cfg tables) ops).filter (mOk cfg)).map (·.steps) := by
  have h := holdsG_history cfg tables ops
  refine ⟨?_, h.collSteps⟩
  intro k r hk
  rw [h.modelVars, colsOf_getElem, hk]; rfl

/-- What one collect whose first raising model reporter is the `k`-th leaves behind, on any state with one column
    per reporter: the call raises that reporter's exception; columns `0..k-1` have the value of their reporter
    appended, columns `k..` are untouched; `_collection_steps`, the agent and agent-type records and everything
    else are exactly as before. -/
theorem C12_raising_model_reporter_leaves (cfg : Cfg) (s : State) (hl : s.modelVars.length = cfg.mreps.length)
    (hs : stores cfg s = true) (e : Err) (he : firstExc cfg.mreps s.snap = some e) :
    collect cfg s =
      ({ s with
          validated := true
          modelVars :=
            List.zipWith (fun col r => col ++ [r.eval s.snap]) (s.modelVars.take (passCount cfg.mreps s.snap))
                (cfg.mreps.take (passCount cfg.mreps s.snap)) ++
              s.modelVars.drop (passCount cfg.mreps s.snap) }, some e) := by
  have hg : guardErr cfg s = none := by simpa [stores] using hs
  obtain ⟨m1, m2⟩ := mLoop_spec s.snap cfg.mreps s.modelVars hl
  have hne : cfg.mreps.isEmpty = false := by
    cases hm : cfg.mreps with
    | nil => simp [hm, firstExc] at he
    | cons r rs => rfl
  unfold collect
  simp only [hg, m2, he, m1, hne, Bool.not_false, Bool.true_or]

/-- What a collect leaves behind when every model reporter returns but an agent reporter raises on some registered
    agent: the call raises that exception; the model values and the `_collection_steps` entry of this collect are
    stored, the agent records and the agent-type records are exactly as before (rows of an earlier collect of the
    same step stay filed under it). -/
theorem C12_raising_agent_reporter_leaves (cfg : Cfg) (s : State) (hs : stores cfg s = true)
    (hm : ∀ r ∈ cfg.mreps, r.exc s.snap = none) (e : Err) (he : rowsExc cfg.areps s.snap s.agents = some e) :
    (collect cfg s).2 = some e ∧
    (collect cfg s).1.collSteps = s.collSteps ++ [s.steps] ∧
    (collect cfg s).1.records = s.records ∧ (collect cfg s).1.typeRecords = s.typeRecords ∧
    (collect cfg s).1.modelVars = (mLoop s.snap cfg.mreps s.modelVars).1 := by
  have hg : guardErr cfg s = none := by simpa [stores] using hs
  unfold collect
  simp only [hg, mLoop_snd_none _ _ _ hm, he, and_self]

/-- Over every history, for reporters that may raise: `_agent_records` / `_agenttype_records` hold, under step `k`,
    what the last collect at step `k` wrote *among the collects that got through the model and agent reporters*;
    a collect that raised earlier leaves the entry of its step as it was. -/
theorem C12_records_with_raising_reporters (cfg : Cfg) (tables : List (Nat × List Nat)) (ops : List Op) :
    (cfg.areps ≠ [] → ∀ k, (run cfg (init cfg tables) ops).records.lookup k =
      (lastWith (fun sn => sn.steps == k) ((storedSnaps cfg (init cfg tables) ops).filter (complete cfg))).map
        (agentRows cfg)) ∧
    (cfg.treps ≠ [] → ∀ k, (run cfg (init cfg tables) ops).typeRecords.lookup k =
      (lastWith (fun sn => sn.steps == k) ((storedSnaps cfg (init cfg tables) ops).filter (complete cfg))).map
        (typeDict cfg)) := by
  have h := holdsG_history cfg tables ops
  constructor
  · intro hne k
    rw [h.records_of_ne hne]; exact lookup_assign _ _ _ k
  · intro hne k
    rw [h.typeRecords_of_ne hne]; exact lookup_assign _ _ _ k

/-- `get_model_vars_dataframe` for every shape `model_vars` can take.  With `r₀` the first model reporter: if at every
    collect at which `r₀` returned all reporters returned, the frame is rectangular — one row per completed model
    phase, each column its reporter's values there.  If at some collect `r₀` returned and a later reporter raised,
    `model_vars` is ragged and the method raises ValueError — in every continuation of the history, for ever. -/
theorem C12_model_frame_every_shape (cfg : Cfg) (tables : List (Nat × List Nat)) (ops : List Op)
    (r₀ : MRep) (rs : List MRep) (hm : cfg.mreps = r₀ :: rs) :
    ((∀ sn ∈ storedSnaps cfg (init cfg tables) ops, r₀.passes sn = true → mOk cfg sn = true) →
      modelFrame cfg (run cfg (init cfg tables) ops) =
        .ok (((storedSnaps cfg (init cfg tables) ops).filter (mOk cfg)).length,
             cfg.mreps.map fun r => ((storedSnaps cfg (init cfg tables) ops).filter (mOk cfg)).map r.eval)) ∧
    ((∃ sn ∈ storedSnaps cfg (init cfg tables) ops, r₀.passes sn = true ∧ mOk cfg sn = false) →
      ∀ more, modelFrame cfg (run cfg (init cfg tables) (ops ++ more)) = .error .value) := by
  have hne : cfg.mreps ≠ [] := by simp [hm]
  have hmo : ∀ sn, mOk cfg sn = (r₀.passes sn && rs.all (·.passes sn)) := fun sn => by
    rw [Bool.eq_iff_iff, mOk_iff, hm]; simp
  constructor
  · intro hall
    have h := holdsG_history cfg tables ops
    generalize storedSnaps cfg (init cfg tables) ops = snaps at h hall
    -- the collects at which `r₀` returned are those at which all reporters returned
    have hf : snaps.filter r₀.passes = snaps.filter (mOk cfg) :=
      List.filter_congr fun sn hsn => by
        cases hp : r₀.passes sn
        · simp [hmo, hp]
        · exact (hall sn hsn hp).symm
    apply modelFrame_of_cols _ _ hne
    rw [h.modelVars, hm, ← hf, colsOf_rect]
    intro sn hsn hp
    have := hall sn hsn hp
    rw [hmo, hp] at this
    exact List.all_eq_true.mp this
  · rintro ⟨sn, hsn, hp, hmf⟩ more
    have h := holdsG_history cfg tables (ops ++ more)
    rw [storedSnaps_append] at h
    have hbad : ∃ r ∈ rs, r.passes sn = false := by
      rw [hmo, hp, Bool.true_and, List.all_eq_false] at hmf
      simpa using hmf
    rw [modelFrame, if_neg (by simpa using hne), h.modelVars, hm, colsOf_ragged]
    exact ⟨sn, by simp [hsn], hp, hbad⟩

/-! non-vacuity: a history with a list attribute mutated in place, an agent removed between collects,
    two collects in one step, a rejected table row -/
section Example
def exCfg : Cfg :=
  { mreps := [.attr 0, .fn fun sn => .ok (.int sn.agents.length), .fnArgs (fun a sn => .ok (.int (a.sum + sn.steps))) [2, 3]],
    areps := [.attr 1, .meth fun sn ag => .ok (.int (ag.id + sn.steps))],
    treps := [(0, [.attr 1])],
    isAgentClass := fun T => T < 2, isSub := fun c T => c == T || (c == 1 && T == 0) }
def exOps : List Op :=
  [.mset 0 (.list [1]), .create 1 [(1, .int 5)], .create 1 [], .collect, .mapp 0 2, .remove 1, .step,
   .collect, .aset 2 1 (.int 7), .collect, .row 0 [(0, .int 1)] false, .row 0 [(0, .int 1), (1, .int 2)] false]
def exEnd : State := run exCfg (init exCfg [(0, [0, 1])]) exOps
example : exEnd.modelVars = [[.list [1], .list [1, 2], .list [1, 2]], [.int 2, .int 1, .int 1], [.int 5, .int 6, .int 6]] := by decide +kernel
example : exEnd.records = [(0, [⟨0, 1, [.int 5, .int 1]⟩, ⟨0, 2, [.none, .int 2]⟩]), (1, [⟨1, 2, [.int 7, .int 3]⟩])] := by decide +kernel
example : exEnd.typeRecords = [(0, [(0, [⟨0, 1, [.int 5]⟩, ⟨0, 2, [.none]⟩])]), (1, [(0, [⟨1, 2, [.int 7]⟩])])] := by decide +kernel
example : (storedSnaps exCfg (init exCfg [(0, [0, 1])]) exOps).map (·.steps) = [0, 1, 1] := by decide +kernel
example : tableFrame exEnd 0 = .ok (1, [(0, [.int 1]), (1, [.int 2])]) := by rfl
example : stores exCfg (init exCfg []) = false := by decide +kernel
example : Total exCfg :=
  ⟨by intro r hr sn; simp [exCfg] at hr; rcases hr with rfl | rfl | rfl <;> rfl,
   by intro r hr sn ag; simp [exCfg] at hr; rcases hr with rfl | rfl <;> rfl,
   by intro x hx r hr sn ag; simp [exCfg] at hx; subst hx; simp at hr; subst hr; rfl⟩

/-! a partial (`functools.partial`) reporter that needs attribute 0 between a string reporter and a lambda; an agent
    reporter that needs attribute 1: the first collect raises in the model phase after `m0` was appended, the
    second in the agent phase (agent 2 lacks attribute 1), the third completes -/
def needM (a : Nat) (sn : Snap) : Except Err Val := match sn.attrs.lookup a with | some v => .ok v | none => .error .attr
def needA (a : Nat) (_ : Snap) (ag : AgentS) : Except Err Val :=
  match ag.attrs.lookup a with | some v => .ok v | none => .error .attr
def rxCfg : Cfg :=
  { mreps := [.attr 5, .part (needM 0), .fn fun sn => .ok (.int sn.steps)], areps := [.fn (needA 1)], treps := [],
    isAgentClass := fun _ => true, isSub := fun c T => c == T }
def rxOps : List Op :=
  [.create 0 [(1, .int 4)], .create 0 [], .mset 5 (.int 9), .collect, .mset 0 (.int 3), .step, .collect,
   .aset 2 1 (.int 6), .collect]
def rxEnd : State := run rxCfg (init rxCfg []) rxOps
example : (apply rxCfg (run rxCfg (init rxCfg []) (rxOps.take 3)) .collect).2 = some .attr := by decide +kernel
example : rxEnd.modelVars = [[.int 9, .int 9, .int 9], [.int 3, .int 3], [.int 1, .int 1]] := by decide +kernel
example : rxEnd.collSteps = [1, 1] := by decide +kernel
example : rxEnd.records = [(1, [⟨1, 1, [.int 4]⟩, ⟨1, 2, [.int 6]⟩])] := by decide +kernel
example : modelFrame rxCfg rxEnd = .error .value := by rfl
example : (storedSnaps rxCfg (init rxCfg []) rxOps).map (fun sn => (mOk rxCfg sn, complete rxCfg sn)) =
    [(false, false), (true, false), (true, true)] := by decide +kernel
/-! a plain function that raises at the trial call of the first collect: RuntimeError, nothing stored -/
example : (collect { rxCfg with mreps := [.fn (needM 0), .attr 5] } (init rxCfg [])).2 = some .runtime := by decide +kernel
/-! references, depth 2: `x0 = [1]; x1 = [2]; x2 = [x0, x1]; collect; x2[0].append(5); x0.append(7)` (the same inner
    object through its other name) `; collect; x2.append(9); x2[1].pop(); x0 = x1; x2 = 3; collect`.  With deepcopy every
    stored entry reads what the reporter showed at its collect (`[[1], [2]]`, then `[[1, 5, 7], [2]]`, then `3`); the
    shallow copy keeps the outer list (no `9`) but shows every inner change; the stored reference shows everything -/
open CollectHeap in
def hpOps : List HOp :=
  [.setNew 0 [1], .setNew 1 [2], .setNew 2 [], .appRef 2 [] 0 [], .appRef 2 [] 1 [], .collect 2, .app 2 [0] 5, .app 0 [] 7,
   .collect 2, .app 2 [] 9, .pop 2 [1], .bind 0 1 [], .setInt 2 3, .collect 2]
open CollectHeap in
example : stored .deep 2 hpOps =
    [.node [.node [.int 1], .node [.int 2]], .node [.node [.int 1, .int 5, .int 7], .node [.int 2]], .int 3] := by rfl
open CollectHeap in
example : seen .deep 2 empty hpOps =
    [.node [.node [.int 1], .node [.int 2]], .node [.node [.int 1, .int 5, .int 7], .node [.int 2]], .int 3] := by rfl
open CollectHeap in
example : stored .shallow 2 hpOps =
    [.node [.node [.int 1, .int 5, .int 7], .node []], .node [.node [.int 1, .int 5, .int 7], .node []], .int 3] := by rfl
open CollectHeap in
example : stored .alias 2 hpOps =
    [.node [.node [.int 1, .int 5, .int 7], .node [], .int 9], .node [.node [.int 1, .int 5, .int 7], .node [], .int 9], .int 3] := by rfl
/-! the live objects after the history are the original ones: the copy did not disturb them (`x0` is `x1` now) -/
open CollectHeap in
example : (read 1 (runH .deep empty hpOps).heap (getH (runH .deep empty hpOps).attrs 0),
    read 1 (runH .deep empty hpOps).heap (getH (runH .deep empty hpOps).attrs 1)) = (.node [], .node []) := by rfl
/-! sharing and cycles survive the copy (deepcopy's memo): `x0 = [1]; x0.append(x0); collect; x0[1][1].append(4)` — the stored
    entry keeps reading `[1, [1, [1, …]]]` to every depth, the live object reads `[1, <itself>, 4]` -/
open CollectHeap in
def cyOps : List HOp := [.setNew 0 [1], .appRef 0 [] 0 [], .collect 0, .app 0 [1, 1] 4]
open CollectHeap in
example : stored .deep 3 cyOps = [.node [.int 1, .node [.int 1, .node [.int 1, .cut]]]] := by rfl
open CollectHeap in
example : read 2 (runH .deep empty cyOps).heap (getH (runH .deep empty cyOps).attrs 0) =
    .node [.int 1, .node [.int 1, .cut, .int 4], .int 4] := by rfl
/-! `model.agents` reversed in place between creation and collect (classes 1 and 2 derive from 0; keys: class 1 with
    direct instances, base class 0 without): the agent rows and the rows of the base-class key follow the new order
    of `model.agents`, the rows of class 1 stay in creation order (`agents_by_type[1]`) -/
def roCfg : Cfg :=
  { mreps := [], areps := [.attr 0], treps := [(1, [.attr 0]), (0, [.attr 0])],
    isAgentClass := fun T => T < 3, isSub := fun c T => c == T || T == 0 }
def roOps : List Op :=
  [.create 1 [(0, .int 7)], .create 2 [(0, .int 5)], .create 1 [(0, .int 6)], .reorder .rev, .collect, .step,
   .reorder (.byAttr 0 true), .create 2 [], .collect]
def roEnd : State := run roCfg (init roCfg []) roOps
example : roEnd.agents.map (·.id) = [2, 3, 1, 4] := by decide +kernel
example : roEnd.records.map (fun x => (x.1, x.2.map (·.id))) = [(0, [3, 2, 1]), (1, [2, 3, 1, 4])] := by decide +kernel
example : roEnd.typeRecords.map (fun x => (x.1, x.2.map fun y => (y.1, y.2.map (·.id)))) =
    [(0, [(1, [1, 3]), (0, [3, 2, 1])]), (1, [(1, [1, 3]), (0, [2, 3, 1, 4])])] := by decide +kernel
example : ¬ IdSorted roEnd.agents := by unfold IdSorted; decide
/-! multiple inheritance (`isSub` is any relation): class 2 derives from the unrelated classes 0 and 1.  Second example:
    neither base has a direct instance — the agents of class 2 are reported under both keys, in the order of
    `model.agents`.  First example: class 1 has a direct instance, so key 1 is read from `agents_by_type[1]` and does not
    list the class-2 agent (a key with direct and subclassed instances: outside C12's quantifier) -/
def miCfg : Cfg :=
  { mreps := [], areps := [], treps := [(0, [.attr 0]), (1, [.attr 0])],
    isAgentClass := fun T => T < 3, isSub := fun c T => c == T || (c == 2 && T < 2) }
example : (run miCfg (init miCfg []) [.create 2 [(0, .int 4)], .create 1 [(0, .int 8)], .collect]).typeRecords.map
    (fun x => x.2.map fun y => (y.1, y.2.map (·.id))) = [[(0, [1]), (1, [2])]] := by decide +kernel
example : (run miCfg (init miCfg []) [.create 2 [(0, .int 4)], .create 2 [], .reorder .rot, .collect]).typeRecords.map
    (fun x => x.2.map fun y => (y.1, y.2.map (·.id))) = [[(0, [2, 1]), (1, [2, 1])]] := by decide +kernel
end Example

/-- non-vacuity: three agents, the shuffle draws `[2, 0, 1]`; a list that is not a permutation of the positions is not
    a draw (nothing moves) -/
example : ((run miCfg (init miCfg []) [.create 1 [], .create 2 [], .create 1 [], .reorder (.perm [2, 0, 1])]).agents.map (·.id),
    (run miCfg (init miCfg []) [.create 1 [], .create 2 [], .create 1 [], .reorder (.perm [2, 0, 0])]).agents.map (·.id)) =
    ([3, 1, 2], [1, 2, 3]) := by decide +kernel

end Mesa.Collect
