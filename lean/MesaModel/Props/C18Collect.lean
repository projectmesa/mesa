import MesaModel.Proofs.Collect
/-!
# C18 (DataCollector part) — a rejected `add_table_row` changes nothing

The rejecting calls of the DataCollector are `add_table_row` to an
unknown table (`err Unknown`) and with a missing column under `ignore_missing=False` (`err Missing`).
-/
namespace Mesa.Collect

/-- A rejected `add_table_row` leaves the whole state (model, collector, every table) exactly as it was:
    per-op fact, for every state, reachable or not. -/
theorem C18_collect_tablerow_reject_unchanged (cfg : Cfg) (s : State) (t : Nat) (r : List (Nat × Val))
    (ign : Bool) (e : Err) (h : (apply cfg s (.row t r ign)).2 = some e) :
    (apply cfg s (.row t r ign)).1 = s :=
  addTableRow_reject_unchanged s t r ign e h

/-- `add_table_row` rejects exactly an unknown table, or — without `ignore_missing` — a row lacking one of
    the table's columns; nothing else. -/
theorem C18_collect_tablerow_rejects_exactly (s : State) (t : Nat) (r : List (Nat × Val)) (ign : Bool) :
    ((addTableRow s t r ign).2 = some .unknown ↔ s.tables.lookup t = none) ∧
    ((addTableRow s t r ign).2 = some .missing ↔
      ∃ tab, s.tables.lookup t = some tab ∧ ign = false ∧ ∃ c ∈ tab, r.lookup c.1 = none) ∧
    (∀ e, (addTableRow s t r ign).2 = some e → e = .unknown ∨ e = .missing) := by
  unfold addTableRow
  cases hl : s.tables.lookup t with
  | none =>
    exact ⟨⟨fun _ => rfl, fun _ => rfl⟩, ⟨fun h => (nomatch h), fun ⟨_, h, _⟩ => (nomatch h)⟩,
      fun e he => .inl (Option.some.inj he).symm⟩
  | some tab =>
    simp only []
    by_cases hc : (!ign && tab.any fun c => (r.lookup c.1).isNone) = true
    · rw [if_pos hc]
      simp only [Bool.and_eq_true, Bool.not_eq_true', List.any_eq_true, Option.isNone_iff_eq_none] at hc
      exact ⟨⟨fun h => (nomatch h), fun h => (nomatch h)⟩, ⟨fun _ => ⟨tab, rfl, hc.1, hc.2⟩, fun _ => rfl⟩,
        fun e he => .inr (Option.some.inj he).symm⟩
    · rw [if_neg hc]
      simp only [Bool.and_eq_true, Bool.not_eq_true', List.any_eq_true, Option.isNone_iff_eq_none, not_and] at hc
      refine ⟨⟨fun h => (nomatch h), fun h => (nomatch h)⟩, ⟨fun h => (nomatch h), ?_⟩, fun e he => (nomatch he)⟩
      rintro ⟨tab', htab, hi, hex⟩
      cases htab
      exact absurd hex (hc hi)
/-- Over histories: the program can catch the error and carry on — a history yields the same final state
    (hence the same later observations) as the history with its rejected `add_table_row` calls deleted. -/
theorem C18_collect_tablerow_reject_history (cfg : Cfg) (s : State) (ops : List Op) :
    run cfg s (dropRejectedRows cfg s ops) = run cfg s ops :=
  run_dropRejectedRows cfg s ops

/-! non-vacuity: a table with columns 0 and 1; a row lacking column 1 is rejected unless `ignore_missing`, a row for an
    unknown table always -/
section Example
def exT : State := init { mreps := [], areps := [], treps := [], isAgentClass := fun _ => false, isSub := fun _ _ => false } [(0, [0, 1])]
example : (addTableRow exT 0 [(0, .int 1)] false).2 = some .missing := by decide +kernel
example : (addTableRow exT 3 [(0, .int 1)] true).2 = some .unknown := by decide +kernel
example : (addTableRow exT 0 [(0, .int 1)] true).1.tables = [(0, [(0, [.int 1]), (1, [.none])])] := by decide +kernel
/-! `add_table_row` as it was before the T1 repair — one loop that validates and appends column by column.  After the
    repair the code checks every column before the first append, which is why `addTableRow` returns the untouched state
    on rejection; for the interleaved loop "rejected ⇒ unchanged" is false: the row below is rejected (column 1 is
    missing) after column 0 has grown, the table is ragged -/
def interleavedLoop (row : List (Nat × Val)) : Table → Table × Option Err
  | [] => ([], none)
  | (c, vs) :: rest =>
    match row.lookup c with
    | some v => ((c, vs ++ [v]) :: (interleavedLoop row rest).1, (interleavedLoop row rest).2)
    | none => ((c, vs) :: rest, some .missing)
example : interleavedLoop [(0, .int 1)] [(0, []), (1, [])] = ([(0, [.int 1]), (1, [])], some .missing) := by decide +kernel
example : (interleavedLoop [(0, .int 1)] [(0, []), (1, [])]).1 ≠ [(0, []), (1, [])] := by decide +kernel
end Example

end Mesa.Collect
