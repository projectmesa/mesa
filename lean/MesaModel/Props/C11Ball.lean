import MesaModel.Proofs.CellNbhd
import MesaModel.Model.Layers
/-!
# C11 — the neighbourhood mask against the neighbourhood model of C07

`C11_neighborhood_mask_exact` (Props/C11.lean) characterises the mask of `get_neighborhood_mask` by the Layers model's own
definition, the metric ball `withinRadius`.  The code computes it from `cell.get_neighborhood(radius, include_center)`, whose
model is `Mesa.Cells.nbhd` over `Cell.connections` = `Mesa.Cells.gridConn` (C07: `C07_nbhd_spec` proves it to be r-hop
reachability, `C07_grid_connections` what the connections are).  The theorem here ties the two models together on a sample of
grids by kernel evaluation; the general statement (all shapes, all radii) is not proved — hence `_partial`.
-/
namespace Mesa.Layers

def toCellCoord (c : Coord) : List Int := c.map Int.ofNat

/-- on the grid of shape `dims`: for every centre, both values of `include_center`, the list form of the `nbhdMask` op is
    exactly the set of cells C07's `get_neighborhood` model returns, and the mask form is that list's indicator -/
def maskIsHopClosure (k : Mesa.Cells.GridKind) (moore : Bool) (dims : List Nat) (torus : Bool) (r : Nat) : Bool :=
  (cells dims).all fun c => [true, false].all fun ic =>
    let N := Mesa.Cells.nbhd (fun x => (Mesa.Cells.gridConn k dims torus x).map (·.2)) r ic (toCellCoord c)
    match (nbhdMask (init .new dims none) 0 (some moore) torus c ic r).2 with
    | .sel list mask =>
      ((cells dims).all fun c' => decide (c' ∈ list) == decide (toCellCoord c' ∈ N)) &&
        mask == (cells dims).map fun c' => decide (c' ∈ list)
    | _ => false

/-- 1-D and 2-D shapes (the 2-D code path `_connect_single_cell_2d`), sizes 1 and 2 (where a torus wraps onto itself) included -/
def ballSample2d : Bool :=
  [[1], [2], [5], [1, 3], [2, 2], [3, 3], [4, 2]].all fun d => [true, false].all fun t => [1, 2].all fun r =>
    maskIsHopClosure .moore true d t r && maskIsHopClosure .vn false d t r

/-- 3-D shapes (the n-D code path `_connect_single_cell_nd`) -/
def ballSample3d : Bool :=
  [[2, 2, 2], [3, 1, 2]].all fun d => [true, false].all fun t => [1, 2].all fun r =>
    maskIsHopClosure .moore true d t r && maskIsHopClosure .vn false d t r

/-- `maskIsHopClosure` with the hop closure computed by `nbhdTab` over the cells of the grid -/
def maskIsHopClosureTab (k : Mesa.Cells.GridKind) (moore : Bool) (dims : List Nat) (torus : Bool) (r : Nat) : Bool :=
  (cells dims).all fun c => [true, false].all fun ic =>
    let N := Mesa.Cells.nbhdTab (fun x => (Mesa.Cells.gridConn k dims torus x).map (·.2)) ((cells dims).map toCellCoord)
      r ic (toCellCoord c)
    match (nbhdMask (init .new dims none) 0 (some moore) torus c ic r).2 with
    | .sel list mask =>
      ((cells dims).all fun c' => decide (c' ∈ list) == decide (toCellCoord c' ∈ N)) &&
        mask == (cells dims).map fun c' => decide (c' ∈ list)
    | _ => false

theorem maskIsHopClosure_eq (k : Mesa.Cells.GridKind) (moore : Bool) (dims : List Nat) (torus : Bool) (r : Nat) :
    maskIsHopClosure k moore dims torus r = maskIsHopClosureTab k moore dims torus r := by
  simp only [maskIsHopClosure, maskIsHopClosureTab, Mesa.Cells.nbhdTab_eq]

/-- On the sampled grids (Moore and von Neumann, torus or not, every centre, radius 1 and 2, centre included or not) the
    mask of the Layers model — the metric ball — *is* the cell set of C07's model of `get_neighborhood` — the r-hop closure
    of the connections.  Missing for the full statement: all shapes and radii (a proof that the ball of a product metric
    is the hop closure of its unit steps, with wrapping); beyond the sample the tie is the oracle, which compares every
    generated mask with the running `get_neighborhood`. -/
theorem C11_neighborhood_mask_is_hop_closure_partial : ballSample2d = true ∧ ballSample3d = true := by
  -- evaluated with `nbhdTab` over the cells of the grid: `nbhd` itself would compute the radius-1 neighbourhood of a
  -- cell once per centre and per coinciding neighbour (on a small torus most of the 26 Moore neighbours coincide)
  simp only [ballSample2d, ballSample3d, maskIsHopClosure_eq]
  constructor <;> decide +kernel

/-- the sample is not trivial: a 3×3 von Neumann torus, radius 1 round the corner: 4 wrapped neighbours -/
example : (nbhdMask (init .new [3, 3] none) 0 (some false) true [0, 0] false 1).2 =
    .sel [[0, 1], [0, 2], [1, 0], [2, 0]] [false, true, true, true, false, false, true, false, false] := by decide

end Mesa.Layers
