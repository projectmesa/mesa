import MesaModel.Proofs.CellGen
import MesaModel.Proofs.CellCollection
/-!
# C01 on the cells model — collections carry the space's generator; random selections are determined by (population, script)

(a) `C01_cells_collections_carry_the_space_generator`: by induction over the expressions that derive collections.
(b) `C01_cells_selection_determined`, `C01_cells_random_empty_determined`: result, draws used and the script left behind are
functions of the ordered population (and, for rejection sampling, of which drawn cells are empty) and the script only.
-/
namespace Mesa.Cells

/-- (a) In a space built by any constructor with generator `g`, every collection the API can derive — `all_cells`, `empties`,
    every neighbourhood of every cell at every radius, the `neighborhood` property, and every `select` of these to any depth —
    carries `g` itself; more generally (hand-built cells) a collection carries the space's generator whenever the cells do. -/
theorem C01_cells_collections_carry_the_space_generator :
    (∀ (g : GenId) (e : CollExpr), e.gen (Gens.built g) = g) ∧
    (∀ (G : Gens), (∀ c, G.cell c = G.space) → ∀ e : CollExpr, e.gen G = G.space) := by
  have h2 : ∀ (G : Gens), (∀ c, G.cell c = G.space) → ∀ e : CollExpr, e.gen G = G.space := by
    intro G hG e
    induction e with
    | all => rfl
    | empties => rfl
    | nb c r ic => exact hG c
    | nbp c => exact hG c
    | sel e f am ih => exact ih
  exact ⟨fun g e => h2 (Gens.built g) (fun _ => rfl) e, h2⟩

/-- (b) `select_random_cell` / `select_random_agent` on any derived collection, at any states of any spaces: the outcome — the
    element, its position, the number of draws consumed, and the script left in the generator — is determined by the ordered
    population and the script alone (two collections with the same cells in the same order, or the same chained agent lists,
    answer alike whatever else differs); the number of draws is 0 for an empty population (IndexError) and 1 otherwise, whatever
    the script holds beyond its first entry; and what is left is the script without the draws consumed. -/
theorem C01_cells_selection_determined (sp sp' : Space) (s s' : State) (e e' : CollExpr) (draws : List Nat) :
    (e.cells sp s = e'.cells sp' s' →
      selectRandomCell (e.cells sp s) draws = selectRandomCell (e'.cells sp' s') draws ∧
      pickRest (e.cells sp s) draws = pickRest (e'.cells sp' s') draws) ∧
    (collAgents s (e.cells sp s) = collAgents s' (e'.cells sp' s') →
      selectRandomAgent s (e.cells sp s) draws = selectRandomAgent s' (e'.cells sp' s') draws ∧
      pickRest (collAgents s (e.cells sp s)) draws = pickRest (collAgents s' (e'.cells sp' s')) draws) ∧
    (∀ {α : Type} (seq : List α) (x : α) (pos used : Nat), pick seq draws = .ok x pos used →
      used = 1 ∧ pickRest seq draws = draws.drop used ∧ ∀ more, pick seq (draws.take 1 ++ more) = .ok x pos used) ∧
    (∀ {α : Type} (seq : List α), pick seq draws = .err .index → pickRest seq draws = draws) := by
  refine ⟨fun h => by rw [h]; exact ⟨rfl, rfl⟩, fun h => ?_, ?_, ?_⟩
  · unfold selectRandomAgent
    rw [h]
    exact ⟨rfl, rfl⟩
  · intro α seq x pos used hp
    obtain ⟨rfl, _, hx, d, ds, rfl, _⟩ := pick_ok hp
    have hie : seq.isEmpty = false := List.isEmpty_eq_false_iff.mpr (List.ne_nil_of_mem hx)
    -- `pick` reads the first draw only
    exact ⟨rfl, by rw [pickRest, hie]; rfl, fun more => (rfl : pick seq (d :: more) = pick seq (d :: ds)).trans hp⟩
  · intro α seq hp
    rw [pick_err_index.mp hp]
    rfl

/-- (b) `select_random_empty_cell`, both strategies: the result depends on the state only through *which cells are empty*
    (two states — of the same space — with the same empty cells answer alike and consume the same number of draws); under the
    list strategy it is one `random.choice` over `empties` (0 draws and IndexError if there is none, else 1 draw); under
    rejection sampling it consumes as many draws as cells were tried: never more than the script holds, all of it exactly when
    no drawn cell was empty, and at least one whenever it returns a cell. -/
theorem C01_cells_random_empty_determined (sp : Space) (s s' : State) (draws : List Nat)
    (h : ∀ c ∈ sp.cells, isEmpty s c = isEmpty s' c) (ht : s.tryRandom = s'.tryRandom) :
    (step sp s (.randEmpty draws)).2 = (step sp s' (.randEmpty draws)).2 ∧
    tryRandomUsed s sp.cells draws = tryRandomUsed s' sp.cells draws ∧
    ((sp.isGrid && s.tryRandom) = false →
      (step sp s (.randEmpty draws)).2 = (match pick (empties sp s) draws with
        | .ok c _ _ => .okCell c
        | .err e => .err e)) ∧
    tryRandomUsed s sp.cells draws ≤ draws.length ∧
    (∀ c, tryRandomLoop s sp.cells draws = .okCell c → 1 ≤ tryRandomUsed s sp.cells draws) ∧
    (tryRandomLoop s sp.cells draws = .err .script → tryRandomUsed s sp.cells draws = draws.length) := by
  have hemp : empties sp s = empties sp s' := by
    unfold empties
    exact List.filter_congr h
  have hcong := tryRandom_congr s s' sp.cells h draws
  refine ⟨?_, hcong.2, ?_, tryRandomUsed_spec s sp.cells draws⟩
  · simp only [step, ← ht, hemp]
    split
    · exact hcong.1
    · rfl
  · intro hg
    simp only [step, hg, Bool.false_eq_true, if_false]
    exact choice_eq_pick _ _

/-! ### non-vacuity -/

-- a hand-built cell with its own generator: the neighbourhood collection carries the cell's, `all_cells` the space's
example : (CollExpr.sel (.nb [0] 2 true) none (.int 1)).gen { space := 1, cell := fun _ => 2 } = 2 ∧
    (CollExpr.sel .empties (some .full) .inf).gen { space := 1, cell := fun _ => 2 } = 1 := by decide +kernel
example : (CollExpr.sel (.sel (.nb [0, 0] 1 false) none .inf) (some .empty) (.frac 1 2)).gen (Gens.built 7) = 7 := by decide +kernel
private def sp : Space := gridSpace .moore [2, 2] true (some 1)
private def st : State := run sp (init sp) [.new .cell, .new .cell, .setCell 0 (some [0, 0]), .setCell 1 (some [1, 1])]
-- one draw, the rest of the script stays; an empty population raises without drawing
example : selectRandomCell ((CollExpr.empties).cells sp st) [7, 3] = .ok [1, 0] 1 1 ∧ pickRest ((CollExpr.empties).cells sp st) [7, 3] = [3] ∧
    selectRandomAgent st ((CollExpr.empties).cells sp st) [7, 3] = .err .index ∧
    pickRest (collAgents st ((CollExpr.empties).cells sp st)) [7, 3] = [7, 3] := by decide +kernel
-- rejection sampling: two occupied cells are tried before the empty one: three draws
example : tryRandomLoop st sp.cells [0, 3, 1, 9] = .okCell [0, 1] ∧ tryRandomUsed st sp.cells [0, 3, 1, 9] = 3 ∧
    tryRandomUsed st sp.cells [0, 3] = 2 ∧ tryRandomLoop st sp.cells [0, 3] = .err .script := by decide +kernel

end Mesa.Cells
