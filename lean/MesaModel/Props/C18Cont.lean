import MesaModel.Proofs.ContExp
/-!
# C18 (continuous spaces) — a rejected placement / move / removal / position assignment changes nothing

Lemmas for the continuous-space part of C18 (assembled with the other subsystems elsewhere).
Model: `Model/Cont.lean` (legacy `ContinuousSpace` after repair S3, experimental position setter and `+=`
after repair CS2).
A call that raises either returns no new state at all (`Except`: the caller keeps the state it had), or —
for `move_agent`, which can raise *after* writing, and for the position setter and `+=` taken statement by statement
(`agentSetW`, `agentIaddW` and their `…VW` forms) — returns the state explicitly; in both cases the lemmas
show that the state after the call (`lstep` / `estep`: the caller catches the exception and carries on)
is the state before it, so every later call and observation is as if the call had never been made.
-/
namespace Mesa.Cont

/-- Legacy `place_agent` outside a bounded space: `Exception`, and nothing changed — the agent is not
    registered, the cache is not invalidated, no position is written.  It is rejected exactly for a
    point outside the bounds of a non-toroidal space. -/
theorem C18_cont_place_reject_unchanged (s : LSpace) (a : Aid) (p : P2) (e : Err)
    (h : place s a p = .error e) :
    lstep s (.place a p) = s ∧ e = .oob ∧ oob s.cfg p = true ∧ s.cfg.torus = false := by
  exact ⟨by simp [lstep, h], (torusAdj_error_iff _ _ _).mp ((place_error_iff s a p e).mp h)⟩

/-- Legacy `move_agent` outside a bounded space: rejected before anything is written. -/
-- After an accepted `torusAdj` / `in_bounds` the errors left are `.key` and `.index`, never `.oob`: the nested splits of the
-- two proofs below run through the remaining branches of `move` / `setPos` to see that.
theorem C18_cont_move_reject_unchanged (s : LSpace) (a : Aid) (p : P2)
    (h : (move s a p).2 = .error .oob) :
    (move s a p).1 = s ∧ lstep s (.move a p) = s ∧ oob s.cfg p = true ∧ s.cfg.torus = false := by
  have hm : (move s a p).1 = s ∧ oob s.cfg p = true ∧ s.cfg.torus = false := by
    cases hp : torusAdj s.cfg p with
    | error e =>
      have he : move s a p = (s, .error e) := by simp [move, hp]
      rw [he]
      exact ⟨rfl, ((torusAdj_error_iff _ _ _).mp hp).2⟩
    | ok p' =>
      exfalso
      unfold move at h
      simp only [hp] at h
      split at h
      · simp at h
      · split at h
        · simp at h
        · simp at h
        · split at h <;> simp at h
  exact ⟨hm.1, hm.1, hm.2⟩

/-- Legacy `remove_agent` of an agent that is not in the space: `Exception`, nothing changed. -/
theorem C18_cont_remove_reject_unchanged (s : LSpace) (a : Aid) (e : Err) (h : remove s a = .error e) :
    lstep s (.remove a) = s ∧ e = .notIn ∧ a ∉ s.agents := by
  exact ⟨by simp [lstep, h], (remove_error_iff s a e).mp h⟩

/-- Experimental `agent.position = value` outside a bounded space: `ValueError` before the array is
    written; it is rejected exactly when the value is out of bounds and the space is not a torus. -/
theorem C18_cont_setpos_reject_unchanged (s : ESpace) (a : Aid) (p : Pos)
    (h : agentSet s a p = .error .oob) :
    estep s (.set a p) = s ∧ inBounds s.cfg.dims p = false ∧ s.cfg.torus = false := by
  refine ⟨by simp [estep, h], ?_⟩
  unfold agentSet at h
  split at h
  · cases h
  unfold setPos at h
  cases hb : inBounds s.cfg.dims p <;> cases ht : s.cfg.torus
  · exact ⟨rfl, rfl⟩
  all_goals
    exfalso
    simp only [hb, ht, Bool.false_eq_true, if_true, if_false] at h
    split at h
    · simp at h
    · split at h <;> simp at h

theorem map_unit_error {α : Type} {x : Except Err α} {e : Err} (h : x.map (fun _ => ()) = .error e) : x = .error e := by
  cases x with
  | error e' => simpa [Except.map] using h
  | ok _ => simp [Except.map] at h

/-- The setter with the state returned also on an exception (`agentSetW false`, what the driver runs) is `agentSet`: its
    state is the state `estep` carries on with, its result the result of `agentSet`; likewise for a value of any length. -/
theorem C18_cont_setpos_stepwise (s : ESpace) (a : Aid) (p : Pos) :
    agentSetW false s a p = (estep s (.set a p), (agentSet s a p).map (fun _ => ())) ∧
    agentSetVW false s a p = (estepV s (.set a p), (agentSetV s a p).map (fun _ => ())) := by
  have h1 : ∀ q, agentSetW false s a q = (estep s (.set a q), (agentSet s a q).map (fun _ => ())) := by
    intro q
    unfold agentSetW estep agentSet
    cases hg : s.gone a
    · simp only [Bool.false_eq_true, if_false]
      cases hb : inBounds s.cfg.dims q <;> cases ht : s.cfg.torus
      · simp [setPos, hb, ht, hg, Except.map]
      all_goals
        simp only [Bool.or_true, Bool.or_false, if_true]
        cases hs : setPos s a q <;> simp [hg, Except.map]
    · simp [hg, Except.map]
  refine ⟨h1 p, ?_⟩
  unfold agentSetVW estepV agentSetV
  cases hg : s.gone a
  · simp only [Bool.false_eq_true, if_false]
    cases hb : bcast s.nd p with
    | error e => simp [hg, Except.map]
    | ok q =>
      simp only [h1 q, estep, agentSet, hg, Bool.false_eq_true, if_false]
  · simp [hg, Except.map]

/-- Experimental `agent.position = value` that raises — whatever the exception: the state the call leaves behind
    (`agentSetW` returns it also on an exception) is the state before the call.  With a setter that stores the value before
    validating it (`writeFirst = true`) this is false: `C18_cont_setpos_write_first_refuted`. -/
theorem C18_cont_setpos_reject_state (s : ESpace) (a : Aid) (p : Pos) (e : Err)
    (h : (agentSetW false s a p).2 = .error e) :
    (agentSetW false s a p).1 = s ∧ estep s (.set a p) = s ∧ agentSet s a p = .error e := by
  have hst := (C18_cont_setpos_stepwise s a p).1
  have he : agentSet s a p = .error e := map_unit_error (by rw [hst] at h; exact h)
  have hs : estep s (.set a p) = s := by simp [estep, he]
  exact ⟨by rw [hst]; exact hs, hs, he⟩

/-- A setter that writes the row first and validates afterwards violates it: in the box `[0,1]²` the agent at (1/64, 1/64) is
    assigned (65/64, 0); the call raises `ValueError` and the agent reports (65/64, 0), outside the space. -/
theorem C18_cont_setpos_write_first_refuted :
    ∃ (s : ESpace) (a : Aid) (p : Pos), (agentSetW true s a p).2 = .error .oob ∧
      agentGet s a = .ok [1, 1] ∧ agentGet (agentSetW true s a p).1 a = .ok [65, 0] ∧
      inBounds s.cfg.dims [65, 0] = false ∧ (agentSetW false s a p).2 = .error .oob ∧ (agentSetW false s a p).1 = s :=
  ⟨erun { dims := [(0, 64), (0, 64)], torus := false } 0 [.new 1, .set 1 [1, 1]], 1, [65, 0],
    by rfl, by rfl, by rfl, by rfl, by rfl, (C18_cont_setpos_reject_state _ _ _ _ (by rfl)).1⟩

/-- `agent.position += v` statement by statement (`agentIaddW false`: getter = a copy, `+=` on the copy, setter) is the
    assignment of position + v: its state is the state `estep` carries on with and its result the result of `agentIadd`;
    likewise for a `v` of any length.  (So every theorem about `.iadd` steps is about the three statements the code runs.) -/
theorem C18_cont_iadd_stepwise (s : ESpace) (a : Aid) (v : Pos) :
    agentIaddW false s a v = (estep s (.iadd a v), (agentIadd s a v).map (fun _ => ())) ∧
    agentIaddVW false s a v = (estepV s (.iadd a v), (agentIaddV s a v).map (fun _ => ())) := by
  have h1 : agentIaddW false s a v = (estep s (.iadd a v), (agentIadd s a v).map (fun _ => ())) := by
    unfold agentIaddW agentIadd estep
    cases hq : agentGet s a with
    | error e => simp [agentIadd, hq, Except.map]
    | ok q =>
      simp only [agentIadd, hq, Bool.false_eq_true, if_false]
      cases hs : agentSet s a (vadd q v) <;> simp [Except.map]
  refine ⟨h1, ?_⟩
  unfold agentIaddVW agentIaddV estepV
  cases hq : agentGet s a with
  | error e => simp [agentIaddV, hq, Except.map]
  | ok q =>
    cases hb : bcast s.nd v with
    | error e => simp [agentIaddV, hq, hb, Except.map]
    | ok w =>
      simp only [agentIaddV, hq, hb]
      unfold agentIaddW
      simp only [hq, Bool.false_eq_true, if_false]
      cases hs : agentSet s a (vadd q w) <;> simp [Except.map]

/-- Experimental `agent.position += v` that raises — whatever the exception (`AttributeError` on a removed agent object,
    `KeyError`, `ValueError` for a sum outside a bounded space): the state the call leaves behind (`agentIaddW` returns it
    also on an exception, as legacy `move` does) is the state before the call; in particular the array has not been written
    and the agent stays where it was.  The `ValueError` comes from the setter, which is handed the sum computed on a *copy*
    of the row (repair CS2), exactly when position + v is out of bounds on a non-torus.  With the getter of the code before
    the repair (`view = true`) the statement is false: `C18_cont_iadd_view_getter_refuted`. -/
theorem C18_cont_iadd_reject_unchanged (s : ESpace) (a : Aid) (v : Pos) (e : Err)
    (h : (agentIaddW false s a v).2 = .error e) :
    (agentIaddW false s a v).1 = s ∧ estep s (.iadd a v) = s ∧ agentIadd s a v = .error e ∧
    (e = .oob → ∃ q, agentGet s a = .ok q ∧ inBounds s.cfg.dims (vadd q v) = false ∧ s.cfg.torus = false) := by
  have hst := (C18_cont_iadd_stepwise s a v).1
  have he : agentIadd s a v = .error e := map_unit_error (by rw [hst] at h; exact h)
  have hs : estep s (.iadd a v) = s := by simp [estep, he]
  refine ⟨by rw [hst]; exact hs, hs, he, ?_⟩
  rintro rfl
  unfold agentIadd at he
  cases hq : agentGet s a with
  | error e =>
    rw [hq] at he
    simp only [Except.error.injEq] at he
    subst he
    unfold agentGet getPos at hq
    split at hq
    · cases hq
    · split at hq
      · cases hq
      · split at hq <;> cases hq
  | ok q =>
    rw [hq] at he
    exact ⟨q, rfl, (C18_cont_setpos_reject_unchanged s a (vadd q v) he).2⟩

/-- The code before repair CS2 (the getter handed out a view of the agent's row, `agentIaddW true`) violates it: in the box
    `[0,1]²` the agent at (1/64, 1/64) is asked to move by (1, 0); the call raises `ValueError` and the agent is at
    (65/64, 1/64), outside the space.  (The same history on the code as it is: the examples at the end.) -/
theorem C18_cont_iadd_view_getter_refuted :
    ∃ (s : ESpace) (a : Aid) (v : Pos), (agentIaddW true s a v).2 = .error .oob ∧
      agentGet s a = .ok [1, 1] ∧ agentGet (agentIaddW true s a v).1 a = .ok [65, 1] ∧
      inBounds s.cfg.dims [65, 1] = false ∧ (agentIaddW false s a v).2 = .error .oob ∧ (agentIaddW false s a v).1 = s :=
  ⟨erun { dims := [(0, 64), (0, 64)], torus := false } 0 [.new 1, .set 1 [1, 1]], 1, [64, 0],
    by rfl, by rfl, by rfl, by rfl, by rfl, (C18_cont_iadd_reject_unchanged _ _ _ _ (by rfl)).1⟩

/-- a legacy call that raises at state `s` (for `move_agent`: the out-of-bounds rejection) -/
def lRejected (s : LSpace) : LOp → Prop
  | .place a p => ∃ e, place s a p = .error e
  | .move a p => (move s a p).2 = .error .oob
  | .remove a => ∃ e, remove s a = .error e
  | .nbrs _ _ _ => False

/-- Corollary over histories (legacy): deleting a rejected call from any history changes neither the final
    state nor, therefore, any later observation. -/
theorem C18_cont_legacy_rejected_call_erasable (c : LCfg) (pre post : List LOp) (op : LOp)
    (h : lRejected (lrun c pre) op) : lrun c (pre ++ op :: post) = lrun c (pre ++ post) := by
  have hs : lstep (lrun c pre) op = lrun c pre := by
    cases op with
    | place a p =>
      obtain ⟨e, he⟩ := h
      exact (C18_cont_place_reject_unchanged _ a p e he).1
    | move a p => exact (C18_cont_move_reject_unchanged _ a p h).2.1
    | remove a =>
      obtain ⟨e, he⟩ := h
      exact (C18_cont_remove_reject_unchanged _ a e he).1
    | nbrs p r incl => exact absurd h (by simp [lRejected])
  simp only [lrun, List.foldl_append, List.foldl_cons] at hs ⊢
  rw [hs]

/-- an experimental agent-level call that raises at state `s` (whatever the exception) -/
def eRejected (s : ESpace) : EOp → Prop
  | .new _ => False
  | .set a p => ∃ e, agentSet s a p = .error e
  | .remove a => ∃ e, agentRemove s a = .error e
  | .iadd a v => ∃ e, agentIadd s a v = .error e
  | .raw i p => ∃ e, rawWrite s i p = .error e

/-- Corollary over histories (experimental): a rejected position assignment, a rejected `position += v`, a
    rejected `remove()` and a rejected write through the view can be deleted from any history without changing the final state. -/
theorem C18_cont_exp_rejected_call_erasable (c : ECfg) (cap : Nat) (pre post : List EOp) (op : EOp)
    (h : eRejected (erun c cap pre) op) :
    erun c cap (pre ++ op :: post) = erun c cap (pre ++ post) := by
  have hs : estep (erun c cap pre) op = erun c cap pre := by
    cases op with
    | new a => exact absurd h (by simp [eRejected])
    | set a p =>
      obtain ⟨e, he⟩ := h
      simp [estep, he]
    | remove a =>
      obtain ⟨e, he⟩ := h
      simp [estep, he]
    | iadd a v =>
      obtain ⟨e, he⟩ := h
      simp [estep, he]
    | raw i p =>
      obtain ⟨e, he⟩ := h
      simp [estep, he]
  simp only [erun, List.foldl_append, List.foldl_cons] at hs ⊢
  rw [hs]

/-! non-vacuity: the S3 witness — after the repair the rejected placement leaves no ghost -/
section Example
def exC : LCfg := { xmin := 0, xmax := 640, ymin := 0, ymax := 640, torus := false }
def exS : LSpace := lrun exC [.place 1 (64, 64), .nbrs (64, 64) 128 true]
example : place exS 2 (704, 64) = .error .oob := by rfl
example : lRejected exS (.place 2 (704, 64)) := ⟨.oob, by rfl⟩
example : (lstep exS (.place 2 (704, 64))).agents = [1] := by decide +kernel
example : (lstep exS (.place 2 (704, 64))).pts = some [(64, 64)] := by decide +kernel
example : (move exS 1 (64, 640)).2 = .error .oob := by rfl
example : agentSet (erun { dims := [(0, 64), (0, 64)], torus := false } 0 [.new 1, .set 1 [1, 1]]) 1 [65, 0] = .error .oob := by
  rfl
/-- the CS2 witness: `position += (64, 0)` from (1, 1) in a 1 x 1 box is rejected and the agent stays at (1, 1) -/
example : agentIadd (erun { dims := [(0, 64), (0, 64)], torus := false } 0 [.new 1, .set 1 [1, 1]]) 1 [64, 0] = .error .oob := by
  rfl
example : agentGet (erun { dims := [(0, 64), (0, 64)], torus := false } 0 [.new 1, .set 1 [1, 1], .iadd 1 [64, 0]]) 1 = .ok [1, 1] := by
  rfl
example : agentGet (erun { dims := [(0, 64), (0, 64)], torus := false } 0 [.new 1, .set 1 [1, 1], .iadd 1 [62, 0]]) 1 = .ok [63, 1] := by
  rfl
end Example

end Mesa.Cont
