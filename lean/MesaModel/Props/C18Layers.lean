import MesaModel.Proofs.LayersViews
/-!
# C18 (layers part) — a rejected property-layer call changes nothing

Lemmas for the C18 assembly.  In the Layers model every rejected call — a clashing, duplicate or
mis-shaped `add_property_layer` / `create_property_layer` on either implementation, removing an unknown
layer, an out-of-range cell write, a ufunc without its operand, a selection naming an unknown layer or
an invalid mode, placing into a full cell — returns the state it was given.
-/
namespace Mesa.Layers

/-- every op of the model: if it answers with an error, the state is unchanged -/
theorem C18_layers_step_reject_unchanged {s s' : State} {op : Op} {e : Err}
    (h : step s op = (s', .err e)) : s' = s :=
  (h ▸ step_outcome s op).reject rfl

/-- `add_property_layer(layer)` that raises (same name already attached, shape differs from the grid,
    name clashes with an attribute of the cell class) leaves the state exactly as it was. -/
theorem C18_layers_add_reject_unchanged {s s' : State} {lid : Nat} {e : Err}
    (h : attach s lid = (s', .err e)) : s' = s :=
  C18_layers_step_reject_unchanged (op := .attach lid) h

/-- the same for `create_property_layer` (legacy: construct + add): no layer object, array or name is
    left behind by a rejected call. -/
theorem C18_layers_create_reject_unchanged {s s' : State} {n : String} {dt : DType} {d : Int} {e : Err}
    (h : create s n dt d = (s', .err e)) : s' = s :=
  C18_layers_step_reject_unchanged (op := .create n dt (.raw d)) h

/-- the rejections are the three the code names, in the code's order (new: shape, duplicate, clash;
    legacy: duplicate, shape) -/
theorem C18_layers_add_rejects_exactly {s : State} {lid : Nat} {l : Layer} (hl : s.layer? lid = some l) :
    (attach s lid).2 = (match attachCheck s l with | some w => .err (.value w) | none => .ok) := by
  unfold attach
  rw [hl]
  simp only
  split <;> simp_all

/-- the legacy re-binding `layer.data = <held array>` (a transition outside the op language): refused ⇒ unchanged -/
theorem C18_layers_rebind_reject_unchanged {s s' : State} {l h : Nat} {e : Err}
    (h : rebind s l h = (s', .err e)) : s' = s :=
  (h ▸ rebind_outcome s l _).reject rfl

/-- the history with the rejected calls deleted -/
def accepted (s : State) : List Op → List Op
  | [] => []
  | op :: ops => if (step s op).2.isErr then accepted s ops else op :: accepted (step s op).1 ops

/-- A history with rejected calls yields the same final state, and the same outputs for all other
    calls, as the history with the rejected calls deleted: the program can catch the error and carry on
    as if the call had never been made. -/
theorem C18_layers_rejected_calls_invisible (s : State) (ops : List Op) :
    (run s (accepted s ops)).1 = (run s ops).1 ∧
    (run s (accepted s ops)).2 = (run s ops).2.filter (fun o => !o.isErr) := by
  induction ops generalizing s with
  | nil => simp [accepted, run]
  | cons op ops ih =>
    simp only [accepted, run]
    cases hr : (step s op).2.isErr with
    | true =>
      have hs : (step s op).1 = s := (step_outcome s op).reject hr
      simp only [if_true, hs, List.filter_cons, hr, Bool.not_true, Bool.false_eq_true, if_false]
      exact ih s
    | false =>
      simp only [Bool.false_eq_true, if_false, run, List.filter_cons, hr, Bool.not_false, if_true]
      obtain ⟨h1, h2⟩ := ih (step s op).1
      exact ⟨h1, by rw [h2]⟩

/-- non-vacuity: a history in which calls are rejected (clash, duplicate, mis-shaped, unknown name)
    between accepted ones -/
example : (run (init .new [2, 2] none)
    [.create "agents" .int 0, .create "a" .int 3, .create "a" .int 4, .newLayer "b" [3, 2] .int 0, .attach 2, .detach "zz",
     .cellSet "a" [1, 1] 7, .cellGet "a" [1, 1]]).2 =
    [.err (.value .clash), .id 1, .err (.value .exists), .id 2, .err (.value .dims), .err .key, .ok, .val 7] := by
  decide +kernel

example : (accepted (init .new [2, 2] none)
    [.create "agents" .int 0, .create "a" .int 3, .create "a" .int 4, .newLayer "b" [3, 2] .int 0, .attach 2, .detach "zz",
     .cellSet "a" [1, 1] 7, .cellGet "a" [1, 1]]).length = 4 := by
  decide +kernel

end Mesa.Layers
