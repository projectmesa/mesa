import MesaModel.Proofs.DevsAbm
import MesaModel.Proofs.DevsRaise
/-!
# C15 — ABMSimulator steps once per tick; chunking a run never changes it

`ReachableAbm s`: every state of an ABM simulation after `setup`, under any interleaving of user commands
(scheduling with any priority at top level, from events or from the step body; cancels; drops) and run
calls.  `Reachable` is the same for both simulator classes (see C14).
-/
namespace Mesa.Devs

/-- Chunking, both simulator classes: advancing a simulation through ANY list of pieces
    (`run_until t`, `run_for d`, `run_next_event`, in any mix) that stay within the horizon `T`, and then
    to `T`, ends in exactly the state — clock, pending events, step counter, complete execution trace —
    that a single `run_until T` produces: the one-piece run terminates, and EVERY terminating one-piece run
    (whatever its fuel) ends in that state. -/
theorem C15_chunking {s s₁ s₂ : Sim} {f f' : Nat} {T : Int} {ps : List Piece} (h : Reachable s)
    (hin : piecesWithin f T s ps) (hnorm : piecesNormal f s ps) (h₁ : runPieces f s ps = some s₁)
    (h₂ : runUntil f' s₁ T = some s₂) :
    (∃ g, runUntil g s T = some s₂) ∧ ∀ g s₂', runUntil g s T = some s₂' → s₂' = s₂ := by
  obtain ⟨g, hg⟩ := chunk_pieces (reachable_inv h).1 hin hnorm h₁ h₂
  exact ⟨⟨g, hg⟩, fun g' s₂' h' => runUntil_det h' hg⟩

/-- **Interrupted and resumed = uninterrupted.**  `resume f n s T`: the program calls `run_until(T)`; whenever an exception of a
    callable comes out of it, it catches the exception and calls `run_until(T)` again (at most `n` calls).  `runUntilC`: the
    uninterrupted run — the loop of `run_until` with every exception caught on the spot, i.e. the run in which the raising programs
    simply stop at their `raise`.  If the resumed run gets through, it ends with no exception pending in exactly the state —
    clock, list, counters, complete execution trace — of the uninterrupted run: the uninterrupted run terminates, and EVERY
    terminating uninterrupted run (whatever its fuel) ends in that very state.  An exception costs nothing but the rest of the
    program that raised. -/
theorem C15_interrupted_run_resumed {s s' : Sim} {f n : Nat} {T : Int} (h : Reachable s) (h0 : s.raised = none)
    (hres : resume f n s T = some s') :
    s'.raised = none ∧ (∃ g, runUntilC g s T = some s') ∧ ∀ g s'', runUntilC g s T = some s'' → s'' = s' := by
  obtain ⟨hn, g, hg⟩ := resume_runUntilC (reachable_inv h).1 h0 hres
  exact ⟨hn, ⟨g, hg⟩, fun g' s'' h' => runUntilC_det h' hg⟩

/-- **Uninterrupted = resumed, the converse (progress).**  Whenever the uninterrupted run terminates, the program that calls `run_until(T)` again
    after every exception gets through after finitely many calls, in the same state; no exception is left pending. -/
theorem C15_uninterrupted_run_is_resumed_run {s s' : Sim} {g : Nat} {T : Int} (h0 : s.raised = none)
    (hc : runUntilC g s T = some s') : s'.raised = none ∧ ∃ f n, resume f n s T = some s' := by
  obtain ⟨n, hn⟩ := resume_of_runUntilC h0 hc
  exact ⟨runUntilC_calm h0 hc, g, n, hn⟩

/-- The uninterrupted run and the resumed run are functions of (state, horizon): fuel and the bound on the number of calls are
    termination devices only — more of either never changes a result, and two terminating runs agree. -/
theorem C15_uninterrupted_run_fuel_irrelevant {f g n m : Nat} {s a b : Sim} {T : Int} :
    (f ≤ g → runUntilC f s T = some a → runUntilC g s T = some a) ∧
    (runUntilC f s T = some a → runUntilC g s T = some b → a = b) ∧
    (f ≤ g → n ≤ m → resume f n s T = some a → resume g m s T = some a) ∧
    (resume f n s T = some a → resume g m s T = some b → a = b) := by
  refine ⟨runUntilC_fuel_le, runUntilC_det, fun hfg hnm h => resume_calls_le hnm (resume_fuel_le hfg h), ?_⟩
  intro ha hb
  have h1 := resume_calls_le (Nat.le_max_left n m) (resume_fuel_le (Nat.le_max_left f g) ha)
  have h2 := resume_calls_le (Nat.le_max_right n m) (resume_fuel_le (Nat.le_max_right f g) hb)
  rw [h1] at h2
  exact Option.some.inj h2

/-- When nothing raises, the uninterrupted run is `run_until` itself. -/
theorem C15_normal_run_is_uninterrupted_run {s s' : Sim} {f : Nat} {T : Int} (hr : runUntil f s T = some s')
    (hn : s'.raised = none) : runUntilC f s T = some s' := runUntilC_of_normal hr hn

/-- **Chunking with exceptions.**  Any list of pieces (`run_until t`, `run_for d`, `run_next_event`) within the horizon `T`, each of
    which may be cut short by an exception that the program catches before the next piece, followed by the uninterrupted run to
    `T`, ends in exactly the state of the uninterrupted run to `T` from the start — which terminates, and every terminating
    uninterrupted run from the start ends in that state: where the cuts are, and which pieces met an exception, does not matter. -/
theorem C15_chunking_with_exceptions {s s₁ s₂ : Sim} {f f' : Nat} {T : Int} {ps : List Piece} (h : Reachable s)
    (h0 : s.raised = none) (hin : piecesWithinC f T s ps) (h₁ : runPiecesC f s ps = some s₁)
    (h₂ : runUntilC f' s₁ T = some s₂) :
    (∃ g, runUntilC g s T = some s₂) ∧ ∀ g s₂', runUntilC g s T = some s₂' → s₂' = s₂ := by
  obtain ⟨g, hg⟩ := chunkC_pieces (reachable_inv h).1 h0 hin h₁ h₂
  exact ⟨⟨g, hg⟩, fun g' s₂' h' => runUntilC_det h' hg⟩

/-- **Chunking with exceptions, progress.**  Conversely: whenever the uninterrupted run to `T` terminates (fuel `g`), EVERY list of
    pieces within `T` — exceptions caught in between — terminates too (same fuel per piece), and from where the pieces end both the
    uninterrupted run and the program that calls `run_until(T)` again after every exception reach that same final state. -/
theorem C15_chunking_with_exceptions_progress {s s₂ : Sim} {g : Nat} {T : Int} {ps : List Piece} (h : Reachable s)
    (h0 : s.raised = none) (hin : piecesWithinC g T s ps) (hc : runUntilC g s T = some s₂) :
    ∃ s₁, runPiecesC g s ps = some s₁ ∧ runUntilC g s₁ T = some s₂ ∧ ∃ n, resume g n s₁ T = some s₂ := by
  have hw := (reachable_inv h).1
  obtain ⟨s₁, h1, h2⟩ := pieces_of_runUntilC hw h0 hin hc
  obtain ⟨n, hn⟩ := resume_of_runUntilC (runPiecesC_inv hw h0 h1).2 h2
  exact ⟨s₁, h1, h2, n, hn⟩

/-- **Resumed in pieces = resumed in one piece** (the statement about programs only, no model-only loop in it): pieces within the
    horizon, exceptions caught in between, then `run_until(T)` called again and again until it returns normally, against
    `run_until(T)` called again and again from the start — if both get through they end in the same state, whatever the fuels,
    the bounds on the number of calls and the positions of the cuts; and if the run in pieces gets through, so does the run
    in one piece. -/
theorem C15_resumed_in_pieces_eq_resumed_in_one_piece {s s₁ a : Sim} {f f₁ n₁ : Nat} {T : Int} {ps : List Piece}
    (h : Reachable s) (h0 : s.raised = none) (hin : piecesWithinC f T s ps) (h₁ : runPiecesC f s ps = some s₁)
    (ha : resume f₁ n₁ s₁ T = some a) :
    (∃ f₂ n₂, resume f₂ n₂ s T = some a) ∧ ∀ f₂ n₂ b, resume f₂ n₂ s T = some b → b = a := by
  have hw := (reachable_inv h).1
  obtain ⟨hw₁, hc₁⟩ := runPiecesC_inv hw h0 h₁
  obtain ⟨_, g₁, hg₁⟩ := resume_runUntilC hw₁ hc₁ ha
  obtain ⟨g, hg⟩ := chunkC_pieces hw h0 hin h₁ hg₁
  obtain ⟨n, hn⟩ := resume_of_runUntilC h0 hg
  refine ⟨⟨g, n, hn⟩, fun f₂ n₂ b hb => ?_⟩
  obtain ⟨_, g₂, hg₂⟩ := resume_runUntilC hw h0 hb
  exact runUntilC_det hg₂ hg

/-- Fuel is only a termination device: more fuel never changes a result. -/
theorem C15_fuel_irrelevant {f g : Nat} {s s' : Sim} {T : Int} (hfg : f ≤ g)
    (h : runUntil f s T = some s') : runUntil g s T = some s' := runUntil_fuel_le hfg h

/-- Under ABMSimulator, after any `run_until` to an integer tick `k` (not before the clock),
    `model.steps` equals the clock. -/
theorem C15_abm_steps_eq_clock {s s' : Sim} {f k : Nat} (h : ReachableAbm s) (hT : s.now ≤ (k : Int) * U)
    (hr : runUntil f s ((k : Int) * U) = some s') (hn : s'.raised = none) : s'.steps = k ∧ s'.now = (k : Int) * U :=
  steps_eq_clock (reachable_inv h.reachable).1 (reachableAbm_inv h) hT hr hn

/-- **`model.steps` tracks the clock in every reachable state** (after `run_next_event` too, where equality can fail):
    `steps` ticks lie behind the clock and the next one not yet: `steps·U ≤ now ≤ (steps+1)·U`, and the step of tick
    `steps+1` is armed, live, on the list.  So `steps = ⌊now/U⌋`, except in the one situation `now = (steps+1)·U` — the clock
    has reached a tick whose step is still waiting *at the current time*: this is what `run_next_event` leaves when it executes
    a user event of HIGH priority that was scheduled for that tick before the step was re-armed (`abm1` below), or when such an
    event raises (aborted states are reachable states); the step of that tick is still armed at the current time and runs after
    the user events of HIGH priority (or priority < HIGH) that were scheduled for the tick before it was re-armed.  After a
    `run_until` to a tick that returns normally the counter equals the clock (`C15_abm_steps_eq_clock`). -/
theorem C15_abm_steps_track_clock {s : Sim} (h : ReachableAbm s) :
    (s.steps : Int) * U ≤ s.now ∧ s.now ≤ ((s.steps : Int) + 1) * U ∧
    ∃ st ∈ s.pending, st.isStep = true ∧ st.cancelled = false ∧ st.dead = false ∧ st.time = ((s.steps : Int) + 1) * U := by
  have hinv := reachableAbm_inv h
  have hw := (reachable_inv h.reachable).1
  obtain ⟨st, ha⟩ := hinv.armed
  have hmem : st ∈ s.pending := by
    have : st ∈ stepEvs s.pending := by
      rw [ha.only]
      simp
    exact (List.mem_filter.mp this).1
  have hfut := hw.future st hmem
  rw [ha.time] at hfut
  exact ⟨hinv.le, hfut, st, hmem, ha.isStep, ha.live, ha.alive, ha.time⟩

/-- **ABM: steps = clock after a run that met exceptions and was resumed** to an integer tick `k`: every aborted intermediate
    state satisfies `C15_abm_steps_track_clock` (aborted states are `ReachableAbm` states: the step was re-armed before its body
    ran, `steps` was already incremented), and when the resumed run gets through, `model.steps = k = clock`. -/
theorem C15_abm_steps_eq_clock_after_resume {s s' : Sim} {f n k : Nat} (h : ReachableAbm s) (h0 : s.raised = none)
    (hT : s.now ≤ (k : Int) * U) (hres : resume f n s ((k : Int) * U) = some s') :
    s'.steps = k ∧ s'.now = (k : Int) * U := by
  induction n generalizing s with
  | zero => simp [resume] at hres
  | succ n ih =>
    rcases resume_cases hres with ⟨h₁, hn⟩ | ⟨s₁, x, h₁, hx, hres⟩
    · exact C15_abm_steps_eq_clock h hT h₁ hn
    · exact ih (.caught (.until h hT h₁)) rfl (runUntil_aborted (reachable_inv h.reachable).1 h0 h₁ hx).1 hres

/-- `model.step` has run exactly once at every integer tick 1 … steps, and at no other time. -/
theorem C15_step_once_per_tick {s : Sim} (h : ReachableAbm s) :
    stepClocks s.log = (List.range s.steps).map (fun (i : Nat) => ((i : Int) + 1) * U) :=
  (reachableAbm_inv h).stepLog

/-- Exactly one step event is armed at any time, for the next tick, with HIGH priority; it cannot be
    cancelled or lose its callable through user commands. -/
theorem C15_step_always_armed {s : Sim} (h : ReachableAbm s) :
    ∃ st, s.pending.filter (·.isStep) = [st] ∧ st.cancelled = false ∧ st.dead = false ∧
      st.time = ((s.steps : Int) + 1) * U ∧ st.prio = 1 := by
  obtain ⟨st, ha⟩ := (reachableAbm_inv h).armed
  exact ⟨st, ha.only, ha.live, ha.alive, ha.time, ha.prio⟩

/-- The step of a tick runs ahead of every same-tick event of lower priority: whenever a user event of
    priority below HIGH is about to execute, the steps of all ticks up to its time have already run. -/
theorem C15_step_before_lower_priority {s : Sim} (h : ReachableAbm s) {e : Ev} {rest : List Ev}
    (hp : popLive s.pending = some (e, rest)) (hu : e.isStep = false) (hprio : 1 < e.prio) :
    e.time < ((s.steps : Int) + 1) * U := by
  obtain ⟨st, ha⟩ := (reachableAbm_inv h).armed
  obtain ⟨_, hlt, _⟩ := popLive_spec (reachable_inv h.reachable).1.sorted hp
  rcases armed_pop ha hp with ⟨rfl, _⟩ | ⟨_, hrest⟩
  · rw [ha.isStep] at hu
    simp at hu
  · have hmem : st ∈ rest := by
      have : st ∈ stepEvs rest := by
        rw [hrest]
        simp
      exact (List.mem_filter.mp this).1
    have := hlt st hmem
    rw [Ev.lt_iff, ha.time, ha.prio] at this
    omega

/-! non-vacuity: two ticks of an ABM run whose step body schedules a same-tick LOW event -/
section Example
def abm0 : Sim := setup (init .abm (fun _ => []) [.schedRel 0 10 0])
example : ReachableAbm abm0 := .setup _ _
example : ((runUntil 20 abm0 2048).map fun s => (s.steps, s.now, s.log.map (·.clock), s.log.map (·.isStep))) =
    some (2, 2048, [1024, 1024, 2048, 2048], [true, false, true, false]) := by decide +kernel
example : piecesWithin 20 2048 abm0 [.for 1024, .until 2048] :=
  ⟨by decide, fun _ _ => ⟨Int.le_refl _, fun _ _ => trivial⟩⟩
example : ((runPieces 20 abm0 [.for 1024, .next, .until 2048]).map fun s => (s.steps, s.now, s.log.map (·.clock))) =
    some (2, 2048, [1024, 1024, 2048, 2048]) := by decide +kernel
/-- the exception of `C15_abm_steps_track_clock` is real: a HIGH-priority user event scheduled for tick 2 before tick 1's
    step re-arms runs first at tick 2; `run_next_event` then leaves clock 2 with `steps = 1` -/
def abm1 : Sim := runNext ((runUntil 20 (doCmd (setup (init .abm (fun _ => []) [])) (.schedAbs 2048 1 0)) 1024).getD abm0)
example : (abm1.steps, abm1.now, abm1.log.map (·.isStep)) = (1, 2048, [true, false]) := by decide +kernel
example : ((runNext abm1).steps, (runNext abm1).now) = (2, 2048) := by decide +kernel
/-- a step body that raises (after scheduling a same-tick LOW event): `run_until(2 ticks)` is cut short at tick 1 with
    `steps = 1 = clock`, the step of tick 2 already armed (ids 1 = LOW event, 2 = next step); resumed (cut short again at tick 2,
    resumed again) it ends with `steps = 2 = clock`, and so does the uninterrupted run -/
def abmR : Sim := setup (init .abm (fun _ => []) [.schedRel 0 10 0, .raise .key, .schedRel 0 10 0])
example : ReachableAbm abmR := .setup _ _
example : ((runUntil 20 abmR 2048).map fun s => (s.raised, s.steps, s.now)) = some (some .key, 1, 1024) := by decide +kernel
example : ((runUntil 20 abmR 2048).map fun s => s.pending.map fun e => (e.id, e.isStep, e.time)) =
    some [(2, false, 1024), (1, true, 2048)] := by decide +kernel
example : ((resume 20 5 abmR 2048).map fun s => (s.raised, s.steps, s.now, s.log.map (·.clock))) =
    some (none, 2, 2048, [1024, 1024, 2048, 2048]) := by decide +kernel
example : ((runUntilC 20 abmR 2048).map fun s => (s.steps, s.now, s.log.map (·.clock))) =
    some (2, 2048, [1024, 1024, 2048, 2048]) := by decide +kernel
example : piecesWithinC 20 2048 abmR [.for 1024, .until 2048] :=
  ⟨by decide, fun _ _ => ⟨Int.le_refl _, fun _ _ => trivial⟩⟩
example : (((runPiecesC 20 abmR [.for 1024, .next, .until 2048]).bind (runUntilC 20 · 2048)).map
    fun s => (s.steps, s.now, s.log.map (·.clock))) = some (2, 2048, [1024, 1024, 2048, 2048]) := by decide +kernel
end Example

end Mesa.Devs
