import MesaModel.Proofs.LegacyHex
import MesaModel.Proofs.LegacyOrth
/-! Touching is symmetric on hexagonal tori of even width — and not on odd widths (C09: why the property's quantifier
asks for an even width). -/
namespace Mesa.Legacy

/-- shifting a hexagon by an even number of columns (and any number of rows) shifts its six neighbours along -/
theorem hexAdjacent_translate (m x : Coord) (t1 t2 : Int) (ht : t1 % 2 = 0) :
    x ∈ hexAdjacent m ↔ ((x.1 - t1, x.2 - t2) : Coord) ∈ hexAdjacent (m.1 - t1, m.2 - t2) := by
  have hpar : (m.1 - t1) % 2 = m.1 % 2 := by omega
  unfold hexAdjacent
  simp only [hpar, List.mem_map]
  constructor
  · rintro ⟨o, ho, rfl⟩
    exact ⟨o, ho, Prod.ext (by simp only []; omega) (by simp only []; omega)⟩
  · rintro ⟨o, ho, h⟩
    refine ⟨o, ho, ?_⟩
    have h1 := congrArg Prod.fst h
    have h2 := congrArg Prod.snd h
    simp only [] at h1 h2
    exact Prod.ext (by simp only []; omega) (by simp only []; omega)

theorem hexNbrs_torus_mem (d : Dim) (ht : d.torus = true) (c n : Coord) :
    n ∈ hexNbrs d c ↔ ∃ m ∈ hexAdjacent c, ((m.1 % d.w, m.2 % d.h) : Coord) = n := by
  simp [hexNbrs, ht]

theorem hexNbrs_symm_aux (d : Dim) (ht : d.torus = true) (hev : d.w % 2 = 0)
    (c n : Coord) (hc : d.inGrid c) (h : n ∈ hexNbrs d c) : c ∈ hexNbrs d n := by
  rw [hexNbrs_torus_mem d ht] at h ⊢
  obtain ⟨m, hm, rfl⟩ := h
  have hcm : c ∈ hexAdjacent m := (hexAdjacent_symm c m).mp hm
  have hpar : (d.w * (m.1 / d.w)) % 2 = 0 := by
    rw [Int.mul_emod, hev]
    simp
  have htr := (hexAdjacent_translate m c (d.w * (m.1 / d.w)) (d.h * (m.2 / d.h)) hpar).mp hcm
  have e1 : m.1 - d.w * (m.1 / d.w) = m.1 % d.w := by rw [Int.emod_def]
  have e2 : m.2 - d.h * (m.2 / d.h) = m.2 % d.h := by rw [Int.emod_def]
  rw [e1, e2] at htr
  refine ⟨_, htr, ?_⟩
  obtain ⟨c1, c2, c3, c4⟩ := hc
  refine Prod.ext ?_ ?_
  · simp only []
    rw [Int.sub_mul_emod_self_left]
    exact Int.emod_eq_of_lt c1 c2
  · simp only []
    rw [Int.sub_mul_emod_self_left]
    exact Int.emod_eq_of_lt c3 c4

/-- **on a torus of even width touching is symmetric** (the wrapped offset tables describe a hexagonal tiling) -/
theorem hexNbrs_symm_even_torus (d : Dim) (ht : d.torus = true) (hev : d.w % 2 = 0)
    (c n : Coord) (hc : d.inGrid c) (hn : d.inGrid n) : n ∈ hexNbrs d c ↔ c ∈ hexNbrs d n :=
  ⟨hexNbrs_symm_aux d ht hev c n hc, hexNbrs_symm_aux d ht hev n c hn⟩

/-- bounded grids: symmetric for every size -/
theorem hexNbrs_symm_bounded (d : Dim) (ht : d.torus = false) (c n : Coord) (hc : d.inGrid c) (hn : d.inGrid n) :
    n ∈ hexNbrs d c ↔ c ∈ hexNbrs d n := by
  have hoc := (oob_eq_false d c).mpr hc
  have hon := (oob_eq_false d n).mpr hn
  simp only [hexNbrs, ht, Bool.false_eq_true, if_false, List.mem_filter, hoc, hon, Bool.not_false, and_true]
  exact hexAdjacent_symm c n

end Mesa.Legacy
