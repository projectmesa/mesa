import MesaModel.Proofs.CellGrid
import MesaModel.Proofs.CellNbhd
/-!
Helper lemmas for C07: symmetry of grid connections; Network and Voronoi adjacency.
-/
namespace Mesa.Cells

/-- the hypothesis under which a wrapped hexagonal tiling exists: even size along the offset axis -/
def HexTorusOK (k : GridKind) (dims : List Nat) (torus : Bool) : Prop :=
  k = .hex → torus = true → ∀ h w, dims = [h, w] → w % 2 = 0

theorem isOffset_symm {k : GridKind} {dims : List Nat} {torus : Bool} {c key c' : List Int}
    (hc : InB c dims) (hx : HexTorusOK k dims torus)
    (ho : IsOffset k dims.length c key) (hcn : connectNd dims torus c key = some c') :
    IsOffset k dims.length c' (negv key) := by
  cases k with
  | moore => exact ⟨by rw [negv_length]; exact ho.1, by rw [chebNorm_negv]; exact ho.2⟩
  | vn => exact ⟨by rw [negv_length]; exact ho.1, by rw [manhNorm_negv]; exact ho.2⟩
  | hex =>
    obtain ⟨h2, i, j, di, dj, rfl, rfl, ht⟩ := ho
    refine ⟨h2, ?_⟩
    match dims, hc with
    | [h, w], hc =>
      obtain ⟨rfl, _⟩ := (connectNd_spec hc.length_eq rfl).mp hcn
      cases torus with
      | false =>
        exact ⟨i + di, j + dj, -di, -dj, rfl, rfl, hexTouch_symm i j di dj ht⟩
      | true =>
        have hw : (w : Int) % 2 = 0 := by
          have := hx rfl rfl h w rfl
          omega
        refine ⟨(i + di) % h, (j + dj) % w, -di, -dj, rfl, rfl, ?_⟩
        have hs := hexTouch_symm i j di dj ht
        rw [← hexTable_touching] at hs ⊢
        rw [hexTable_parity ((j + dj) % w) (j + dj)]
        · exact hs
        · exact Int.emod_emod_of_dvd _ (Int.dvd_of_emod_eq_zero hw)

theorem gridConn_InB (k : GridKind) (dims : List Nat) (torus : Bool) (c : List Int) (hc : InB c dims)
    (hk : k = .hex → dims.length = 2) (key c' : List Int) (h : (key, c') ∈ gridConn k dims torus c) :
    InB c' dims := by
  obtain ⟨ho, hcn⟩ := (mem_gridConn k dims torus c hc hk key c').mp h
  exact ((connectNd_spec hc.length_eq ho.length_eq).mp hcn).2

/-- connection is symmetric in every grid geometry (hex tori: even offset-axis size) -/
theorem gridConn_symm (k : GridKind) (dims : List Nat) (torus : Bool) (c : List Int)
    (hpos : ∀ w ∈ dims, 0 < w) (hc : InB c dims) (hk : k = .hex → dims.length = 2)
    (hx : HexTorusOK k dims torus) (key c' : List Int)
    (h : (key, c') ∈ gridConn k dims torus c) : (negv key, c) ∈ gridConn k dims torus c' := by
  obtain ⟨ho, hcn⟩ := (mem_gridConn k dims torus c hc hk key c').mp h
  rw [mem_gridConn k dims torus c' (gridConn_InB k dims torus c hc hk key c' h) hk]
  exact ⟨isOffset_symm hc hx ho hcn, connectNd_symm hpos hc ho.length_eq hcn⟩

/-! ### Network -/

theorem mem_ite_singleton {α : Type} {p : Prop} [Decidable p] {x y : α} :
    y ∈ (if p then [x] else []) ↔ p ∧ y = x := by
  split <;> simp [*]

theorem mem_netAdj (directed : Bool) (edges : List (Nat × Nat)) (u v : Nat) :
    v ∈ netAdj directed edges u ↔ (u, v) ∈ edges ∨ (directed = false ∧ (v, u) ∈ edges) := by
  unfold netAdj
  simp only [mem_dictUpdate, List.not_mem_nil, false_or, List.mem_flatMap, List.mem_append, Prod.exists,
    mem_ite_singleton, Bool.and_eq_true, Bool.not_eq_true', decide_eq_true_eq]
  constructor
  · rintro ⟨a, b, hm, ⟨rfl, rfl⟩ | ⟨⟨hd, rfl⟩, rfl⟩⟩
    · exact Or.inl hm
    · exact Or.inr ⟨hd, hm⟩
  · rintro (h | ⟨hd, h⟩)
    · exact ⟨u, v, h, Or.inl ⟨rfl, rfl⟩⟩
    · exact ⟨v, u, h, Or.inr ⟨⟨hd, rfl⟩, rfl⟩⟩

theorem netAdj_nodup (directed : Bool) (edges : List (Nat × Nat)) (u : Nat) : (netAdj directed edges u).Nodup :=
  nodup_dictUpdate List.nodup_nil

theorem mem_netConn (directed : Bool) (edges : List (Nat × Nat)) (u : Nat) (key c' : List Int) :
    (key, c') ∈ netConn directed edges [(u : Int)] ↔
      ∃ v : Nat, key = [(v : Int)] ∧ c' = [(v : Int)] ∧ v ∈ netAdj directed edges u := by
  simp only [netConn, Int.natCast_nonneg, if_true, Int.toNat_natCast]
  exact mem_map_item _ _ _ _ _

/-! ### Voronoi -/

/-- the `connect` calls made for one triangle come in mirrored pairs -/
theorem triPairs_symm (t : Nat × Nat × Nat) (i j : Nat) :
    (i, j) ∈ triPairs t ↔ (j, i) ∈ triPairs t := by
  have swap : ∀ i j, (i, j) ∈ triPairs t → (j, i) ∈ triPairs t := by
    obtain ⟨a, b, c⟩ := t
    intro i j h
    simp only [triPairs, List.mem_cons, Prod.mk.injEq, List.not_mem_nil, or_false] at h ⊢
    rcases h with ⟨rfl, rfl⟩ | ⟨rfl, rfl⟩ | ⟨rfl, rfl⟩ | ⟨rfl, rfl⟩ | ⟨rfl, rfl⟩ | ⟨rfl, rfl⟩ <;> simp
  exact ⟨swap i j, swap j i⟩

theorem mem_vorAdj (tris : List (Nat × Nat × Nat)) (i j : Nat) :
    j ∈ vorAdj tris i ↔ ∃ t ∈ tris, (i, j) ∈ triPairs t := by
  unfold vorAdj
  rw [mem_dictUpdate]
  simp only [List.not_mem_nil, false_or, List.mem_map, List.mem_filter, List.mem_flatMap, decide_eq_true_eq,
    Prod.exists]
  constructor
  · rintro ⟨a, b, ⟨⟨t, ht, hm⟩, rfl⟩, rfl⟩
    exact ⟨t, ht, hm⟩
  · rintro ⟨t, ht, hm⟩
    exact ⟨i, j, ⟨⟨t, ht, hm⟩, rfl⟩, rfl⟩

theorem mem_vorConn (tris : List (Nat × Nat × Nat)) (i : Nat) (key c' : List Int) :
    (key, c') ∈ vorConn tris [(i : Int)] ↔
      ∃ j : Nat, key = [(i : Int), (j : Int)] ∧ c' = [(j : Int)] ∧ j ∈ vorAdj tris i := by
  simp only [vorConn, Int.natCast_nonneg, if_true, Int.toNat_natCast]
  exact mem_map_item _ _ _ _ _

end Mesa.Cells
