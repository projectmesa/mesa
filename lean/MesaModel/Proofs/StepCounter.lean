import MesaModel.Model.StepCounter
/-! Helper lemmas for C05 (model: `Model/StepCounter.lean`): the bodies one call runs in closed form, `run_model` as `k`
    calls, operations on several instances. -/
namespace Mesa.Steps

/-- depths (from `d` on) of the levels that define `step`, in MRO order -/
def overriding : Hier → Nat → List Nat
  | [], _ => []
  | L :: rest, d => if L.overrides then d :: overriding rest (d + 1) else overriding rest (d + 1)

/-- the levels that define `step`, with their depths, in MRO order -/
def ovLevels : Hier → Nat → List (Nat × Level)
  | [], _ => []
  | L :: rest, d => if L.overrides then (d, L) :: ovLevels rest (d + 1) else ovLevels rest (d + 1)

theorem ovLevels_depths (h : Hier) (d : Nat) : (ovLevels h d).map (·.1) = overriding h d := by
  induction h generalizing d with
  | nil => rfl
  | cons L rest ih =>
    unfold ovLevels overriding
    split <;> simp [ih]

theorem ovLevels_eq_zipIdx (h : Hier) (d : Nat) :
    ovLevels h d = ((h.zipIdx d).filter (·.1.overrides)).map Prod.swap := by
  induction h generalizing d with
  | nil => rfl
  | cons L rest ih =>
    rw [ovLevels, List.zipIdx_cons, List.filter_cons]
    split <;> simp [ih]

theorem mem_ovLevels {h : Hier} {d : Nat} {p : Nat × Level} :
    p ∈ ovLevels h d ↔ d ≤ p.1 ∧ h[p.1 - d]? = some p.2 ∧ p.2.overrides = true := by
  obtain ⟨n, M⟩ := p
  simp only [ovLevels_eq_zipIdx, List.mem_map, List.mem_filter, Prod.exists, Prod.swap, Prod.mk.injEq,
    List.mk_mem_zipIdx_iff_le_and_getElem?_sub]
  constructor
  · rintro ⟨a, b, ⟨⟨h1, h2⟩, h3⟩, rfl, rfl⟩
    exact ⟨h1, h2, h3⟩
  · rintro ⟨h1, h2, h3⟩
    exact ⟨M, n, ⟨⟨h1, h2⟩, h3⟩, rfl, rfl⟩

theorem mem_overriding {h : Hier} {d x : Nat} :
    x ∈ overriding h d ↔ d ≤ x ∧ ∃ L, h[x - d]? = some L ∧ L.overrides = true := by
  rw [← ovLevels_depths, List.mem_map]
  constructor
  · rintro ⟨p, hp, rfl⟩
    obtain ⟨h1, h2, h3⟩ := mem_ovLevels.mp hp
    exact ⟨h1, p.2, h2, h3⟩
  · rintro ⟨h1, L, h2, h3⟩
    exact ⟨(x, L), mem_ovLevels.mpr ⟨h1, h2, h3⟩, rfl⟩

theorem overriding_sorted (h : Hier) (d : Nat) : (overriding h d).Pairwise (· < ·) := by
  induction h generalizing d with
  | nil => simp [overriding]
  | cons L rest ih =>
    unfold overriding
    split
    · exact List.pairwise_cons.mpr ⟨fun x hx => (mem_overriding.mp hx).1, ih _⟩
    · exact ih _

theorem overriding_eq_nil {h : Hier} {d : Nat} : overriding h d = [] ↔ ∀ L ∈ h, L.overrides = false := by
  induction h generalizing d with
  | nil => simp [overriding]
  | cons L rest ih =>
    unfold overriding
    cases hL : L.overrides <;> simp [hL, ih]

/-! ### the bodies one call runs, in closed form -/

/-- Which bodies run, without recursion: of the levels that define `step` (MRO order) take those in front of the first
    one that cannot accept the arguments (`def step(self)` reached with arguments); the bodies that run are these up
    to and including the first that does not call `super().step(...)`; each sees the same counter and the caller's
    arguments; the call raises `TypeError` iff there are arguments and every body that ran called super. -/
def chainSpec (h : Hier) (d : Nat) (args : List Int) (s : Nat) : List Entry × Bool :=
  let good := (ovLevels h d).takeWhile (fun p => args.isEmpty || p.2.takesArgs)
  let n := (good.takeWhile (fun p => p.2.callsSuper)).length
  ((good.take (n + 1)).map (fun p => ⟨p.1, s, args⟩), args.isEmpty || decide (n < good.length))

theorem runChain_eq_chainSpec (h : Hier) (d : Nat) (args : List Int) (s : Nat) :
    runChain h d args s = chainSpec h d args s := by
  induction h generalizing d with
  | nil => simp [runChain, chainSpec, ovLevels]
  | cons L rest ih =>
    have hguard : (!L.takesArgs && !args.isEmpty) = !(args.isEmpty || L.takesArgs) := by
      rw [Bool.not_or, Bool.and_comm]
    rw [runChain, hguard]
    cases ho : L.overrides
    · simp [chainSpec, ovLevels, ho, ih]
    · cases hacc : (args.isEmpty || L.takesArgs)
      · obtain ⟨hae, hta⟩ := Bool.or_eq_false_iff.mp hacc
        simp [chainSpec, ovLevels, ho, hae, hta]
      · -- a level that does not take arguments got none: what it forwards is what it got
        have hfw : (if L.takesArgs = true then args else []) = args := by
          split
          · rfl
          · rename_i hta
            simp [hta] at hacc
            exact hacc.symm
        cases hcs : L.callsSuper
        · simp [chainSpec, ovLevels, ho, hacc, hcs]
        · simp [chainSpec, ovLevels, ho, hacc, hcs, hfw, ih]

theorem runChain_entry (h : Hier) (d : Nat) (args : List Int) (s : Nat) :
    ∀ e ∈ (runChain h d args s).1, e.steps = s ∧ e.args = args := by
  intro e he
  rw [runChain_eq_chainSpec] at he
  obtain ⟨p, _, rfl⟩ := List.mem_map.mp he
  exact ⟨rfl, rfl⟩

theorem runChain_steps (h : Hier) (d : Nat) (args : List Int) (s : Nat) :
    ∀ e ∈ (runChain h d args s).1, e.steps = s :=
  fun e he => (runChain_entry h d args s e he).1

theorem runChain_head_args (h : Hier) (d : Nat) (args : List Int) (s : Nat) :
    ∀ e ∈ (runChain h d args s).1.head?, e.args = args :=
  fun e he => (runChain_entry h d args s e (List.mem_of_mem_head? he)).2

theorem runChain_prefix (h : Hier) (d : Nat) (args : List Int) (s : Nat) :
    ((runChain h d args s).1.map (·.depth)) <+: overriding h d := by
  rw [runChain_eq_chainSpec, ← ovLevels_depths, chainSpec, List.map_map]
  exact ((List.take_prefix _ _).trans (List.takeWhile_prefix _)).map _

theorem runChain_noargs (h : Hier) (d : Nat) (s : Nat) :
    runChain h d [] s =
      (((ovLevels h d).take (((ovLevels h d).takeWhile (·.2.callsSuper)).length + 1)).map (fun p => ⟨p.1, s, []⟩), true) := by
  have hgood : (ovLevels h d).takeWhile (fun p => ([] : List Int).isEmpty || p.2.takesArgs) = ovLevels h d := by
    simpa using List.takeWhile_append_of_pos (l₂ := []) (p := fun p : Nat × Level => ([] : List Int).isEmpty || p.2.takesArgs)
      (l₁ := ovLevels h d) fun _ _ => rfl
  rw [runChain_eq_chainSpec, chainSpec, hgood]
  rfl

/-- a list cut behind the first element that fails `p`: every element but the last satisfies `p` -/
theorem of_take_takeWhile_succ {α : Type} {p : α → Bool} {l pre post : List α} {a : α}
    (h : l.take ((l.takeWhile p).length + 1) = pre ++ a :: post) (hpost : post ≠ []) : p a = true := by
  induction l generalizing pre with
  | nil => simp at h
  | cons b l ih =>
    rw [List.takeWhile_cons] at h
    split at h
    · rename_i hb
      cases pre with
      | nil =>
        simp at h
        exact h.1 ▸ hb
      | cons c pre =>
        simp at h
        exact ih h.2
    · cases pre with
      | nil =>
        simp at h
        exact absurd h.2 hpost
      | cons c pre => simp at h

theorem callStep_steps (i : Inst) (args : List Int) : (callStep i args).1.steps = i.steps + 1 := rfl

/-- `k` calls of `step()` -/
def stepN : Nat → Inst → Inst
  | 0, i => i
  | k + 1, i => stepN k (callStep i []).1

theorem stepN_steps (k : Nat) (i : Inst) : (stepN k i).steps = i.steps + k := by
  induction k generalizing i with
  | zero => rfl
  | succ k ih =>
    rw [stepN, ih, callStep_steps]
    omega

/-- the records of `k` successive `step()` calls -/
def entriesN : Nat → Inst → List Entry
  | 0, _ => []
  | k + 1, i => (callStep i []).2.1 ++ entriesN k (callStep i []).1

theorem runModel_stopped (f : Nat) {i : Inst} (hr : i.running = false) : runModel (f + 1) i = some (i, []) := by
  simp [runModel, hr]

theorem runModel_running (f : Nat) {i : Inst} (hr : i.running = true) :
    runModel (f + 1) i = (runModel f (callStep i []).1).map fun r => (r.1, (callStep i []).2.1 ++ r.2) := by
  rw [runModel]
  simp only [hr, Bool.not_true, Bool.false_eq_true, if_false]
  cases runModel f (callStep i []).1 <;> rfl

theorem runModel_entries (f : Nat) (i i' : Inst) (es : List Entry) (h : runModel f i = some (i', es)) :
    ∃ k, i' = stepN k i ∧ es = entriesN k i ∧ i'.running = false ∧ ∀ j, j < k → (stepN j i).running = true := by
  induction f generalizing i i' es with
  | zero => simp [runModel] at h
  | succ f ih =>
    cases hr : i.running
    · rw [runModel_stopped f hr] at h
      cases h
      exact ⟨0, rfl, rfl, hr, fun j hj => absurd hj (Nat.not_lt_zero _)⟩
    · rw [runModel_running f hr] at h
      obtain ⟨r, heq, h⟩ := Option.map_eq_some_iff.mp h
      cases h
      obtain ⟨k, h1, h1e, h2, h3⟩ := ih _ _ _ heq
      refine ⟨k + 1, h1, congrArg ((callStep i []).2.1 ++ ·) h1e, h2, fun j hj => ?_⟩
      cases j with
      | zero => exact hr
      | succ j => exact h3 j (by omega)

theorem entriesN_eq_flatMap (k : Nat) (i : Inst) :
    entriesN k i = (List.range k).flatMap (fun j => (callStep (stepN j i) []).2.1) := by
  induction k generalizing i with
  | zero => rfl
  | succ k ih =>
    rw [List.range_succ_eq_map, List.flatMap_cons, List.flatMap_map, entriesN, ih]
    rfl

theorem callStep_stepN_steps (j : Nat) (i : Inst) : ∀ e ∈ (callStep (stepN j i) []).2.1, e.steps = i.steps + j + 1 := by
  intro e he
  have := runChain_steps (stepN j i).hier 0 [] ((stepN j i).steps + 1) e he
  rw [this, stepN_steps]

theorem entriesN_steps (k : Nat) (i : Inst) : ∀ e ∈ entriesN k i, i.steps + 1 ≤ e.steps ∧ e.steps ≤ i.steps + k := by
  intro e he
  rw [entriesN_eq_flatMap] at he
  obtain ⟨j, hj, he⟩ := List.mem_flatMap.mp he
  have := callStep_stepN_steps j i e he
  have := List.mem_range.mp hj
  omega

theorem callStep_bodies_pos (i : Inst) (hne : overriding i.hier 0 ≠ []) : 0 < (callStep i []).2.1.length := by
  rw [← ovLevels_depths] at hne
  exact List.length_pos_iff.mpr (by simpa [callStep, runChain_noargs] using hne)

theorem callStep_stops_of_reached (i : Inst) (hne : overriding i.hier 0 ≠ [])
    (hs : i.stopAt ≤ i.execs + 1) : (callStep i []).1.running = false := by
  have hl := callStep_bodies_pos i hne
  have h1 : ((callStep i []).2.1.length != 0) = true := bne_iff_ne.mpr (Nat.ne_of_gt hl)
  have h2 : decide (i.stopAt ≤ i.execs + (callStep i []).2.1.length) = true := decide_eq_true (by omega)
  show (i.running && !((callStep i []).2.1.length != 0 && decide (i.stopAt ≤ i.execs + (callStep i []).2.1.length))) = false
  rw [h1, h2]
  simp

theorem runModel_terminates (i : Inst) (hne : overriding i.hier 0 ≠ []) :
    ∃ f, (runModel f i).isSome = true := by
  generalize hn : i.stopAt - i.execs = n
  induction n using Nat.strongRecOn generalizing i with
  | _ n ih =>
    cases hr : i.running
    · exact ⟨1, by simp [runModel_stopped 0 hr]⟩
    · by_cases hs : i.stopAt ≤ i.execs + 1
      · -- the stop rule is reached by this call
        exact ⟨2, by simp [runModel_running 1 hr, runModel_stopped 0 (callStep_stops_of_reached i hne hs)]⟩
      · -- the call brings the stop rule nearer
        have hlt : i.execs < (callStep i []).1.execs := Nat.lt_add_of_pos_right (callStep_bodies_pos i hne)
        have hst : (callStep i []).1.stopAt = i.stopAt := rfl
        obtain ⟨f, hf⟩ := ih ((callStep i []).1.stopAt - (callStep i []).1.execs) (by omega) (callStep i []).1 hne rfl
        exact ⟨f + 1, by rwa [runModel_running f hr, Option.isSome_map]⟩

/-! ### several instances -/

def Op.target : Op → Nat
  | .step i _ => i | .run i _ => i | .rearm i _ => i | .halt i => i

/-- what an operation makes of the instance it is applied to (`run_model` out of fuel: nothing) -/
def Op.act : Op → Inst → Inst
  | .step _ args, x => (callStep x args).1
  | .run _ fuel, x => ((runModel fuel x).map (·.1)).getD x
  | .rearm _ k, x => Steps.rearm x k
  | .halt _, x => Steps.halt x

theorem apply_of_none {w : List Inst} {op : Op} (h : w[op.target]? = none) : apply w op = w := by
  cases op <;> simp only [Op.target] at h <;> simp only [apply, h]

theorem apply_of_some {w : List Inst} {op : Op} {x : Inst} (h : w[op.target]? = some x) :
    apply w op = w.set op.target (op.act x) := by
  cases op with
  | run i fuel =>
    simp only [Op.target] at h
    simp only [apply, h, Op.act, Op.target]
    cases runModel fuel x with
    | some r => rfl
    | none =>
      obtain ⟨hi, rfl⟩ := List.getElem?_eq_some_iff.mp h
      exact (List.set_getElem_self hi).symm
  | _ =>
    simp only [Op.target] at h
    simp only [apply, h, Op.act, Op.target]

theorem apply_length (w : List Inst) (op : Op) : (apply w op).length = w.length := by
  cases h : w[op.target]? with
  | none => rw [apply_of_none h]
  | some x => rw [apply_of_some h, List.length_set]

theorem apply_frame (w : List Inst) (op : Op) (j : Nat) (h : op.target ≠ j) : (apply w op)[j]? = w[j]? := by
  cases hx : w[op.target]? with
  | none => rw [apply_of_none hx]
  | some x => rw [apply_of_some hx, List.getElem?_set_ne h]

theorem apply_target (w : List Inst) (op : Op) : (apply w op)[op.target]? = w[op.target]?.map op.act := by
  cases hx : w[op.target]? with
  | none =>
    rw [apply_of_none hx, hx]
    rfl
  | some x =>
    rw [apply_of_some hx, List.getElem?_set_self', hx]
    rfl

theorem apply_local (w w' : List Inst) (op : Op) (h : w[op.target]? = w'[op.target]?) :
    (apply w op)[op.target]? = (apply w' op)[op.target]? := by
  rw [apply_target, apply_target, h]

theorem returns_local (w w' : List Inst) (op : Op) (h : w[op.target]? = w'[op.target]?) : op.returns w = op.returns w' := by
  cases op <;> simp only [Op.returns, Op.target] at h ⊢
  rw [h]

def Op.isStepOn (j : Nat) : Op → Bool
  | .step i _ => i == j
  | _ => false

def Op.isRun : Op → Bool
  | .run _ _ => true
  | _ => false

theorem Op.act_steps (op : Op) (x : Inst) (hr : op.isRun = false) :
    (op.act x).steps = x.steps + if op.isStepOn op.target then 1 else 0 := by
  cases op with
  | run i f => simp [Op.isRun] at hr
  | _ => simp [Op.act, Op.isStepOn, Op.target, callStep_steps, Steps.rearm, Steps.halt]

theorem apply_steps (w : List Inst) (op : Op) (j : Nat) (x : Inst) (hx : w[j]? = some x) (hr : op.isRun = false) :
    ((apply w op)[j]?.map (·.steps)) = some (x.steps + if op.isStepOn j then 1 else 0) := by
  by_cases ht : op.target = j
  · subst ht
    rw [apply_target, hx, Option.map_some, Option.map_some, op.act_steps x hr]
  · have : op.isStepOn j = false := by
      cases op <;> simp [Op.isStepOn, Op.target] at ht ⊢
      exact ht
    rw [apply_frame w op j ht, hx, this]
    rfl

theorem run_steps (ops : List Op) (hnr : ∀ op ∈ ops, op.isRun = false)
    (w : List Inst) (j : Nat) (x : Inst) (hx : w[j]? = some x) :
    (run w ops)[j]?.map (·.steps) = some (x.steps + (ops.filter (·.isStepOn j)).length) := by
  induction ops generalizing w x with
  | nil => simp [run, hx]
  | cons op rest ih =>
    obtain ⟨y, hy, h1⟩ := Option.map_eq_some_iff.mp (apply_steps w op j x hx (hnr op List.mem_cons_self))
    rw [show run w (op :: rest) = run (apply w op) rest from rfl,
      ih (fun o ho => hnr o (List.mem_cons_of_mem _ ho)) _ y hy, h1, List.filter_cons]
    split <;> simp <;> omega

theorem run_own_ops (j : Nat) (ops : List Op) (w w' : List Inst) (h : w[j]? = w'[j]?) (hret : allReturn w ops = true) :
    allReturn w' (ops.filter (fun op => op.target == j)) = true ∧
    (run w ops)[j]? = (run w' (ops.filter (fun op => op.target == j)))[j]? := by
  induction ops generalizing w w' with
  | nil => exact ⟨rfl, h⟩
  | cons op ops ih =>
    rw [allReturn, Bool.and_eq_true] at hret
    rw [List.filter_cons]
    by_cases ht : op.target = j
    · -- an operation on `j`: both histories make it, from states that agree at `j`
      subst ht
      rw [if_pos (beq_self_eq_true _)]
      obtain ⟨h1, h2⟩ := ih _ _ (apply_local w w' op h) hret.2
      exact ⟨by rw [allReturn, ← returns_local w w' op h, hret.1, h1, Bool.and_self], h2⟩
    · -- an operation on another instance: only the long history makes it, and `j` does not notice
      rw [if_neg (by simpa using ht)]
      exact ih _ w' ((apply_frame w op j ht).trans h) hret.2

end Mesa.Steps
