import MesaModel.Proofs.ListOps
/-!
Facts about lists and option-valued maps that the identity-level copy models (`Proofs/Copy.lean`, `Proofs/CopyOcc*.lean`,
`Proofs/CopySet*.lean`) use.
-/
namespace Mesa

theorem ite_some_cases {β} {P : Prop} [Decidable P] {x y : β} {o : Option β} (h : (if P then some x else o) = some y) :
    (P ∧ y = x) ∨ (¬ P ∧ o = some y) := by
  split at h
  · exact Or.inl ⟨by assumption, (Option.some.inj h).symm⟩
  · exact Or.inr ⟨by assumption, h⟩

/-- every map of a copied world has this shape: `f` below `B`, from `B` on the `g`-images of what `p` selects, moved up by `B` -/
theorem shifted_cases {β} {B : Nat} {p : Nat → Bool} {f : Nat → Option β} {g : β → β} {i : Nat} {y : β}
    (h : (if B ≤ i then (if p (i - B) then (f (i - B)).map g else none) else f i) = some y) :
    (i < B ∧ f i = some y) ∨ ∃ j x, i = j + B ∧ p j = true ∧ f j = some x ∧ y = g x := by
  split at h
  · rename_i hB
    split at h
    · rename_i hp
      obtain ⟨x, hx, rfl⟩ := Option.map_eq_some_iff.mp h
      exact Or.inr ⟨i - B, x, by omega, hp, hx, rfl⟩
    · cases h
  · exact Or.inl ⟨by omega, h⟩

end Mesa
