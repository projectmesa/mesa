import MesaModel.Proofs.Legacy
/-! What `move_agent_to_one_of` chooses (C08): `random.shuffle` permutes, `random.choice` picks a member, and the
scan of `closest` collects exactly the offers at minimal distance, in the order scanned.
Defines `Grid.isClosest` (the tie list of C08's statements). -/
namespace Mesa.Legacy

open Grid

theorem swapIB_perm {α : Type} (a : Array α) (i j : Nat) : (a.swapIfInBounds i j).Perm a := by
  unfold Array.swapIfInBounds
  split
  · split
    · exact Array.swap_perm _ _
    · exact Array.Perm.refl _
  · exact Array.Perm.refl _

theorem shuffleAux_perm {α : Type} (i : Nat) (a : Array α) (s : Script) (a' : Array α) (s' : Script)
    (h : shuffleAux i a s = some (a', s')) : a'.Perm a := by
  induction i generalizing a s with
  | zero =>
    simp [shuffleAux] at h
    rw [← h.1]
  | succ i ih =>
    simp only [shuffleAux] at h
    split at h
    · cases h
    · exact (ih _ _ h).trans (swapIB_perm _ _ _)

theorem shuffle_perm {α : Type} (l : List α) (s : Script) (l' : List α) (s' : Script)
    (h : shuffle l s = some (l', s')) : l'.Perm l := by
  unfold shuffle at h
  split at h
  · cases h
  · rename_i a s'' hs
    simp only [Option.some.injEq, Prod.mk.injEq] at h
    have := shuffleAux_perm _ _ _ _ _ hs
    rw [← h.1]
    simpa [Array.perm_iff_toList_perm] using this

theorem choice_mem {α : Type} (l : List α) (s : Script) (x : α) (s' : Script) (h : choice l s = some (x, s')) : x ∈ l := by
  unfold choice at h
  split at h
  · cases h
  · split at h
    · cases h
    · rename_i hx
      simp only [Option.some.injEq, Prod.mk.injEq] at h
      rw [← h.1]
      exact List.mem_of_getElem? hx

/-! ### the tie list of `closest` -/

/-- an offered position at minimal distance from `cur` -/
def Grid.isClosest (g : Grid) (cur : Coord) (ps : List Coord) (p : Coord) : Bool :=
  decide (∀ y ∈ ps, g.distSq p cur ≤ g.distSq y cur)

theorem filter_closest_cons_min (g : Grid) (cur p : Coord) (ps : List Coord)
    (h : ∀ y ∈ ps, g.distSq p cur ≤ g.distSq y cur) :
    (p :: ps).filter (g.isClosest cur (p :: ps)) = p :: ps.filter (fun q => decide (g.distSq q cur = g.distSq p cur)) := by
  have hp : g.isClosest cur (p :: ps) p = true := by
    simp only [isClosest, decide_eq_true_eq, List.mem_cons]
    rintro y (rfl | hy)
    · exact Int.le_refl _
    · exact h y hy
  rw [List.filter_cons_of_pos hp]
  congr 1
  apply List.filter_congr
  intro q hq
  simp only [isClosest, List.mem_cons, forall_eq_or_imp]
  have := h q hq
  by_cases hd : g.distSq q cur = g.distSq p cur
  · simp only [hd, Int.le_refl, true_and, decide_true, decide_eq_true_eq]
    exact h
  · have : ¬ g.distSq q cur ≤ g.distSq p cur := by omega
    simp [hd, this]

theorem filter_closest_cons_not_min (g : Grid) (cur p : Coord) (ps : List Coord)
    (h : ∃ y ∈ ps, g.distSq y cur < g.distSq p cur) :
    (p :: ps).filter (g.isClosest cur (p :: ps)) = ps.filter (g.isClosest cur ps) := by
  obtain ⟨y, hy, hlt⟩ := h
  have hp : ¬ g.isClosest cur (p :: ps) p = true := by
    simp only [isClosest, decide_eq_true_eq, List.mem_cons]
    intro hall
    have := hall y (Or.inr hy)
    omega
  rw [List.filter_cons_of_neg hp]
  apply List.filter_congr
  intro q _
  have : (g.distSq q cur ≤ g.distSq p cur ∧ ∀ z ∈ ps, g.distSq q cur ≤ g.distSq z cur) ↔
      ∀ z ∈ ps, g.distSq q cur ≤ g.distSq z cur :=
    ⟨fun h => h.2, fun h => ⟨by have := h y hy; omega, h⟩⟩
  simp only [isClosest, List.mem_cons, forall_eq_or_imp, this]

theorem exists_lt_of_not_all (ps : List Coord) (f : Coord → Int) (d : Int) (h : ¬ ∀ y ∈ ps, d ≤ f y) : ∃ y ∈ ps, f y < d :=
  Classical.byContradiction fun hc => h fun y hy => Classical.byContradiction fun hlt => hc ⟨y, hy, by omega⟩

theorem closestScan_some (g : Grid) (cur : Coord) (ps : List Coord) (md : Int) (acc : List Coord) :
    g.closestScan cur ps (some md) acc =
      if ∀ y ∈ ps, md ≤ g.distSq y cur then acc ++ ps.filter (fun q => decide (g.distSq q cur = md))
      else ps.filter (g.isClosest cur ps) := by
  induction ps generalizing md acc with
  | nil => simp [closestScan]
  | cons p ps ih =>
    simp only [closestScan]
    by_cases h1 : g.distSq p cur < md
    · -- a new minimum: the tie list restarts with `p`
      rw [if_pos h1, ih]
      have hno : ¬ ∀ y ∈ p :: ps, md ≤ g.distSq y cur := fun h => by have := h p (by simp); omega
      rw [if_neg hno]
      by_cases h2 : ∀ y ∈ ps, g.distSq p cur ≤ g.distSq y cur
      · rw [if_pos h2, filter_closest_cons_min g cur p ps h2]
        rfl
      · rw [if_neg h2, filter_closest_cons_not_min g cur p ps (exists_lt_of_not_all ps (fun y => g.distSq y cur) _ h2)]
    · -- no new minimum: `md` bounds `p :: ps` iff it bounds `ps`, and if it does not, `p` is not closest
      rw [if_neg h1]
      have hall : (∀ y ∈ p :: ps, md ≤ g.distSq y cur) ↔ ∀ y ∈ ps, md ≤ g.distSq y cur := by
        rw [List.forall_mem_cons]
        exact ⟨fun h => h.2, fun h => ⟨by omega, h⟩⟩
      have hnot : (¬ ∀ y ∈ ps, md ≤ g.distSq y cur) →
          ps.filter (g.isClosest cur ps) = (p :: ps).filter (g.isClosest cur (p :: ps)) := fun h2 => by
        obtain ⟨y, hy, hlt⟩ := exists_lt_of_not_all ps (fun y => g.distSq y cur) _ h2
        exact (filter_closest_cons_not_min g cur p ps ⟨y, hy, by have : g.distSq y cur < md := hlt; omega⟩).symm
      by_cases h3 : g.distSq p cur = md
      · -- a tie: appended
        rw [if_pos h3, ih, List.filter_cons_of_pos (by simp [h3])]
        simp only [hall]
        split
        · simp
        · exact hnot ‹_›
      · -- farther than the minimum so far: skipped
        rw [if_neg h3, ih, List.filter_cons_of_neg (by simp [h3])]
        simp only [hall]
        split
        · rfl
        · exact hnot ‹_›

/-- **the tie list**: the scan of `closest` collects exactly the offers at minimal distance, in the order scanned -/
theorem closestScan_filter (g : Grid) (cur : Coord) (ps : List Coord) :
    g.closestScan cur ps none [] = ps.filter (g.isClosest cur ps) := by
  cases ps with
  | nil => simp [closestScan]
  | cons p ps =>
    simp only [closestScan]
    rw [closestScan_some]
    by_cases h2 : ∀ y ∈ ps, g.distSq p cur ≤ g.distSq y cur
    · rw [if_pos h2, filter_closest_cons_min g cur p ps h2]
      rfl
    · rw [if_neg h2, filter_closest_cons_not_min g cur p ps (exists_lt_of_not_all ps (fun y => g.distSq y cur) _ h2)]

theorem exists_closest (g : Grid) (cur : Coord) (ps : List Coord) (hne : ps ≠ []) :
    ps.filter (g.isClosest cur ps) ≠ [] := by
  have key : ∀ l : List Coord, l ≠ [] → ∃ x ∈ l, ∀ y ∈ l, g.distSq x cur ≤ g.distSq y cur := by
    intro l
    induction l with
    | nil =>
      intro h
      exact absurd rfl h
    | cons p l ih =>
      intro _
      by_cases hl : l = []
      · subst hl
        exact ⟨p, by simp, by simp⟩
      · obtain ⟨x, hx, hmin⟩ := ih hl
        by_cases hpx : g.distSq p cur ≤ g.distSq x cur
        · refine ⟨p, by simp, fun y hy => ?_⟩
          rcases List.mem_cons.mp hy with rfl | hy
          · exact Int.le_refl _
          · have := hmin y hy
            omega
        · refine ⟨x, List.mem_cons_of_mem _ hx, fun y hy => ?_⟩
          rcases List.mem_cons.mp hy with rfl | hy
          · omega
          · exact hmin y hy
  obtain ⟨x, hx, hmin⟩ := key ps hne
  exact List.ne_nil_of_mem (List.mem_filter.mpr ⟨hx, by simpa [isClosest] using hmin⟩)

/-- the position `move_agent_to_one_of` picks is one of the offered ones; with `closest` no offered
    position is nearer (in the grid's `_distance_squared`) to where the agent stands -/
theorem chooseOneOf_spec (g : Grid) (a : Aid) (ps : List Coord) (sel : Selection) (s : Script) (q : Coord)
    (h : g.chooseOneOf a ps sel s = .ok q) :
    q ∈ ps ∧ (sel = .closest → ∃ cur, g.pos a = some cur ∧ ∀ y ∈ ps, g.distSq q cur ≤ g.distSq y cur) := by
  unfold chooseOneOf at h
  cases sel with
  | random =>
    simp only [] at h
    split at h
    · cases h
    · rename_i q' s' hc
      simp only [Except.ok.injEq] at h
      subst h
      exact ⟨choice_mem _ _ _ _ hc, by intro h; cases h⟩
  | other => cases h
  | closest =>
    simp only [] at h
    split at h
    · cases h
    · rename_i ps' s' hsh
      have hperm := shuffle_perm _ _ _ _ hsh
      split at h
      · cases h
      · rename_i cur hcur
        split at h
        · cases h
        · rename_i q' s'' hc
          simp only [Except.ok.injEq] at h
          subst h
          have hm := choice_mem _ _ _ _ hc
          rw [closestScan_filter] at hm
          obtain ⟨h1, h2⟩ := List.mem_filter.mp hm
          have h2 : ∀ y ∈ ps', g.distSq q' cur ≤ g.distSq y cur := by simpa [isClosest] using h2
          exact ⟨hperm.mem_iff.mp h1, fun _ => ⟨cur, hcur, fun y hy => h2 y (hperm.mem_iff.mpr hy)⟩⟩

end Mesa.Legacy
