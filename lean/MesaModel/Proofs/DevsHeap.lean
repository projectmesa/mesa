import MesaModel.Proofs.Devs
import MesaModel.Proofs.Heap
/-! The sorted-list event queue of the Devs model is a sound abstraction of the `heapq` array `EventList` really keeps. -/
namespace Mesa.Devs
open Mesa.Heap

theorem ev_swo : SWO Ev.lt :=
  ⟨fun _ _ h => Ev.lt_asymm h, fun a b c h1 h2 => by
    have n1 : ¬ (a.lt b = true) := by simp [h1]
    have n2 : ¬ (b.lt c = true) := by simp [h2]
    cases h : a.lt c
    · rfl
    · rw [Ev.lt_iff] at n1 n2 h
      omega⟩

/-- the concrete heap array `hp` and the model's sorted list `s` hold the same events -/
structure Refines (hp s : List Ev) : Prop where
  heap : IsHeap Ev.lt hp
  perm : hp.Perm s
  sorted : Sorted s

theorem refines_nil : Refines [] [] := ⟨fun _ _ _ _ h => by simp at h, List.Perm.refl _, by simp [Sorted]⟩

theorem refines_push {hp s : List Ev} (r : Refines hp s) (e : Ev) (hid : ∀ x ∈ s, x.id ≠ e.id) :
    Refines (heappush Ev.lt hp e) (insert e s) :=
  ⟨heappush_heap ev_swo r.heap e,
   ((heappush_perm Ev.lt hp e).trans (List.Perm.cons e r.perm)).trans (insert_perm e s).symm,
   insert_sorted r.sorted hid⟩

theorem refines_pop {hp s hp' : List Ev} {m : Ev} (r : Refines hp s) (hpop : heappop Ev.lt hp = some (m, hp')) :
    ∃ s', s = m :: s' ∧ Refines hp' s' := by
  obtain ⟨hperm, hheap, hmin, _⟩ := heappop_spec ev_swo r.heap hpop
  have hm : m ∈ s := r.perm.subset (hperm.symm.subset List.mem_cons_self)
  cases s with
  | nil => cases hm
  | cons x xs =>
    have hs := List.pairwise_cons.mp r.sorted
    have hxm : x = m := by
      rcases List.mem_cons.mp hm with rfl | hmem
      · rfl
      · -- x precedes m strictly, but m is a minimum of the heap, which contains x
        have hlt := hs.1 m hmem
        have hx : x ∈ hp := r.perm.symm.subset List.mem_cons_self
        rcases List.mem_cons.mp (hperm.subset hx) with rfl | hx'
        · rfl
        · have := hmin x hx'
          rw [hlt] at this
          cases this
    subst hxm
    refine ⟨xs, rfl, hheap, ?_, hs.2⟩
    exact (List.perm_cons x).mp (hperm.symm.trans r.perm)

theorem refines_pop_none {hp s : List Ev} (r : Refines hp s) (hpop : heappop Ev.lt hp = none) : s = [] := by
  have := (heappop_none_iff Ev.lt hp).mp hpop
  subst this
  exact List.eq_nil_of_length_eq_zero (by simpa using r.perm.length_eq.symm)

/-- `EventList.pop_event` on the array: `heappop` until a live event comes out -/
def heapPopLive : Nat → List Ev → Option (Ev × List Ev)
  | 0, _ => none
  | f+1, hp => match heappop Ev.lt hp with
    | none => none
    | some (e, hp') => if e.cancelled then heapPopLive f hp' else some (e, hp')

/-- `heapPopLive` on the array corresponds to the model's `popLive`: same event, corresponding remainders -/
theorem refines_popLive {hp s : List Ev} (r : Refines hp s) :
    match popLive s with
    | some (e, rest) => ∃ hp', heapPopLive (s.length + 1) hp = some (e, hp') ∧ Refines hp' rest
    | none => heapPopLive (s.length + 1) hp = none := by
  induction s generalizing hp with
  | nil =>
    have : hp = [] := List.eq_nil_of_length_eq_zero (by
      have := r.perm.length_eq
      simpa using this)
    subst this
    simp [popLive, heapPopLive, heappop]
  | cons x xs ih =>
    cases hpop : heappop Ev.lt hp with
    | none =>
      have := refines_pop_none r hpop
      cases this
    | some res =>
      obtain ⟨m, hp'⟩ := res
      obtain ⟨s', hs', r'⟩ := refines_pop r hpop
      simp only [List.cons.injEq] at hs'
      obtain ⟨rfl, rfl⟩ := hs'
      simp only [popLive, List.length_cons, heapPopLive, hpop]
      by_cases hc : x.cancelled = true
      · simp only [hc, if_true]
        exact ih r'
      · have hc' : x.cancelled = false := by simpa using hc
        simp only [hc', Bool.false_eq_true, if_false]
        exact ⟨hp', rfl, r'⟩

end Mesa.Devs
