import MesaModel.Proofs.Layers
/-!
The predicates on ops in which the frame theorems of C11 are stated: which ops may write the values of a layer, which
may change its dtype, and which are the user's own interference with the built-in `empty` layer.
-/
namespace Mesa.Layers

/-- ops that may change a value of layer `l` in state `s` -/
def Op.mayWrite (s : State) (l : Nat) : Op → Prop
  | .layerSet l' _ _ => l' = l
  | .setCells l' _ _ => l' = l
  | .setFrom l' _ _ => l' = l
  | .modifyCells l' _ _ _ => l' = l
  | .modifyT l' _ _ _ => l' = l
  | .modifyU l' _ _ _ _ => l' = l
  | .modifyCell l' _ _ => l' = l
  | .modifyCellU l' _ _ _ => l' = l
  | .cellSet n _ _ => s.named? n = some l
  | .cellSet2 l' _ _ => l' = l
  | .hset h _ _ => ∃ d, s.handles.lookup h = some ((s.layers l).data, d)
  | .place _ _ => s.impl = .new ∧ s.named? "empty" = some l
  | .move _ _ => s.impl = .new ∧ s.named? "empty" = some l
  | .remove _ => s.impl = .new ∧ s.named? "empty" = some l
  | _ => False

/-- ops that may change the dtype of layer `l`: a `modify_cells` on it whose result is of another type -/
def Op.mayRetype (l : Nat) : Op → Prop
  | .modifyT l' _ _ _ => l' = l
  | .modifyU l' _ _ _ _ => l' = l
  | _ => False

/-- The static part of safety: an op by which the *user* (not the grid) writes to, re-points or removes the built-in
    `empty` layer of a `new` grid (layer id 0, name "empty") through the layer or the cell attribute.  Taking a
    reference to its array (`grab h 0`; legacy: `grabMask h` = `grid.empty_mask`) and reading through it is safe;
    whether a *write* through a reference is safe depends on the state (`Op.safeAt`). -/
def Op.safe (impl : Impl) : Op → Bool
  | .layerSet l _ _ => impl != .new || l != 0
  | .setCells l _ _ => impl != .new || l != 0
  | .setFrom l _ _ => impl != .new || l != 0
  | .modifyCells l _ _ _ => impl != .new || l != 0
  | .modifyT l _ _ _ => impl != .new || l != 0
  | .modifyU l _ _ _ _ => impl != .new || l != 0
  | .modifyCell l _ _ => impl != .new || l != 0
  | .modifyCellU l _ _ _ => impl != .new || l != 0
  | .cellSet n _ _ => impl != .new || n != "empty"
  | .cellSet2 l _ _ => impl != .new || l != 0
  | .detach n => impl != .new || n != "empty"
  | _ => true

/-- Safety of an op in the state it is issued in: a write through a user-held reference (`h[c] = v`) is the user's own
    overwrite of the emptiness view exactly when the reference aliases the emptiness array (array 0: obtained by
    `grab h 0` on a cell space, `grabMask h` on a legacy grid); everything else is judged statically. -/
def Op.safeAt (s : State) : Op → Bool
  | .hset h _ _ => match s.handles.lookup h with
    | some (a, _) => a != 0
    | none => true
  | op => op.safe s.impl

end Mesa.Layers
