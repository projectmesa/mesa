import MesaModel.Proofs.LegacyChoose
import MesaModel.Proofs.LegacyHist
/-! Which draws the random movers of the legacy grids consume, and over which list (C08):
`shuffle` takes `len - 1` draws, `choice` one; the tie list of `closest` is the minimal-distance sub-list of the shuffled offers
in shuffled order; `move_to_empty` takes one draw below the cutoff and two per attempt above it. -/
namespace Mesa.Legacy

open Grid

theorem below_nil (n : Nat) : below [] n = none := rfl
theorem below_cons (x : Nat) (xs : Script) (n : Nat) : below (x :: xs) n = some (x % n, xs) := rfl

/-- the Fisher–Yates loop over `i` positions consumes exactly `i` draws -/
theorem shuffleAux_draws {α : Type} (i : Nat) (a : Array α) (s : Script) :
    (s.length < i → shuffleAux i a s = none) ∧ (i ≤ s.length → ∃ a', shuffleAux i a s = some (a', s.drop i)) := by
  induction i generalizing a s with
  | zero => exact ⟨fun h => by omega, fun _ => ⟨a, by simp [shuffleAux]⟩⟩
  | succ i ih =>
    cases s with
    | nil => exact ⟨fun _ => by simp [shuffleAux, below], fun h => by simp at h⟩
    | cons x xs =>
      simp only [shuffleAux, below, List.length_cons, List.drop_succ_cons]
      obtain ⟨h1, h2⟩ := ih (a.swapIfInBounds (i + 1) (x % (i + 2))) xs
      exact ⟨fun h => h1 (by omega), fun h => h2 (by omega)⟩

/-- `random.shuffle(l)` consumes exactly `len(l) - 1` draws (raises on a shorter script) and permutes -/
theorem shuffle_draws {α : Type} (l : List α) (s : Script) :
    (s.length < l.length - 1 → shuffle l s = none) ∧
    (l.length - 1 ≤ s.length → ∃ l', shuffle l s = some (l', s.drop (l.length - 1)) ∧ l'.Perm l) := by
  obtain ⟨h1, h2⟩ := shuffleAux_draws (l.length - 1) l.toArray s
  refine ⟨fun h => by simp [shuffle, h1 h], fun h => ?_⟩
  obtain ⟨a', ha⟩ := h2 h
  have hs : shuffle l s = some (a'.toList, s.drop (l.length - 1)) := by simp [shuffle, ha]
  exact ⟨a'.toList, hs, shuffle_perm l s _ _ hs⟩

/-- `random.choice(l)` of a non-empty list consumes one draw `x` and returns `l[x % len(l)]` -/
theorem choice_draws {α : Type} (l : List α) (hl : l ≠ []) :
    choice l [] = none ∧ ∀ x xs, ∃ v, l[x % l.length]? = some v ∧ choice l (x :: xs) = some (v, xs) := by
  refine ⟨by simp [choice, below], fun x xs => ?_⟩
  have hpos : 0 < l.length := List.length_pos_iff.mpr hl
  have hlt : x % l.length < l.length := Nat.mod_lt _ hpos
  exact ⟨l[x % l.length], by simp [hlt], by simp [choice, below, hlt]⟩

/-- `selection="random"`: one draw `x`, the offer `ps[x % len]` -/
theorem chooseOneOf_random (g : Grid) (a : Aid) (ps : List Coord) (hne : ps ≠ []) :
    g.chooseOneOf a ps .random [] = .error .script ∧
    ∀ x xs, ∃ q, ps[x % ps.length]? = some q ∧ g.chooseOneOf a ps .random (x :: xs) = .ok q := by
  obtain ⟨h0, h1⟩ := choice_draws ps hne
  refine ⟨by simp [chooseOneOf, h0], fun x xs => ?_⟩
  obtain ⟨q, hq, hc⟩ := h1 x xs
  exact ⟨q, hq, by simp [chooseOneOf, hc]⟩

/-- `selection="closest"` for a placed agent: `len - 1` draws shuffle the offers, one more picks from the tie list -/
theorem chooseOneOf_closest (g : Grid) (a : Aid) (cur : Coord) (hcur : g.pos a = some cur) (ps : List Coord) (hne : ps ≠ [])
    (s : Script) :
    (s.length < ps.length → g.chooseOneOf a ps .closest s = .error .script) ∧
    (ps.length ≤ s.length → ∃ ps' x q, shuffle ps s = some (ps', s.drop (ps.length - 1)) ∧ ps'.Perm ps ∧
      s[ps.length - 1]? = some x ∧
      (ps'.filter (g.isClosest cur ps'))[x % (ps'.filter (g.isClosest cur ps')).length]? = some q ∧
      g.chooseOneOf a ps .closest s = .ok q) := by
  have hpos : 0 < ps.length := List.length_pos_iff.mpr hne
  obtain ⟨hs1, hs2⟩ := shuffle_draws ps s
  constructor
  · intro hlt
    by_cases hsh : s.length < ps.length - 1
    · simp [chooseOneOf, hs1 hsh]
    · obtain ⟨ps', hsp, hperm⟩ := hs2 (by omega)
      have hdrop : s.drop (ps.length - 1) = [] := List.drop_eq_nil_of_le (by omega)
      have hne' : ps' ≠ [] := fun h => hne (by rw [h] at hperm; exact List.Perm.nil_eq hperm |>.symm ▸ rfl)
      have := (choice_draws _ (exists_closest g cur ps' hne')).1
      simp only [chooseOneOf, hsp, hcur, closestScan_filter, hdrop, this]
  · intro hle
    obtain ⟨ps', hsp, hperm⟩ := hs2 (by omega)
    have hne' : ps' ≠ [] := fun h => hne (by rw [h] at hperm; exact List.Perm.nil_eq hperm |>.symm ▸ rfl)
    have hlt : ps.length - 1 < s.length := by omega
    have hdrop : s.drop (ps.length - 1) = s[ps.length - 1] :: s.drop (ps.length - 1 + 1) := List.drop_eq_getElem_cons hlt
    obtain ⟨q, hq, hc⟩ := (choice_draws _ (exists_closest g cur ps' hne')).2 (s[ps.length - 1]) (s.drop (ps.length - 1 + 1))
    refine ⟨ps', s[ps.length - 1], q, hsp, hperm, by simp [hlt], hq, ?_⟩
    simp only [chooseOneOf, hsp, hcur, closestScan_filter, hdrop, hc]

/-- the script runs out before an empty cell is hit -/
theorem pickLoop_none (g : Grid) (s : Script) (h : g.pickLoop s = none) :
    ∀ j, 2 * j + 1 < s.length → ∃ (x' y' : Nat), s[2 * j]? = some x' ∧ s[2 * j + 1]? = some y' ∧
      g.isCellEmpty ((x' : Int) % g.w, (y' : Int) % g.h) = false := by
  induction s using pickLoop.induct g with
  | case1 x y rest p hp =>
    rw [pickLoop, if_pos hp] at h
    cases h
  | case2 x y rest p hp ih =>
    rw [pickLoop, if_neg hp] at h
    intro j hj
    cases j with
    | zero => exact ⟨x, y, by simp, by simp, by simpa using hp⟩
    | succ j =>
      obtain ⟨x'', y'', g1, g2, g3⟩ := ih h j (by simp only [List.length_cons] at hj; omega)
      refine ⟨x'', y'', ?_, ?_, g3⟩
      · rw [show 2 * (j + 1) = 2 * j + 1 + 1 by omega]; simpa using g1
      · rw [show 2 * (j + 1) + 1 = 2 * j + 1 + 1 + 1 by omega]; simpa using g2
  | case3 s hs =>
    intro j hj
    match s, hs with
    | [], _ => simp at hj
    | [_], _ => simp at hj
    | x :: y :: rest, hs => exact absurd rfl (hs x y rest)

/-- `move_to_empty`: full grid / one draw below the cutoff (`sorted(empties)[x % n]`) / the sampling loop above it -/
theorem moveToEmpty_draws (g : Grid) (hi : Inv g) (a : Aid) (s : Script) :
    (g.buildEmpties = [] → g.moveToEmpty a s = (g.readEmpties.1, .err .noEmpty)) ∧
    (g.buildEmpties ≠ [] → g.buildEmpties.length ≤ g.cutoff →
      (s = [] → g.moveToEmpty a s = (g.readEmpties.1, .err .script)) ∧
      ∀ x xs, s = x :: xs → ∃ q, g.buildEmpties[x % g.buildEmpties.length]? = some q ∧
        g.moveToEmpty a s = removePlace g.readEmpties.1 a q) ∧
    (g.buildEmpties ≠ [] → g.cutoff < g.buildEmpties.length →
      (g.pickLoop s = none → g.moveToEmpty a s = (g.readEmpties.1, .err .script)) ∧
      ∀ q, g.pickLoop s = some q → g.moveToEmpty a s = removePlace g.readEmpties.1 a q) := by
  rw [moveToEmpty_unfold g hi a s]
  refine ⟨fun hnil => by simp [hnil], fun hne hle => ⟨fun hs => ?_, fun x xs hs => ?_⟩, fun hne hgt => ⟨fun hp => ?_, fun q hp => ?_⟩⟩
  · have hlen : g.buildEmpties.length ≠ 0 := fun h => hne (List.eq_nil_of_length_eq_zero h)
    have hng : ¬ g.buildEmpties.length > g.cutoff := by omega
    simp [hlen, hng, hs, below]
  · have hlen : g.buildEmpties.length ≠ 0 := fun h => hne (List.eq_nil_of_length_eq_zero h)
    have hng : ¬ g.buildEmpties.length > g.cutoff := by omega
    have hlt : x % g.buildEmpties.length < g.buildEmpties.length := Nat.mod_lt _ (by omega)
    refine ⟨g.buildEmpties[x % g.buildEmpties.length], by simp [hlt], ?_⟩
    simp [hlen, hng, hs, below, hlt]
  · have hlen : g.buildEmpties.length ≠ 0 := fun h => hne (List.eq_nil_of_length_eq_zero h)
    simp [hlen, hgt, hp]
  · have hlen : g.buildEmpties.length ≠ 0 := fun h => hne (List.eq_nil_of_length_eq_zero h)
    simp [hlen, hgt, hp]

end Mesa.Legacy
