import MesaModel.Model.CellGen
/-! helper lemmas on `random.choice` (`choice` is `pick`; used for C06 and C01) and, for `Props/C01Cells.lean`, on the
    rejection-sampling loop and its draw count -/
namespace Mesa.Cells

theorem draw_mem {l : List Cid} {d : Nat} {c : Cid} (h : draw l d = some c) : c ∈ l :=
  List.mem_of_getElem? h

theorem choice_eq_pick (seq : List Cid) (draws : List Nat) :
    choice seq draws = match pick seq draws with
      | .ok c _ _ => .okCell c
      | .err e => .err e := by
  unfold choice pick
  split
  · rfl
  · cases draws with
    | nil => rfl
    | cons d ds =>
      simp only [draw]
      cases seq[d % seq.length]? <;> rfl

theorem tryRandom_congr (s s' : State) (cells : List Cid) (h : ∀ c ∈ cells, isEmpty s c = isEmpty s' c) (draws : List Nat) :
    tryRandomLoop s cells draws = tryRandomLoop s' cells draws ∧ tryRandomUsed s cells draws = tryRandomUsed s' cells draws := by
  induction draws with
  | nil => exact ⟨rfl, rfl⟩
  | cons d ds ih =>
    simp only [tryRandomLoop, tryRandomUsed]
    cases hd : draw cells d with
    | none => exact ⟨rfl, rfl⟩
    | some c => simp only [h c (draw_mem hd), ih, and_self]

theorem tryRandomUsed_spec (s : State) (cells : List Cid) (draws : List Nat) :
    tryRandomUsed s cells draws ≤ draws.length ∧
    (∀ c, tryRandomLoop s cells draws = .okCell c → 1 ≤ tryRandomUsed s cells draws) ∧
    (tryRandomLoop s cells draws = .err .script → tryRandomUsed s cells draws = draws.length) := by
  induction draws with
  | nil => simp [tryRandomLoop, tryRandomUsed]
  | cons d ds ih =>
    simp only [tryRandomLoop, tryRandomUsed, List.length_cons]
    cases draw cells d with
    | none => simp
    | some c0 =>
      dsimp only
      cases isEmpty s c0 with
      | true => simp
      | false =>
        simp only [Bool.false_eq_true, if_false]
        obtain ⟨hle, _, hall⟩ := ih
        exact ⟨Nat.add_comm _ 1 ▸ Nat.succ_le_succ hle, fun _ _ => Nat.le_add_right _ _,
          fun h => by rw [hall h, Nat.add_comm]⟩

end Mesa.Cells
