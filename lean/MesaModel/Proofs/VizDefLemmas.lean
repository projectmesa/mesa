import MesaModel.Proofs.Viz
import MesaModel.Proofs.VizLayers
import MesaModel.Proofs.VizKwargs
/-!
Definition-level lemmas about the Viz model: each unfolds one small function of the model (`optArray`, `Agent.location`,
`applyKw`, the level of a range without extent, the `*args` test of `_check_model_params`).  None of them decides C20, and no
module imports this one.
-/
namespace Mesa.Viz

/-- The optional arrays `alpha` / `edgecolors` / `linewidths` (`alphas`, `edgecolorss`, `linewidthss` are
    `optArray` of the respective field; fix V7): the array is empty exactly when no agent's portrayal specifies
    the key, and otherwise it has exactly one slot per entry, in the order of the entries, holding the value
    the portrayal returned or `None` — never a shorter array that the masks of `_scatter` would not fit. -/
theorem optArray_spec (f : Entry → Option Val) (es : List Entry) :
    (optArray f es = [] ↔ ∀ e ∈ es, f e = none) ∧
    (optArray f es ≠ [] → optArray f es = es.map f ∧ (optArray f es).length = es.length) := by
  have hall := all_isNone_iff f es
  unfold optArray
  split
  · rename_i h
    exact ⟨⟨fun _ => hall.mp h, fun _ => rfl⟩, fun hne => absurd rfl hne⟩
  · rename_i h
    refine ⟨⟨fun hm => ?_, fun hn => absurd (hall.mpr hn) h⟩, fun _ => ⟨rfl, List.length_map _⟩⟩
    rw [List.map_eq_nil_iff] at hm
    subst hm
    simp at h

/-- The location rule: `agent.pos` if it is set, `agent.cell.coordinate` otherwise. -/
theorem location_rule (a : Agent) :
    (∀ p, a.pos = some p → a.location = some p) ∧ (a.pos = none → a.location = a.cell) := by
  unfold Agent.location
  exact ⟨fun p hp => by rw [hp], fun hp => by rw [hp]⟩

/-- What the keywords do to the markers (matplotlib's side, `applyKw`): a keyword given sets that property of every
    marker of every call, the other properties stay as the portrayals gave them; without keywords nothing changes. -/
theorem applyKw_spec (d : KwDrawing) :
    d.drawn.flatten = (d.groups.flatMap (·.drawn)).map (applyKw d.kw) ∧
    (∀ e, (applyKw d.kw e).loc = e.loc ∧ (applyKw d.kw e).s = e.s ∧ (applyKw d.kw e).c = e.c ∧
      (applyKw d.kw e).marker = e.marker ∧ (applyKw d.kw e).zorder = e.zorder) ∧
    (∀ e v, d.kw.lookup "alpha" = some v → (applyKw d.kw e).alpha = some v) ∧
    (∀ e, d.kw.lookup "alpha" = none → (applyKw d.kw e).alpha = e.alpha) ∧
    (d.kw = [] → d.drawn = d.groups.map (·.drawn)) := by
  refine ⟨?_, fun e => ⟨rfl, rfl, rfl, rfl, rfl⟩, fun e v hv => by simp [applyKw, hv], fun e hv => by simp [applyKw, hv],
    fun hk => ?_⟩
  · unfold KwDrawing.drawn
    induction d.groups with
    | nil => rfl
    | cons g gs ih => simp [List.flatMap_cons, ih]
  · unfold KwDrawing.drawn
    rw [hk]
    apply List.map_congr_left
    intro g _
    exact List.map_id'' (fun e => applyKw_nil e) _

/-- V13: over a range without extent (a constant layer under the automatic range, or `vmin = vmax` given) every
    cell is drawn at level 0 — a well-defined picture in all modes, not 0/0. -/
theorem V13_level_zero (alpha : Nat) (v m : Int) :
    normLevel v m m = ⟨0, 1⟩ ∧ orthoShade alpha v m m = ⟨0, 1⟩ ∧ (hexShade alpha v m m).num = 0 ∧
    (hexShade alpha v m m).den = 100 := by
  simp [normLevel, orthoShade, hexShade]

/-- Constructors taking `*args` are refused whatever the parameters are. -/
theorem check_refuses_var_positional (sig : List Param) (keys : List String)
    (h : ∃ p ∈ sig, p.kind = .varPos) : checkModelParams sig keys = .error .varPositional := by
  unfold checkModelParams
  rw [if_pos (hasVarPositional_iff.mpr h)]

end Mesa.Viz
