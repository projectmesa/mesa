import MesaModel.Proofs.LegacySet
/-! Orthogonal neighbourhoods (C09): fast path = slow path on interior cells, the result is the
    duplicate-free list of in-grid cells in range, and the result cache is transparent. -/
namespace Mesa.Legacy

/-! ### ranges and congruence helpers -/

theorem mem_intRange (x lo : Int) (n : Nat) : x ∈ intRange lo n ↔ lo ≤ x ∧ x < lo + n := by
  unfold intRange
  simp only [List.mem_map, List.mem_range, Int.ofNat_eq_natCast]
  constructor
  · rintro ⟨i, hi, rfl⟩
    omega
  · rintro ⟨h1, h2⟩
    exact ⟨(x - lo).toNat, by omega, by omega⟩

theorem intRange_shift (a b : Int) (n : Nat) : intRange (a + b) n = (intRange b n).map (fun t => a + t) := by
  unfold intRange
  rw [List.map_map]
  apply List.map_congr_left
  intro i _
  simp only [Function.comp, Int.ofNat_eq_natCast]
  omega

theorem flatMap_map_congr {α β γ : Type} (l : List α) (g : α → β) (f : β → List γ) (f' : α → List γ)
    (h : ∀ a ∈ l, f (g a) = f' a) : (l.map g).flatMap f = l.flatMap f' := by
  induction l with
  | nil => rfl
  | cons x xs ih =>
    simp only [List.map_cons, List.flatMap_cons]
    rw [h x (by simp), ih (fun a ha => h a (by simp [ha]))]

theorem filterMap_map_congr {α β γ : Type} (l : List α) (g : α → β) (f : β → Option γ) (f' : α → Option γ)
    (h : ∀ a ∈ l, f (g a) = f' a) : (l.map g).filterMap f = l.filterMap f' := by
  induction l with
  | nil => rfl
  | cons x xs ih =>
    simp only [List.map_cons, List.filterMap_cons]
    rw [h x (by simp), ih (fun a ha => h a (by simp [ha]))]

theorem iabs_le (z : Int) (r : Nat) : Grid.iabs z ≤ (r : Int) ↔ -(r : Int) ≤ z ∧ z ≤ (r : Int) := by
  unfold Grid.iabs
  split <;> omega

theorem wrapIf_mk (d : Dim) (a b : Int) :
    d.wrapIf (a, b) = if d.torus then (a % d.w, b % d.h) else (a, b) := rfl

theorem wrapIf_inGrid (d : Dim) (p : Coord) (h : d.inGrid p) : d.wrapIf p = p := by
  obtain ⟨h1, h2, h3, h4⟩ := h
  unfold Dim.wrapIf
  split
  · rw [Int.emod_eq_of_lt h1 h2, Int.emod_eq_of_lt h3 h4]
  · rfl

/-! ### fast path = slow path -/

theorem cell_eq (d : Dim) (pos : Coord) (moore : Bool) (r : Nat) (dx dy : Int)
    (hx0 : 0 ≤ pos.1 + dx) (hx1 : pos.1 + dx < d.w) (hy0 : 0 ≤ pos.2 + dy) (hy1 : pos.2 + dy < d.h) :
    (if !moore && decide (Grid.iabs (pos.1 + dx - pos.1) + Grid.iabs (pos.2 + dy - pos.2) > (r : Int)) then none
      else some ((pos.1 + dx, pos.2 + dy) : Coord)) =
    (if !moore && decide (Grid.iabs dx + Grid.iabs dy > (r : Int)) then none
      else
        let c : Coord := if d.torus then ((pos.1 + dx) % d.w, (pos.2 + dy) % d.h) else (pos.1 + dx, pos.2 + dy)
        if d.oob c then none else some c) := by
  have a1 : pos.1 + dx - pos.1 = dx := by omega
  have a2 : pos.2 + dy - pos.2 = dy := by omega
  have m1 := Int.emod_eq_of_lt hx0 hx1
  have m2 := Int.emod_eq_of_lt hy0 hy1
  have ho : d.oob (pos.1 + dx, pos.2 + dy) = false := (oob_eq_false _ _).mpr ⟨hx0, hx1, hy0, hy1⟩
  rw [a1, a2, m1, m2]
  simp [ho]

theorem fast_eq_slow (d : Dim) (pos : Coord) (moore : Bool) (r : Nat) (hint : interior d pos r = true) :
    fastKeys pos moore r = slowKeys d pos moore r := by
  simp only [interior, Bool.and_eq_true, decide_eq_true_eq] at hint
  obtain ⟨⟨⟨h1, h2⟩, h3⟩, h4⟩ := hint
  unfold fastKeys slowKeys
  have e1 : pos.1 - (r : Int) = pos.1 + (-(r : Int)) := by omega
  have e2 : pos.2 - (r : Int) = pos.2 + (-(r : Int)) := by omega
  rw [e1, e2, intRange_shift, intRange_shift]
  apply flatMap_map_congr
  intro dx hdx
  apply filterMap_map_congr
  intro dy hdy
  rw [mem_intRange] at hdx hdy
  exact cell_eq d pos moore r dx dy (by omega) (by omega) (by omega) (by omega)

/-! ### the dict as an ordered set -/

theorem mem_insertKey (l : List Coord) (c x : Coord) : x ∈ insertKey l c ↔ x ∈ l ∨ x = c := mem_addNew l c x

theorem mem_dictKeys (cs : List Coord) (x : Coord) : x ∈ dictKeys cs ↔ x ∈ cs := by
  unfold dictKeys
  rw [mem_foldl_ins mem_insertKey]
  simp

theorem nodup_dictKeys (cs : List Coord) : (dictKeys cs).Nodup :=
  foldl_keeps List.Nodup (fun l c h => nodup_addNew l c h) cs [] List.nodup_nil

/-! ### membership in the slow path -/

theorem mem_slowKeys (d : Dim) (pos : Coord) (moore : Bool) (r : Nat) (c : Coord) :
    c ∈ slowKeys d pos moore r ↔
      ∃ dx dy : Int, (-(r : Int) ≤ dx ∧ dx ≤ (r : Int)) ∧ (-(r : Int) ≤ dy ∧ dy ≤ (r : Int)) ∧
        (moore = true ∨ Grid.iabs dx + Grid.iabs dy ≤ (r : Int)) ∧
        c = d.wrapIf (pos.1 + dx, pos.2 + dy) ∧ d.oob c = false := by
  unfold slowKeys
  simp only [List.mem_flatMap, List.mem_filterMap, mem_intRange, wrapIf_mk]
  constructor
  · rintro ⟨dx, hdx, dy, hdy, h⟩
    refine ⟨dx, dy, by omega, by omega, ?_⟩
    revert h
    generalize (if d.torus = true then ((pos.1 + dx) % d.w, (pos.2 + dy) % d.h) else (pos.1 + dx, pos.2 + dy) : Coord) = c'
    intro h
    split at h
    · cases h
    · rename_i hc
      split at h
      · cases h
      · rename_i ho
        cases h
        refine ⟨?_, rfl, by simpa using ho⟩
        cases moore
        · right
          simpa using hc
        · left
          rfl
  · rintro ⟨dx, dy, hdx, hdy, hm, hc, ho⟩
    refine ⟨dx, by omega, dy, by omega, ?_⟩
    have hcond : (!moore && decide (Grid.iabs dx + Grid.iabs dy > (r : Int))) = false := by
      rcases hm with hm | hm
      · simp [hm]
      · simp
        intro _
        omega
    rw [hcond]
    rw [← hc, ho]
    simp

/-! ### `get_neighborhood` -/

theorem nbhdCompute_oob (d : Dim) (k : NKey) : nbhdCompute d k = .error .oob ↔ ¬ d.inGrid k.pos := by
  rw [← oob_eq_true]
  unfold nbhdCompute
  cases d.oob k.pos <;> simp

theorem nbhdCompute_ok (d : Dim) (k : NKey) (h : d.inGrid k.pos) : ∃ l, nbhdCompute d k = .ok l := by
  have ho := (oob_eq_false d k.pos).mpr h
  unfold nbhdCompute
  rw [ho]
  exact ⟨_, rfl⟩

theorem keys_eq_slow (d : Dim) (k : NKey) :
    (if interior d k.pos k.r then fastKeys k.pos k.moore k.r else slowKeys d k.pos k.moore k.r)
      = slowKeys d k.pos k.moore k.r := by
  split
  · rename_i h
    exact fast_eq_slow d k.pos k.moore k.r h
  · rfl

theorem mem_keys (d : Dim) (pos : Coord) (moore : Bool) (r : Nat) (c : Coord) :
    c ∈ dictKeys (slowKeys d pos moore r) ↔ d.inGrid c ∧ InRange d pos moore r c := by
  rw [mem_dictKeys, mem_slowKeys]
  unfold InRange
  constructor
  · rintro ⟨dx, dy, hdx, hdy, hm, hc, ho⟩
    exact ⟨(oob_eq_false d c).mp ho, dx, dy, (iabs_le dx r).mpr hdx, (iabs_le dy r).mpr hdy, hm, hc⟩
  · rintro ⟨hg, dx, dy, hdx, hdy, hm, hc⟩
    exact ⟨dx, dy, (iabs_le dx r).mp hdx, (iabs_le dy r).mp hdy, hm, hc, (oob_eq_false d c).mpr hg⟩

theorem centre_inRange (d : Dim) (pos : Coord) (moore : Bool) (r : Nat) (h : d.inGrid pos) :
    InRange d pos moore r pos := by
  refine ⟨0, 0, ?_, ?_, ?_, ?_⟩
  · simp [Grid.iabs]
  · simp [Grid.iabs]
  · right
    simp [Grid.iabs]
  · simp only [Int.add_zero]
    exact (wrapIf_inGrid d pos h).symm

-- `hw`, `hh` are part of the stated interface but not needed: in-grid-ness of `k.pos` (implied by
-- `h`) already forces both to be positive.
set_option linter.unusedVariables false in
theorem orth_spec (d : Dim) (hw : 0 < d.w) (hh : 0 < d.h) (k : NKey) (l : List Coord) (h : nbhdCompute d k = .ok l) :
    l.Nodup ∧ ∀ c, c ∈ l ↔ d.inGrid c ∧ (c = k.pos → k.ic = true) ∧ (c ≠ k.pos → InRange d k.pos k.moore k.r c) := by
  have hg : d.inGrid k.pos := by
    apply Classical.byContradiction
    intro hn
    rw [(nbhdCompute_oob d k).mpr hn] at h
    cases h
  have ho := (oob_eq_false d k.pos).mpr hg
  unfold nbhdCompute at h
  rw [ho, keys_eq_slow] at h
  simp only [Bool.false_eq_true, if_false, Except.ok.injEq] at h
  subst h
  have hcentre := centre_inRange d k.pos k.moore k.r hg
  cases hic : k.ic
  · simp only [Bool.false_eq_true, if_false]
    refine ⟨(nodup_dictKeys _).filter _, ?_⟩
    intro c
    rw [List.mem_filter, mem_keys]
    simp only [bne_iff_ne, ne_eq, imp_false]
    constructor
    · rintro ⟨⟨h1, h2⟩, h3⟩
      exact ⟨h1, h3, fun _ => h2⟩
    · rintro ⟨h1, h2, h3⟩
      exact ⟨⟨h1, h3 h2⟩, h2⟩
  · simp only [if_true]
    refine ⟨nodup_dictKeys _, ?_⟩
    intro c
    rw [mem_keys]
    constructor
    · rintro ⟨h1, h2⟩
      exact ⟨h1, fun _ => trivial, fun _ => h2⟩
    · rintro ⟨h1, _, h3⟩
      refine ⟨h1, ?_⟩
      by_cases e : c = k.pos
      · subst e
        exact hcentre
      · exact h3 e

/-! ### the caches are transparent -/

theorem lookup_cons_sound {κ β : Type} [BEq κ] [LawfulBEq κ] {P : κ → β → Prop} {c : List (κ × β)}
    (hc : ∀ k v, c.lookup k = some v → P k v) {k : κ} {v : β} (hv : P k v) :
    ∀ k' v', ((k, v) :: c).lookup k' = some v' → P k' v' := by
  intro k' v' h'
  rw [List.lookup_cons] at h'
  by_cases e : k' = k
  · subst e
    simp only [beq_self_eq_true, Option.some.injEq] at h'
    exact h' ▸ hv
  · rw [show (k' == k) = false by simpa using e] at h'; exact hc k' v' h'

theorem getNbhd_sound (d : Dim) (c : NCache) (k : NKey)
    (hc : ∀ k v, c.lookup k = some v → nbhdCompute d k = .ok v) :
    (getNbhd d c k).2 = nbhdCompute d k ∧ ∀ k' v, (getNbhd d c k).1.lookup k' = some v → nbhdCompute d k' = .ok v := by
  unfold getNbhd
  cases hl : c.lookup k with
  | some v => exact ⟨(hc k v hl).symm, hc⟩
  | none =>
    cases hn : nbhdCompute d k with
    | error e => exact ⟨rfl, hc⟩
    | ok v => exact ⟨rfl, lookup_cons_sound hc hn⟩

theorem askAll_inv (d : Dim) (qs : List NKey) : ∀ cache : NCache,
    (∀ k v, cache.lookup k = some v → nbhdCompute d k = .ok v) → askAll d cache qs = qs.map (nbhdCompute d) := by
  induction qs with
  | nil =>
    intro _ _
    rfl
  | cons k ks ih =>
    intro cache hc
    obtain ⟨h1, h2⟩ := getNbhd_sound d cache k hc
    simp only [askAll, List.map_cons, h1, ih _ h2]

theorem getHexNbhd_sound (d : Dim) (c : HCache) (k : HKey)
    (hc : ∀ k v, c.lookup k = some v → hexCompute d k.pos k.ic k.r = v) :
    (getHexNbhd d c k).2 = hexCompute d k.pos k.ic k.r ∧
      ∀ k' v, (getHexNbhd d c k).1.lookup k' = some v → hexCompute d k'.pos k'.ic k'.r = v := by
  unfold getHexNbhd
  cases hl : c.lookup k with
  | some v => exact ⟨(hc k v hl).symm, hc⟩
  | none => exact ⟨rfl, lookup_cons_sound hc rfl⟩

theorem askAllHex_inv (d : Dim) (qs : List HKey) : ∀ cache : HCache,
    (∀ k v, cache.lookup k = some v → hexCompute d k.pos k.ic k.r = v) →
      askAllHex d cache qs = qs.map (fun k => hexCompute d k.pos k.ic k.r) := by
  induction qs with
  | nil =>
    intro _ _
    rfl
  | cons k ks ih =>
    intro cache hc
    obtain ⟨h1, h2⟩ := getHexNbhd_sound d cache k hc
    simp only [askAllHex, List.map_cons, h1, ih _ h2]

end Mesa.Legacy
