import MesaModel.Model.Layers
import MesaModel.Proofs.ListOps
/-!
Helper lemmas for C11 / C18-layers: the structural invariant `WF` of the layer table and the heap
(every layer owns its array; attached names resolve to live layers of the grid's shape) and its
preservation by the elementary changes of a state that the ops are made of.  Array 0 is the emptiness array of
both implementations (`init`): on a legacy grid it is `_empty_mask`, which no layer owns (`WF.legacy_data`).
-/
namespace Mesa.Layers

theorem lookup_concat {β : Type} (l : List (String × β)) (n n' : String) (v : β) :
    (l ++ [(n, v)]).lookup n' = (l.lookup n').or (if n' = n then some v else none) := by
  rw [List.lookup_append, List.lookup_cons, List.lookup_nil]
  by_cases hn : n' = n
  · rw [if_pos hn, beq_iff_eq.mpr hn]
  · rw [if_neg hn, beq_false_of_ne hn]

@[simp] theorem upd_same {α : Type} (f : Nat → α) (i : Nat) (x : α) : upd f i x i = x := by simp [upd]

theorem upd_other {α : Type} (f : Nat → α) (i j : Nat) (x : α) (h : j ≠ i) : upd f i x j = f j := by
  simp [upd, h]

/-! ### the structural invariant -/

/-- Every layer object owns its array (no two layers share one, all arrays are allocated),
    every attached name resolves to a live layer that carries that name and has the grid's shape,
    and user-held references point to allocated arrays. -/
structure WF (s : State) : Prop where
  next_pos : 0 < s.next
  data_lt : ∀ l, l < s.nLayers → (s.layers l).data < s.next
  data_inj : ∀ l1 l2, l1 < s.nLayers → l2 < s.nLayers → (s.layers l1).data = (s.layers l2).data → l1 = l2
  att_lt : ∀ n l, s.attached.lookup n = some l → l < s.nLayers
  att_name : ∀ n l, s.attached.lookup n = some l → (s.layers l).name = n
  att_dims : ∀ n l, s.attached.lookup n = some l → (s.layers l).dims = s.dims
  handle_lt : ∀ h a d, s.handles.lookup h = some (a, d) → a < s.next
  legacy_data : s.impl ≠ .new → ∀ l, l < s.nLayers → (s.layers l).data ≠ 0
  /-- new grids: an attached name is not an attribute of the cell class -/
  att_free : s.impl = .new → ∀ n l, s.attached.lookup n = some l → n ∉ reservedNames
  /-- new grids: the descriptors on the cell class and the layer dict are the same map -/
  descr_eq : s.impl = .new → ∀ n, s.descr.lookup n = s.attached.lookup n

/-- two states with the same tables (they may differ in array contents, agents, instance
    attributes, saved masks) -/
structure SameShape (s s' : State) : Prop where
  impl : s'.impl = s.impl
  dims : s'.dims = s.dims
  cap : s'.cap = s.cap
  next : s'.next = s.next
  layers : s'.layers = s.layers
  nLayers : s'.nLayers = s.nLayers
  attached : s'.attached = s.attached
  handles : s'.handles = s.handles
  adt : s'.adt = s.adt
  descr : s'.descr = s.descr

/-- array contents, agents, instance attributes, saved masks and the grid's own attributes are no tables -/
theorem SameShape.rest (s : State) (hp : Nat → Arr) (ag : List (Nat × Coord)) (i : List ((String × Coord) × Int))
    (m : List (Nat × (Coord → Bool))) (g : List String) :
    SameShape s { s with heap := hp, agents := ag, inst := i, masks := m, gattrs := g } :=
  ⟨rfl, rfl, rfl, rfl, rfl, rfl, rfl, rfl, rfl, rfl⟩

theorem SameShape.refl (s : State) : SameShape s s := .rest s ..

theorem SameShape.trans {a b c : State} (h1 : SameShape a b) (h2 : SameShape b c) : SameShape a c :=
  ⟨h2.impl.trans h1.impl, h2.dims.trans h1.dims, h2.cap.trans h1.cap, h2.next.trans h1.next,
   h2.layers.trans h1.layers, h2.nLayers.trans h1.nLayers, h2.attached.trans h1.attached,
   h2.handles.trans h1.handles, h2.adt.trans h1.adt, h2.descr.trans h1.descr⟩

theorem WF.of_sameShape {s s' : State} (h : WF s) (e : SameShape s s') : WF s' := by
  obtain ⟨e1, e2, _, e3, e4, e5, e6, e7, _, e8⟩ := e
  cases s'
  simp only at e1 e2 e3 e4 e5 e6 e7 e8
  subst e1 e2 e3 e4 e5 e6 e7 e8
  exact ⟨h.next_pos, h.data_lt, h.data_inj, h.att_lt, h.att_name, h.att_dims, h.handle_lt, h.legacy_data,
    h.att_free, h.descr_eq⟩

theorem WF_init (impl : Impl) (dims : List Nat) (cap : Option Nat) : WF (init impl dims cap) := by
  have hatt : ∀ n l, (init impl dims cap).attached.lookup n = some l → impl = .new ∧ n = "empty" ∧ l = 0 := by
    intro n l h
    simp only [init] at h
    split at h
    · next hi =>
      simp only [List.lookup_cons, List.lookup_nil] at h
      split at h
      · next hb => exact ⟨hi, beq_iff_eq.mp hb, (Option.some.inj h).symm⟩
      · cases h
    · cases h
  have hn : ∀ l, l < (init impl dims cap).nLayers → impl = .new ∧ l = 0 := by
    intro l hl
    simp only [init] at hl
    split at hl
    · next hi => exact ⟨hi, Nat.lt_one_iff.mp hl⟩
    · cases hl
  refine ⟨Nat.one_pos, fun _ _ => Nat.one_pos, fun l1 l2 h1 h2 _ => (hn l1 h1).2.trans (hn l2 h2).2.symm,
    fun n l h => ?_, fun n l h => ?_, fun _ _ _ => rfl, (fun _ _ _ h => nomatch h), fun hi l hl => absurd (hn l hl).1 hi,
    fun _ n l h => ?_, fun _ _ => rfl⟩
  · obtain ⟨hi, _, rfl⟩ := hatt n l h
    show 0 < if impl = .new then 1 else 0
    rw [if_pos hi]
    exact Nat.one_pos
  · exact (hatt n l h).2.1.symm
  · rw [(hatt n l h).2.1]
    decide +kernel

theorem attachCheck_none {s : State} {l : Layer} (h : attachCheck s l = none) :
    s.attached.lookup l.name = none ∧ l.dims = s.dims ∧ (s.impl = .new → l.name ∉ reservedNames) := by
  unfold attachCheck at h
  split at h
  · split at h
    · simp at h
    · split at h
      · simp at h
      · split at h
        · simp at h
        · next h1 h2 h3 =>
          simp only [State.named?, Option.isSome_iff_ne_none, ne_eq, Decidable.not_not] at h2
          exact ⟨h2, by simpa using h1, fun _ => h3⟩
  · next hi =>
    split at h
    · simp at h
    · split at h
      · simp at h
      · next h1 h2 =>
        simp only [State.named?, Option.isSome_iff_ne_none, ne_eq, Decidable.not_not] at h1
        exact ⟨h1, by simpa using h2, fun e => absurd e hi⟩

theorem layer?_some {s : State} {lid : Nat} {l : Layer} (h : s.layer? lid = some l) :
    lid < s.nLayers ∧ l = s.layers lid := by
  unfold State.layer? at h
  split at h
  · next hlt =>
      simp at h
      exact ⟨hlt, h.symm⟩
  · simp at h

theorem cellLayer?_eq {s : State} (hw : WF s) (n : String) : s.cellLayer? n = s.named? n := by
  unfold State.cellLayer? State.named?
  split
  · next hi => exact hw.descr_eq hi n
  · rfl

/-! ### the elementary changes of a state

The model's ops build their result states inline; each accepted op yields one of these (definitionally: see
`step_outcome` and the `*_ok` lemmas). -/

/-- `np.copyto` / `arr[c] = v`: array `a` gets the contents `x`, in place -/
abbrev State.write (s : State) (a : Nat) (x : Arr) : State := { s with heap := upd s.heap a x }

/-- `PropertyLayer(...)` / `from_data`: a fresh array `x` of dtype `dt`, and a new layer object `L` -/
def State.alloc (s : State) (L : Layer) (x : Arr) (dt : DType) : State :=
  { s with heap := upd s.heap s.next x, adt := upd s.adt s.next dt, next := s.next + 1,
           layers := upd s.layers s.nLayers L, nLayers := s.nLayers + 1 }

/-- `self.data = np.where(...)` of `modify_cells`: layer `l` points to a fresh array -/
def State.repoint (s : State) (l : Nat) (x : Arr) (dt : DType) : State :=
  { s with heap := upd s.heap s.next x, adt := upd s.adt s.next dt, next := s.next + 1,
           layers := upd s.layers l { s.layers l with data := s.next } }

/-- the registrations of `add_property_layer`: the dict entry and (new) the descriptor on the cell class -/
def State.bind (s : State) (n : String) (l : Nat) : State :=
  { s with attached := s.attached ++ [(n, l)],
           descr := if s.impl = .new then setDescr s.descr n l else s.descr }

/-- `remove_property_layer`: the dict entry and the descriptor go -/
def State.unbind (s : State) (n : String) : State :=
  { s with attached := s.attached.filter (·.1 ≠ n), descr := s.descr.filter (·.1 ≠ n) }

theorem WF.alloc {s : State} (h : WF s) {L : Layer} (hL : L.data = s.next) (x : Arr) (dt : DType) :
    WF (s.alloc L x dt) := by
  have hp := h.next_pos
  have old : ∀ l, l < s.nLayers → upd s.layers s.nLayers L l = s.layers l :=
    fun l hl => upd_other _ _ _ _ (Nat.ne_of_lt hl)
  refine ⟨Nat.succ_pos _, fun l hl => ?_, fun l1 l2 h1 h2 he => ?_, fun n l hn => Nat.lt_succ_of_lt (h.att_lt n l hn),
    fun n l hn => ?_, fun n l hn => ?_, fun hd a d hh => Nat.lt_succ_of_lt (h.handle_lt hd a d hh), fun hi l hl => ?_,
    h.att_free, h.descr_eq⟩
  · show (upd s.layers s.nLayers L l).data < s.next + 1
    have hl : l < s.nLayers + 1 := hl
    simp only [upd]
    split
    · omega
    · have := h.data_lt l (by omega)
      omega
  · have h1 : l1 < s.nLayers + 1 := h1
    have h2 : l2 < s.nLayers + 1 := h2
    have he : (upd s.layers s.nLayers L l1).data = (upd s.layers s.nLayers L l2).data := he
    simp only [upd] at he
    split at he <;> split at he
    · omega
    · have := h.data_lt l2 (by omega)
      omega
    · have := h.data_lt l1 (by omega)
      omega
    · exact h.data_inj l1 l2 (by omega) (by omega) he
  · show (upd s.layers s.nLayers L l).name = n
    rw [old l (h.att_lt n l hn)]
    exact h.att_name n l hn
  · show (upd s.layers s.nLayers L l).dims = s.dims
    rw [old l (h.att_lt n l hn)]
    exact h.att_dims n l hn
  · show (upd s.layers s.nLayers L l).data ≠ 0
    have hl : l < s.nLayers + 1 := hl
    simp only [upd]
    split
    · omega
    · exact h.legacy_data hi l (by omega)

theorem WF.bind {s : State} (h : WF s) {l : Nat} {n : String} (hl : l < s.nLayers) (hname : (s.layers l).name = n)
    (hdims : (s.layers l).dims = s.dims) (hnone : s.attached.lookup n = none)
    (hfree : s.impl = .new → n ∉ reservedNames) : WF (s.bind n l) := by
  have att : ∀ n' l', (s.attached ++ [(n, l)]).lookup n' = some l' →
      l' < s.nLayers ∧ (s.layers l').name = n' ∧ (s.layers l').dims = s.dims ∧
      (s.impl = .new → n' ∉ reservedNames) := by
    intro n' l' hh
    rw [lookup_concat] at hh
    cases h1 : s.attached.lookup n' with
    | some x =>
      rw [h1] at hh
      cases hh
      exact ⟨h.att_lt n' l' h1, h.att_name n' l' h1, h.att_dims n' l' h1, fun hi => h.att_free hi n' l' h1⟩
    | none =>
      rw [h1, Option.none_or] at hh
      split at hh
      · next hn =>
        cases hh
        subst hn
        exact ⟨hl, hname, hdims, hfree⟩
      · cases hh
  refine ⟨h.next_pos, h.data_lt, h.data_inj, fun n' l' hh => (att n' l' hh).1, fun n' l' hh => (att n' l' hh).2.1,
    fun n' l' hh => (att n' l' hh).2.2.1, h.handle_lt, h.legacy_data, fun hi n' l' hh => (att n' l' hh).2.2.2 hi,
    fun hi n' => ?_⟩
  have hi : s.impl = .new := hi
  show (if s.impl = .new then setDescr s.descr n l else s.descr).lookup n' = (s.attached ++ [(n, l)]).lookup n'
  rw [if_pos hi, lookup_concat]
  unfold setDescr
  by_cases hn : n' = n
  · subst hn
    rw [List.lookup_cons, beq_self_eq_true, hnone, if_pos rfl]
    rfl
  · rw [List.lookup_cons, beq_false_of_ne hn, lookup_filter_ne _ _ _ hn, h.descr_eq hi n', if_neg hn, Option.or_none]

theorem WF.unbind {s : State} (h : WF s) (n : String) : WF (s.unbind n) := by
  have key : ∀ n' l', (s.attached.filter (fun p => decide (p.1 ≠ n))).lookup n' = some l' →
      s.attached.lookup n' = some l' := by
    intro n' l' hh
    by_cases hn : n' = n
    · subst hn
      rw [lookup_filter_self] at hh
      simp at hh
    · rwa [lookup_filter_ne _ _ _ hn] at hh
  refine ⟨h.next_pos, h.data_lt, h.data_inj, fun n' l' hh => h.att_lt n' l' (key n' l' hh),
    fun n' l' hh => h.att_name n' l' (key n' l' hh), fun n' l' hh => h.att_dims n' l' (key n' l' hh),
    h.handle_lt, h.legacy_data, fun hi n' l' hh => h.att_free hi n' l' (key n' l' hh), fun hi n' => ?_⟩
  show (s.descr.filter (fun p => decide (p.1 ≠ n))).lookup n' = (s.attached.filter (fun p => decide (p.1 ≠ n))).lookup n'
  by_cases hn : n' = n
  · subst hn
    rw [lookup_filter_self, lookup_filter_self]
  · rw [lookup_filter_ne _ _ _ hn, lookup_filter_ne _ _ _ hn]
    exact h.descr_eq hi n'

theorem repoint_layers (s : State) (l : Nat) (x : Arr) (dt : DType) (k : Nat) :
    (s.repoint l x dt).layers k = { s.layers k with data := if k = l then s.next else (s.layers k).data } := by
  show upd s.layers l { s.layers l with data := s.next } k = _
  simp only [upd]
  split
  · next e =>
    subst e
    rfl
  · rfl

theorem WF.repoint {s : State} (h : WF s) (l : Nat) (x : Arr) (dt : DType) :
    WF (s.repoint l x dt) := by
  have hp := h.next_pos
  refine ⟨Nat.succ_pos _, fun k hk => ?_, fun l1 l2 h1 h2 he => ?_, h.att_lt, fun n k hn => ?_, fun n k hn => ?_,
    fun hd a d hh => Nat.lt_succ_of_lt (h.handle_lt hd a d hh), fun hi k hk => ?_, h.att_free, h.descr_eq⟩
  · have := h.data_lt k hk
    rw [repoint_layers]
    show (if k = l then s.next else (s.layers k).data) < s.next + 1
    split
    · omega
    · omega
  · have d1 := h.data_lt l1 h1
    have d2 := h.data_lt l2 h2
    rw [repoint_layers, repoint_layers] at he
    have he : (if l1 = l then s.next else (s.layers l1).data) = (if l2 = l then s.next else (s.layers l2).data) := he
    split at he <;> split at he
    · omega
    · omega
    · omega
    · exact h.data_inj l1 l2 h1 h2 he
  · rw [repoint_layers]
    exact h.att_name n k hn
  · rw [repoint_layers]
    exact h.att_dims n k hn
  · have := h.legacy_data hi k hk
    rw [repoint_layers]
    show (if k = l then s.next else (s.layers k).data) ≠ 0
    split
    · omega
    · omega

theorem WF.write {s : State} (h : WF s) (a : Nat) (x : Arr) : WF (s.write a x) :=
  h.of_sameShape (.rest s ..)

theorem WF.handle {s : State} (h : WF s) (hd : Nat) {a : Nat} (ha : a < s.next) (d : List Nat) :
    WF { s with handles := (hd, (a, d)) :: s.handles } := by
  refine ⟨h.next_pos, h.data_lt, h.data_inj, h.att_lt, h.att_name, h.att_dims, fun hd' a' d' hl => ?_,
    h.legacy_data, h.att_free, h.descr_eq⟩
  simp only [List.lookup_cons] at hl
  split at hl
  · simp only [Option.some.injEq, Prod.mk.injEq] at hl
    rw [← hl.1]
    exact ha
  · exact h.handle_lt hd' a' d' hl

end Mesa.Layers
