import MesaModel.Model.LegacyPlaceRaw
import MesaModel.Proofs.LegacyIndex
/-! `place_agent` with arbitrary integer coordinates: rejected beyond the grid with nothing changed, identical to the modelled
call inside it, and histories that contain such rejected calls (C18-legacy / C08).  Defines `Grid.beyond`, `OpOkR`, `HistOkR`, `keepOp`. -/
namespace Mesa.Legacy

open Grid

/-- the coordinates lie beyond what Python indexing accepts for a `w × h` nested list -/
def Grid.beyond (g : Grid) (p : Coord) : Prop := p.1 < -g.w ∨ g.w ≤ p.1 ∨ p.2 < -g.h ∨ g.h ≤ p.2

instance (g : Grid) (p : Coord) : Decidable (g.beyond p) := by unfold Grid.beyond; infer_instance

theorem placeAt_self (g : Grid) (a : Aid) (p : Coord) : g.placeAt a p p = g.place a p := rfl

theorem pyIndex_error_index (n i : Int) (e : Err) (h : pyIndex n i = .error e) : e = .index := by
  unfold pyIndex at h
  split at h
  · cases h
  · split at h
    · cases h
    · cases h
      rfl

theorem rawCell_error_index (g : Grid) (p : Coord) (e : Err) (h : g.rawCell p = .error e) : e = .index := by
  unfold rawCell at h
  cases hx : pyIndex g.w p.1 with
  | error e' =>
    rw [hx] at h
    simp only [] at h
    cases h
    exact pyIndex_error_index _ _ _ hx
  | ok x =>
    rw [hx] at h
    simp only [] at h
    cases hy : pyIndex g.h p.2 with
    | error e' =>
      rw [hy] at h
      simp only [] at h
      cases h
      exact pyIndex_error_index _ _ _ hy
    | ok y =>
      rw [hy] at h
      cases h

theorem rawCell_beyond (g : Grid) (hw : 0 < g.w) (hh : 0 < g.h) (p : Coord) : g.rawCell p = .error .index ↔ g.beyond p := by
  unfold Grid.beyond
  rw [← rawCell_error g hw hh p]
  constructor
  · intro h
    exact ⟨_, h⟩
  · rintro ⟨e, he⟩
    have := rawCell_error_index g p e he
    subst this
    exact he

theorem placeRaw_inGrid (g : Grid) (a : Aid) (p : Coord) (hp : g.inGrid p) : g.placeRaw a p = g.place a p := by
  simp only [placeRaw, rawCell_inGrid g p hp]
  rfl

theorem placeRaw_beyond (g : Grid) (hw : 0 < g.w) (hh : 0 < g.h) (a : Aid) (p : Coord) (hp : g.beyond p) :
    g.placeRaw a p = (g, .err .index) := by
  simp only [placeRaw, (rawCell_beyond g hw hh p).mpr hp]

theorem placeAt_res (g : Grid) (a : Aid) (p c : Coord) :
    (g.placeAt a p c).2 = if g.multi = false ∧ g.content c ≠ [] then .err .full else .ok := by
  unfold placeAt
  by_cases hm : g.multi = true
  · simp [hm]
    split <;> rfl
  · simp only [Bool.not_eq_true] at hm
    simp only [hm, Bool.false_eq_true, if_false, isCellEmpty, true_and]
    by_cases hc : g.content c = [] <;> simp [hc]

theorem placeAt_err (g : Grid) (a : Aid) (p c : Coord) (e : Err) (h : (g.placeAt a p c).2 = .err e) : (g.placeAt a p c).1 = g := by
  rw [placeAt_res] at h
  split at h
  · rename_i hocc
    unfold placeAt
    rw [if_neg (by simp [hocc.1]), if_neg (by simp [isCellEmpty, hocc.2])]
  · cases h

theorem placeRaw_err (g : Grid) (a : Aid) (p : Coord) (e : Err) (h : (g.placeRaw a p).2 = .err e) : (g.placeRaw a p).1 = g := by
  unfold placeRaw at h ⊢
  cases hr : g.rawCell p with
  | error e' => rfl
  | ok c =>
    rw [hr] at h
    exact placeAt_err g a p c e h

theorem placeRaw_res_eq (g : Grid) (a : Aid) (p : Coord) :
    (g.placeRaw a p).2 =
      match g.rawCell p with
      | .error e => .err e
      | .ok c => if g.multi = false ∧ g.content c ≠ [] then .err .full else .ok := by
  unfold placeRaw
  cases g.rawCell p with
  | error e => rfl
  | ok c => exact placeAt_res g a p c

/-- when exactly `place_agent` raises, for arbitrary integers: IndexError iff the coordinates are beyond the grid's index range,
    `Cell not empty` iff they index an occupied SingleGrid cell -/
theorem placeRaw_res (g : Grid) (hw : 0 < g.w) (hh : 0 < g.h) (a : Aid) (p : Coord) :
    ((g.placeRaw a p).2 = .err .index ↔ g.beyond p) ∧
    ((g.placeRaw a p).2 = .err .full ↔ ∃ c, g.rawCell p = .ok c ∧ g.multi = false ∧ g.content c ≠ []) ∧
    ((g.placeRaw a p).2 = .ok ↔ ∃ c, g.rawCell p = .ok c ∧ (g.multi = true ∨ g.content c = [])) := by
  have hb := rawCell_beyond g hw hh p
  rw [placeRaw_res_eq]
  cases hr : g.rawCell p with
  | error e =>
    have he := rawCell_error_index g p e hr
    subst he
    rw [hr] at hb
    simp [hb.mp rfl]
  | ok c =>
    rw [hr] at hb
    have hnb : ¬ g.beyond p := fun h => by cases hb.mpr h
    by_cases hm : g.multi = true <;> by_cases hc : g.content c = [] <;> simp [hm, hc, hnb]

/-! ### histories that contain placements beyond the grid -/

/-- the quantifier's precondition, widened: `place_agent` of an unplaced agent at in-grid coordinates *or* at coordinates beyond
    the grid's index range (rejected); the aliasing band `-size .. -1` stays outside -/
def OpOkR (g : Grid) : Op → Prop
  | .place a p => g.pos a = none ∧ (g.inGrid p ∨ g.beyond p)
  | _ => True

def HistOkR (g : Grid) : List Op → Prop
  | [] => True
  | op :: ops => OpOkR g op ∧ HistOkR (stepR g op).1 ops

/-- the calls other than placements beyond a `w × h` grid -/
def keepOp (w h : Int) : Op → Bool
  | .place _ p => decide (0 ≤ p.1 ∧ p.1 < w ∧ 0 ≤ p.2 ∧ p.2 < h)
  | _ => true

/-- **a history with placements beyond the grid is the history without them**: every such call is rejected with nothing
    changed, the remaining history is within the original quantifier, and both end in the same state — so every C08 / C18
    theorem about `run` holds for these histories too -/
theorem runR_eq_run (ops : List Op) : ∀ (g : Grid), 0 < g.w → 0 < g.h → Inv g → HistOkR g ops →
    runR g ops = run g (ops.filter (keepOp g.w g.h)) ∧ HistOk g (ops.filter (keepOp g.w g.h)) := by
  induction ops with
  | nil =>
    intro g _ _ _ _
    exact ⟨rfl, trivial⟩
  | cons op ops ih =>
    intro g hw hh hi hok
    obtain ⟨hok1, hok2⟩ := hok
    -- a call that is not a placement beyond the grid: `stepR` is `step`, the call is kept, and it is within the quantifier
    have same : stepR g op = step g op → OpOk g op → keepOp g.w g.h op = true →
        runR g (op :: ops) = run g ((op :: ops).filter (keepOp g.w g.h)) ∧ HistOk g ((op :: ops).filter (keepOp g.w g.h)) := by
      intro hst hopok hkeep
      obtain ⟨i1, c1⟩ := step_inv_cfg g op hw hh hi hopok
      have hw1 : 0 < (step g op).1.w := by rw [c1.1]; exact hw
      have hh1 : 0 < (step g op).1.h := by rw [c1.2.1]; exact hh
      rw [hst] at hok2
      obtain ⟨h1, h2⟩ := ih (step g op).1 hw1 hh1 i1 hok2
      rw [c1.1, c1.2.1] at h1 h2
      simp only [runR, List.filter_cons, hkeep, if_true, run, hst, HistOk]
      exact ⟨h1, hopok, h2⟩
    cases op with
    | place a p =>
      obtain ⟨hpos, hin | hbey⟩ := hok1
      · exact same (by simp only [stepR, step, placeRaw_inGrid g a p hin]) ⟨hpos, hin⟩
          (by simp only [keepOp, decide_eq_true_eq]; exact hin)
      · have hst : stepR g (.place a p) = (g, .err .index) := by simp only [stepR, placeRaw_beyond g hw hh a p hbey]
        rw [hst] at hok2
        have hkeep : keepOp g.w g.h (.place a p) = false := by
          simp only [keepOp, decide_eq_false_iff_not]
          unfold Grid.beyond at hbey
          omega
        obtain ⟨h1, h2⟩ := ih g hw hh hi hok2
        simp only [runR, hst, List.filter_cons, hkeep]
        exact ⟨h1, h2⟩
    | remove a => exact same rfl trivial rfl
    | move a p => exact same rfl trivial rfl
    | swap a b => exact same rfl trivial rfl
    | moveToEmpty a s => exact same rfl trivial rfl
    | moveToOneOf a ps sel he s => exact same rfl trivial rfl
    | readEmpties => exact same rfl trivial rfl

end Mesa.Legacy
