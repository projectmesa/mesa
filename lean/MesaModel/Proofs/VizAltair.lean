import MesaModel.Model.VizAltair
import MesaModel.Proofs.Viz
/-!
Helper lemmas for the Altair chart part of C20 (`Model/VizAltair.lean`).
-/
namespace Mesa.Viz

theorem hasKey_eq_contains (d : Dict) (k : Key) : Dict.hasKey d k = (Dict.keys d).contains k := by
  unfold Dict.hasKey Dict.keys
  induction d with
  | nil => rfl
  | cons kv d ih =>
    simp only [List.any_cons, List.map_cons, List.contains_cons, ih]
    congr 1
    exact Bool.beq_comm

theorem keys_set (d : Dict) (k : Key) (v : Val) :
    Dict.keys (Dict.set d k v) = if Dict.hasKey d k then Dict.keys d else Dict.keys d ++ [k] := by
  unfold Dict.set
  split
  · exact map_set_keys k v d
  · unfold Dict.keys
    simp

theorem keys_altairRow_filter (d : Dict) (l : Loc) (q : Key → Bool) (hx : q "x" = false) (hy : q "y" = false) :
    (Dict.keys (altairRow d l)).filter q = (Dict.keys d).filter q := by
  unfold altairRow
  rw [keys_set]
  split
  · rw [keys_set]
    split
    · rfl
    · rw [List.filter_append]
      simp [hx]
  · rw [List.filter_append, keys_set]
    split
    · simp [hy]
    · rw [List.filter_append]
      simp [hx, hy]

theorem hasKey_set (d : Dict) (k k' : Key) (v : Val) : Dict.hasKey (Dict.set d k v) k' = (Dict.hasKey d k' || k' == k) := by
  rw [hasKey_eq_contains, hasKey_eq_contains, keys_set]
  split
  · rename_i h
    cases hk : (k' == k)
    · rw [Bool.or_false]
    · rw [Bool.or_true, beq_iff_eq.mp hk, ← hasKey_eq_contains]
      exact h
  · rw [List.contains_append, List.contains_cons, List.contains_nil, Bool.or_false]

theorem hasKey_altairRow (d : Dict) (l : Loc) {k : Key} (hx : k ≠ "x") (hy : k ≠ "y") :
    Dict.hasKey (altairRow d l) k = Dict.hasKey d k := by
  unfold altairRow
  rw [hasKey_set, hasKey_set, beq_false_of_ne hx, beq_false_of_ne hy, Bool.or_false, Bool.or_false]

theorem altairChart_eq {sp : Space} {heap : Heap} {p : Portrayal} {rows : List Dict}
    (h : altairRows sp heap p = .ok rows) (hpos : min sp.w sp.h ≠ 0) :
    altairChart sp heap p = .ok
      { rows, xyType := if sp.fam = .cs then "nominal" else "ordinal",
        tooltip := (Dict.keys (firstRow rows)).filter fun k => !invalidTooltips.contains k,
        color := Dict.hasKey (firstRow rows) "color", size := Dict.hasKey (firstRow rows) "size",
        markSize := if Dict.hasKey (firstRow rows) "size" then none
          else some ⟨30000, (min sp.w sp.h) * (min sp.w sp.h)⟩ } := by
  unfold altairChart
  rw [h]
  simp [hpos]

theorem altairChart_zero {sp : Space} {heap : Heap} {p : Portrayal}
    (h : altairRows sp heap p = .ok []) (hz : min sp.w sp.h = 0) :
    altairChart sp heap p = .error .zeroDivision := by
  unfold altairChart
  rw [h]
  simp [firstRow, Dict.hasKey, hz]

theorem firstRow_filterMap (heap : Heap) (p : Portrayal) (a : Agent) (rest : List Agent) {l : Loc}
    (hl : a.location = some l) :
    firstRow ((a :: rest).filterMap (rowOf heap p)) = altairRow (portrayed heap p a.id) l := by
  simp [firstRow, rowOf, hl]

end Mesa.Viz
