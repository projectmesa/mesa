import MesaModel.Proofs.Devs
/-! ABMSimulator: `model.step` is armed for exactly the next tick at all times (C15). -/
namespace Mesa.Devs

def stepEvs (l : List Ev) : List Ev := l.filter (·.isStep)

theorem stepEvs_insert_user {e : Ev} (l : List Ev) (he : e.isStep = false) :
    stepEvs (insert e l) = stepEvs l := by
  induction l with
  | nil => simp [insert, stepEvs, he]
  | cons x xs ih =>
    simp only [insert]
    split
    · simp [stepEvs, List.filter_cons, he]
    · simp only [stepEvs, List.filter_cons] at ih ⊢
      rw [ih]

theorem stepEvs_insert_step {e : Ev} (l : List Ev) (he : e.isStep = true) (hl : stepEvs l = []) :
    stepEvs (insert e l) = [e] := by
  induction l with
  | nil => simp [insert, stepEvs, he]
  | cons x xs ih =>
    simp only [stepEvs, List.filter_cons] at hl
    split at hl
    · simp at hl
    · rename_i hx
      simp only [insert]
      split
      · simp only [stepEvs, List.filter_cons, he, if_true, hx]
        simpa [stepEvs] using hl
      · simp only [stepEvs, List.filter_cons, hx]
        exact ih hl

theorem stepEvs_map_user (l : List Ev) (g : Ev → Ev) (hg : ∀ e, (g e).isStep = e.isStep)
    (hs : ∀ e, e.isStep = true → g e = e) : stepEvs (l.map g) = stepEvs l := by
  induction l with
  | nil => rfl
  | cons x xs ih =>
    simp only [stepEvs, List.map_cons, List.filter_cons, hg] at ih ⊢
    split
    · rename_i hx
      rw [hs x hx, ih]
    · exact ih

structure Armed (s : Sim) (st : Ev) : Prop where
  only : stepEvs s.pending = [st]
  live : st.cancelled = false
  alive : st.dead = false
  isStep : st.isStep = true
  time : st.time = ((s.steps : Int) + 1) * U
  prio : st.prio = 1

def stepClocks (l : List LogEntry) : List Int := (l.filter (·.isStep)).map (·.clock)

theorem stepClocks_snoc_step (l : List LogEntry) (i : Nat) (c : Int) :
    stepClocks (l ++ [.step i c]) = stepClocks l ++ [c] := by
  simp [stepClocks, LogEntry.isStep, LogEntry.clock]

theorem stepClocks_snoc_user (l : List LogEntry) (i t : Nat) (c : Int) :
    stepClocks (l ++ [.user i t c]) = stepClocks l := by
  simp [stepClocks, LogEntry.isStep]

structure StepInv (s : Sim) : Prop where
  abm : s.kind = .abm
  armed : ∃ st, Armed s st
  le : (s.steps : Int) * U ≤ s.now
  stepLog : stepClocks s.log = (List.range s.steps).map (fun (i : Nat) => ((i : Int) + 1) * U)

theorem setup_stepInv {s : Sim} (hk : s.kind = .abm) (hp : s.pending = []) (h0 : s.now = 0) (hs : s.steps = 0)
    (hl : s.log = []) : StepInv (setup s) := by
  have he : setup s = pushStep s := by
    unfold setup rearm
    rw [hk]
  rw [he]
  refine ⟨hk, ⟨⟨s.now + U, 1, s.nextId, 0, true, false, false, 0, 0⟩, ⟨?_, rfl, rfl, rfl, ?_, rfl⟩⟩, ?_, ?_⟩
  · show stepEvs (insert _ s.pending) = [_]
    rw [hp]
    rfl
  · show s.now + U = ((s.steps : Int) + 1) * U
    rw [h0, hs]
    simp
  · show (s.steps : Int) * U ≤ s.now
    rw [h0, hs]
    simp
  · show stepClocks s.log = (List.range s.steps).map _
    rw [hl, hs]
    rfl

theorem doCmd1_stepEvs (s : Sim) (c : Cmd) : stepEvs (doCmd1 s c).pending = stepEvs s.pending :=
  doCmd1_induct (P := fun s' => stepEvs s'.pending = stepEvs s.pending) c rfl (fun _ _ _ _ _ _ => stepEvs_insert_user _ rfl)
    (fun _ _ => stepEvs_map_user _ _ (fun e => by split <;> rfl) (fun e he => by simp [he]))
    (fun _ _ => stepEvs_map_user _ _ (fun e => by split <;> rfl) (fun e he => by simp [he])) (fun _ _ => rfl)

/-- the invariant looks at the step events on the list, the step counter and the step entries of the log; the clock may
    move forward -/
theorem StepInv.mono {s s' : Sim} (h : StepInv s) (hk : s'.kind = s.kind) (hs : stepEvs s'.pending = stepEvs s.pending)
    (hst : s'.steps = s.steps) (hnow : s.now ≤ s'.now) (hlog : stepClocks s'.log = stepClocks s.log) : StepInv s' := by
  obtain ⟨st, ha⟩ := h.armed
  refine ⟨hk.trans h.abm, ⟨st, ⟨hs.trans ha.only, ha.live, ha.alive, ha.isStep, ?_, ha.prio⟩⟩, ?_, ?_⟩
  · rw [hst]
    exact ha.time
  · rw [hst]
    exact Int.le_trans h.le hnow
  · rw [hlog, hst]
    exact h.stepLog

theorem doCmd1_stepInv {s : Sim} (h : StepInv s) (c : Cmd) : StepInv (doCmd1 s c) :=
  let f := doCmd1_frame s c
  h.mono f.kind (doCmd1_stepEvs s c) f.steps (Int.le_of_eq f.now.symm) (congrArg stepClocks f.log)

theorem armed_pop {s : Sim} {st e : Ev} {rest : List Ev} (ha : Armed s st)
    (hp : popLive s.pending = some (e, rest)) :
    (e = st ∧ stepEvs rest = []) ∨ (e.isStep = false ∧ stepEvs rest = [st]) := by
  -- a cancelled step event on the list would be the armed one, which is live
  have hsk : (skipped s.pending).filter (·.isStep) = [] := List.filter_eq_nil_iff.mpr fun x hx hs => by
    have hmem : x ∈ stepEvs s.pending := List.mem_filter.mpr ⟨(popLive_mem_iff hp).mpr (Or.inl hx), hs⟩
    rw [ha.only, List.mem_singleton] at hmem
    have := skipped_cancelled x hx
    rw [hmem, ha.live] at this
    cases this
  have h1 := ha.only
  rw [(popLive_decomp hp).1, stepEvs, List.filter_append, hsk, List.nil_append, List.filter_cons] at h1
  split at h1
  · simp only [List.cons.injEq] at h1
    exact Or.inl ⟨h1.1, h1.2⟩
  · rename_i hne
    exact Or.inr ⟨by simpa using hne, h1⟩

theorem armed_not_none {s : Sim} {st : Ev} (ha : Armed s st) : popLive s.pending ≠ none := by
  intro hp
  have hmem : st ∈ stepEvs s.pending := by
    rw [ha.only]
    simp
  have := popLive_none_all_cancelled hp st (List.mem_filter.mp hmem).1
  rw [ha.live] at this
  simp at this

theorem Int_succ_mul (n : Nat) : ((n + 1 : Nat) : Int) * U = (n : Int) * U + U := by
  rw [Int.natCast_add, Int.add_mul]
  simp

theorem exec_popped_stepInv {s : Sim} (hw : WF s) (h : StepInv s) {e : Ev} {rest : List Ev}
    (hp : popLive s.pending = some (e, rest)) : StepInv (exec (popped s e rest) e) := by
  obtain ⟨st, ha⟩ := h.armed
  have hfut := hw.future e (popLive_mem hp).1
  rcases armed_pop ha hp with ⟨rfl, hrest⟩ | ⟨hns, hrest⟩
  · -- the step event: re-armed for the next tick, counted and logged
    refine exec_induct (fun _ c _ h' => doCmd1_stepInv h' c) (fun hd => nomatch ha.alive.symm.trans hd) (fun _ _ => ?_)
      (fun _ hu => nomatch ha.isStep.symm.trans hu)
    have hr : rearm (popped s e rest) = pushStep (popped s e rest) := by
      unfold rearm
      rw [show (popped s e rest).kind = .abm from h.abm]
    rw [hr]
    refine ⟨h.abm, ⟨_, ⟨stepEvs_insert_step _ rfl hrest, rfl, rfl, rfl, ?_, rfl⟩⟩, ?_, ?_⟩
    · show e.time + U = (((s.steps + 1 : Nat) : Int) + 1) * U
      rw [ha.time]
      have := Int_succ_mul (s.steps + 1)
      have h2 := Int_succ_mul s.steps
      simp only [Int.natCast_add, Int.natCast_one] at this h2 ⊢
      omega
    · show ((s.steps + 1 : Nat) : Int) * U ≤ e.time
      rw [ha.time]
      simp
    · show stepClocks (s.log ++ [LogEntry.step e.id e.time])
          = (List.range (s.steps + 1)).map (fun (i : Nat) => ((i : Int) + 1) * U)
      rw [stepClocks_snoc_step, h.stepLog, List.range_succ, List.map_append, ha.time]
      simp
  · have hs : stepEvs rest = stepEvs s.pending := hrest.trans ha.only.symm
    exact exec_induct (fun _ c _ h' => doCmd1_stepInv h' c) (fun _ => h.mono rfl hs rfl hfut rfl)
      (fun _ hst => nomatch hns.symm.trans hst) (fun _ _ => h.mono rfl hs rfl hfut (stepClocks_snoc_user ..))

theorem stepInv_kept : Kept (fun s => WF s ∧ StepInv s) where
  cmd c _ h := ⟨doCmd1_wf h.1 c, doCmd1_stepInv h.2 c⟩
  stop h _ hp := absurd hp (armed_not_none h.2.armed.choose_spec)
  late {s e r T} h hT hp hl := by
    obtain ⟨st, ha⟩ := h.2.armed
    refine ⟨wf_kept.late h.1 hT hp hl, h.2.mono rfl (Eq.trans ?_ ha.only.symm) rfl hT rfl⟩
    show stepEvs (insert e r) = [st]
    rcases armed_pop ha hp with ⟨rfl, hrest⟩ | ⟨hns, hrest⟩
    · exact stepEvs_insert_step _ ha.isStep hrest
    · rw [stepEvs_insert_user _ hns]
      exact hrest
  step h hp := ⟨wf_kept.step h.1 hp, exec_popped_stepInv h.1 h.2 hp⟩
  caught h := ⟨wf_kept.caught h.1, h.2.mono rfl rfl rfl (Int.le_refl _) rfl⟩

/-- after `run_until(k ticks)` the step counter equals the clock -/
theorem steps_eq_clock {f : Nat} {s s' : Sim} {k : Nat} (hw : WF s) (h : StepInv s) (hT : s.now ≤ (k : Int) * U)
    (hr : runUntil f s ((k : Int) * U) = some s') (hn : s'.raised = none) : s'.steps = k ∧ s'.now = (k : Int) * U := by
  have hinv := (stepInv_kept.ofUntil ⟨hw, h⟩ hT hr).2
  obtain ⟨hnow, hpost⟩ := (runUntil_post hw hr).2 hn
  obtain ⟨st, ha⟩ := hinv.armed
  have hmem : st ∈ s'.pending := by
    have : st ∈ stepEvs s'.pending := by
      rw [ha.only]
      simp
    exact (List.mem_filter.mp this).1
  have h1 := hpost st hmem
  rw [ha.time] at h1
  have h2 := hinv.le
  rw [hnow] at h2
  refine ⟨?_, hnow⟩
  have hU := U_pos
  have h3 : (k : Int) < (s'.steps : Int) + 1 := by
    apply Int.lt_of_mul_lt_mul_right h1 (Int.le_of_lt hU)
  have h4 : (s'.steps : Int) ≤ k := by
    apply Int.le_of_mul_le_mul_right h2 hU
  omega

/-- states of an ABM simulation: `setup` once, then any interleaving of commands and run calls -/
inductive ReachableAbm : Sim → Prop where
  | setup (p : Nat → List Cmd) (sp : List Cmd) : ReachableAbm (setup (init .abm p sp))
  | cmd {s : Sim} (c : Cmd) : ReachableAbm s → ReachableAbm (doCmd s c)
  | until {s s' : Sim} {f : Nat} {T : Int} : ReachableAbm s → s.now ≤ T → runUntil f s T = some s' → ReachableAbm s'
  | next {s : Sim} : ReachableAbm s → ReachableAbm (runNext s)
  | caught {s : Sim} : ReachableAbm s → ReachableAbm (caught s)

theorem ReachableAbm.reachable {s : Sim} (h : ReachableAbm s) : Reachable s := by
  induction h with
  | setup p sp => exact .setup (.init _ p sp)
  | cmd c _ ih => exact .cmd c ih
  | «until» _ hT hr ih => exact .until ih hT hr
  | next _ ih => exact .next ih
  | caught _ ih => exact .caught ih

theorem reachableAbm_inv {s : Sim} (h : ReachableAbm s) : StepInv s := by
  have hw := fun {s} (h : ReachableAbm s) => (reachable_inv h.reachable).1
  induction h with
  | setup p sp => exact setup_stepInv rfl rfl rfl rfl rfl
  | cmd c hs ih => exact (stepInv_kept.ofCmd c trivial ⟨hw hs, ih⟩).2
  | «until» hs hT hr ih => exact (stepInv_kept.ofUntil ⟨hw hs, ih⟩ hT hr).2
  | next hs ih => exact (stepInv_kept.ofNext ⟨hw hs, ih⟩).2
  | caught hs ih => exact (stepInv_kept.caught ⟨hw hs, ih⟩).2

end Mesa.Devs
