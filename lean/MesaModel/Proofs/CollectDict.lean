import MesaModel.Model.Collect
import MesaModel.Proofs.ListOps
/-! Lists as Python containers: insertion-ordered dicts (`setKey`, dicts built by successive assignments), the stable
    sort, picking by positions. -/
namespace Mesa.Collect

/-! ### insertion-ordered dicts -/

theorem lookup_cons' (k k' : Nat) (v : α) (l : List (Nat × α)) :
    ((k', v) :: l).lookup k = if k = k' then some v else l.lookup k := by
  by_cases h : k = k'
  · subst h; simp [List.lookup]
  · have : (k == k') = false := by simp [h]
    simp [List.lookup, this, h]

theorem lookup_setKey (k k' : Nat) (v : α) (l : List (Nat × α)) :
    (setKey k v l).lookup k' = if k' = k then some v else l.lookup k' := by
  induction l with
  | nil => simp [setKey, lookup_cons']
  | cons x xs ih =>
    obtain ⟨k'', v'⟩ := x
    simp only [setKey]
    split
    · subst_vars; simp only [lookup_cons']; split <;> rfl
    · rename_i h
      rw [lookup_cons', lookup_cons', ih]
      by_cases h1 : k' = k
      · simp [h1, Ne.symm h]
      · simp [h1]

theorem lookup_setKey_self (k : Nat) (v : α) (l : List (Nat × α)) : (setKey k v l).lookup k = some v := by
  simp [lookup_setKey]

theorem mem_setKey {k : Nat} {v : α} {l : List (Nat × α)} {x : Nat × α} (h : x ∈ setKey k v l) :
    x = (k, v) ∨ x ∈ l := by
  induction l with
  | nil => simpa [setKey] using h
  | cons y ys ih =>
    obtain ⟨k', v'⟩ := y
    simp only [setKey] at h
    split at h
    · subst_vars
      rcases List.mem_cons.mp h with h | h
      · exact Or.inl h
      · exact Or.inr (List.mem_cons_of_mem _ h)
    · rcases List.mem_cons.mp h with h | h
      · exact Or.inr (h ▸ List.mem_cons_self)
      · exact (ih h).imp_right (List.mem_cons_of_mem _)

theorem keys_setKey (k : Nat) (v : α) (l : List (Nat × α)) :
    (setKey k v l).map (·.1) = if k ∈ l.map (·.1) then l.map (·.1) else l.map (·.1) ++ [k] := by
  induction l with
  | nil => simp [setKey]
  | cons x xs ih =>
    obtain ⟨k', v'⟩ := x
    simp only [setKey]
    split
    · subst_vars; simp
    · rename_i h
      simp only [List.map_cons, ih, List.mem_cons]
      have : ¬ k = k' := fun e => h e.symm
      simp only [this, false_or]
      split <;> simp

def lastWith (p : α → Bool) (l : List α) : Option α := (l.filter p).getLast?

theorem lastWith_nil (p : α → Bool) : lastWith p [] = none := rfl

theorem lastWith_isSome (p : α → Bool) (l : List α) : (lastWith p l).isSome = l.any p := by
  rw [Bool.eq_iff_iff]; simp [lastWith]

theorem lastWith_append_singleton (p : α → Bool) (l : List α) (x : α) :
    lastWith p (l ++ [x]) = if p x then some x else lastWith p l := by
  unfold lastWith
  by_cases h : p x <;> simp [List.filter_append, h]

/-- a dict built by successive assignments `d[key x] = val x` -/
def assign (key : α → Nat) (val : α → β) (l : List α) : List (Nat × β) :=
  l.foldl (fun acc x => setKey (key x) (val x) acc) []

theorem assign_snoc (key : α → Nat) (val : α → β) (l : List α) (x : α) :
    assign key val (l ++ [x]) = setKey (key x) (val x) (assign key val l) := by
  simp [assign, List.foldl_append]

theorem assign_filter_snoc (key : α → Nat) (val : α → β) (p : α → Bool) (l : List α) (x : α) :
    assign key val ((l ++ [x]).filter p) =
      if p x then setKey (key x) (val x) (assign key val (l.filter p)) else assign key val (l.filter p) := by
  rw [List.filter_append]
  by_cases h : p x = true <;> simp [h, assign_snoc]

theorem lookup_assign (key : α → Nat) (val : α → β) (l : List α) (k : Nat) :
    (assign key val l).lookup k = (lastWith (fun x => key x == k) l).map val := by
  induction l using snoc_induction with
  | nil => simp [assign, lastWith]
  | snoc l x ih =>
    rw [assign_snoc, lookup_setKey, lastWith_append_singleton, ih]
    by_cases h : k = key x
    · subst h; simp
    · have : ¬ key x = k := fun e => h e.symm
      simp [h, this]

theorem mem_assign (key : α → Nat) (val : α → β) (l : List α) :
    ∀ e ∈ assign key val l, ∃ x ∈ l, e = (key x, val x) := by
  induction l using snoc_induction with
  | nil => simp [assign]
  | snoc l x ih =>
    intro e he
    rw [assign_snoc] at he
    rcases mem_setKey he with rfl | he
    · exact ⟨x, by simp, rfl⟩
    · obtain ⟨y, hy, rfl⟩ := ih e he
      exact ⟨y, by simp [hy], rfl⟩

theorem lookup_assign_of_nodup (key : α → Nat) (val : α → β) (l : List α) (h : (l.map key).Nodup) {x : α}
    (hx : x ∈ l) : (assign key val l).lookup (key x) = some (val x) := by
  induction l using snoc_induction with
  | nil => cases hx
  | snoc l y ih =>
    rw [List.map_append, List.nodup_append] at h
    rw [assign_snoc, lookup_setKey]
    rcases List.mem_append.mp hx with hx | hx
    · have : key x ≠ key y := h.2.2 _ (List.mem_map_of_mem hx) _ (by simp)
      rw [if_neg this]
      exact ih h.1 hx
    · rw [List.mem_singleton.mp hx, if_pos rfl]

theorem keys_assign_subset (key : α → Nat) (val : α → β) (l : List α) :
    ∀ k ∈ (assign key val l).map (·.1), k ∈ l.map key := by
  intro k hk
  obtain ⟨e, he, rfl⟩ := List.mem_map.mp hk
  obtain ⟨x, hx, rfl⟩ := mem_assign key val l e he
  exact List.mem_map_of_mem hx

theorem keys_assign_sorted (key : α → Nat) (val : α → β) (l : List α)
    (h : (l.map key).Pairwise (· ≤ ·)) : ((assign key val l).map (·.1)).Pairwise (· < ·) := by
  induction l using snoc_induction with
  | nil => simp [assign]
  | snoc l x ih =>
    rw [List.map_append, List.pairwise_append] at h
    obtain ⟨h1, _, h3⟩ := h
    rw [assign_snoc, keys_setKey]
    split
    · exact ih h1
    · rename_i hn
      rw [List.pairwise_append]
      refine ⟨ih h1, by simp, ?_⟩
      intro a ha b hb
      simp only [List.mem_singleton] at hb; subst hb
      have hle := h3 a (keys_assign_subset key val l a ha) (key x) (by simp)
      have : a ≠ key x := fun e => hn (e ▸ ha)
      omega


/-! ### the stable sort -/

theorem insertBy_perm (le : α → α → Bool) (x : α) (l : List α) : (insertBy le x l).Perm (x :: l) := by
  induction l with
  | nil => exact List.Perm.refl _
  | cons y ys ih =>
    simp only [insertBy]
    split
    · exact List.Perm.refl _
    · exact (List.Perm.cons y ih).trans (List.Perm.swap x y ys)

theorem sortStable_perm (le : α → α → Bool) (l : List α) : (sortStable le l).Perm l := by
  induction l with
  | nil => exact List.Perm.refl _
  | cons x xs ih => exact (insertBy_perm le x _).trans (List.Perm.cons x ih)

theorem insertBy_pairwise {le : α → α → Bool} (htr : ∀ a b c, le a b = true → le b c = true → le a c = true)
    (htot : ∀ a b, le a b = true ∨ le b a = true) (x : α) {l : List α} (h : l.Pairwise fun a b => le a b = true) :
    (insertBy le x l).Pairwise fun a b => le a b = true := by
  induction l with
  | nil => simp [insertBy]
  | cons y ys ih =>
    simp only [insertBy]
    have hy := List.pairwise_cons.mp h
    split
    · rename_i hxy
      refine List.pairwise_cons.mpr ⟨?_, h⟩
      intro b hb
      rcases List.mem_cons.mp hb with rfl | hb
      · exact hxy
      · exact htr _ _ _ hxy (hy.1 b hb)
    · rename_i hxy
      refine List.pairwise_cons.mpr ⟨?_, ih hy.2⟩
      intro b hb
      rcases List.mem_cons.mp ((insertBy_perm le x ys).mem_iff.mp hb) with rfl | hb
      · rcases htot b y with h1 | h1
        · exact absurd h1 hxy
        · exact h1
      · exact hy.1 b hb

theorem sortStable_pairwise {le : α → α → Bool} (htr : ∀ a b c, le a b = true → le b c = true → le a c = true)
    (htot : ∀ a b, le a b = true ∨ le b a = true) (l : List α) :
    (sortStable le l).Pairwise fun a b => le a b = true := by
  induction l with
  | nil => simp [sortStable]
  | cons x xs ih => exact insertBy_pairwise htr htot x ih

theorem sortStable_of_pairwise {le : α → α → Bool} {l : List α} (h : l.Pairwise fun a b => le a b = true) :
    sortStable le l = l := by
  induction l with
  | nil => rfl
  | cons x xs ih =>
    have hx := List.pairwise_cons.mp h
    simp only [sortStable, ih hx.2]
    cases xs with
    | nil => rfl
    | cons y ys => simp [insertBy, hx.1 y (by simp)]

/-! ### picking by positions -/

theorem filterMap_getElem?_range (l : List α) : (List.range l.length).filterMap (l[·]?) = l := by
  induction l with
  | nil => rfl
  | cons x l ih =>
    rw [List.length_cons, List.range_succ_eq_map, List.filterMap_cons]
    simp only [List.getElem?_cons_zero, List.filterMap_map]
    congr 1

theorem filterMap_getElem?_pick (l : List α) : ∀ (p : List Nat), (∀ i ∈ p, i < l.length) →
    (p.filterMap (fun i => l[i]?)).length = p.length ∧
    ∀ j : Nat, (p.filterMap (fun i => l[i]?))[j]? = (p[j]?).bind (fun i => l[i]?) := by
  intro p
  induction p with
  | nil => intro _; exact ⟨rfl, fun j => rfl⟩
  | cons i p ih =>
    intro h
    have hi : i < l.length := h i List.mem_cons_self
    obtain ⟨h1, h2⟩ := ih (fun k hk => h k (List.mem_cons_of_mem _ hk))
    have e : (i :: p).filterMap (fun i => l[i]?) = l[i] :: p.filterMap (fun i => l[i]?) := by
      rw [List.filterMap_cons, List.getElem?_eq_getElem hi]
    rw [e]
    refine ⟨by rw [List.length_cons, List.length_cons, h1], fun j => ?_⟩
    cases j with
    | zero => rw [List.getElem?_cons_zero, List.getElem?_cons_zero, Option.bind_some, List.getElem?_eq_getElem hi]
    | succ j => rw [List.getElem?_cons_succ, List.getElem?_cons_succ]; exact h2 j

theorem perm_filterMap_getElem? {p : List Nat} {l : List α} (h : isPermOfRange p l.length = true) :
    (p.filterMap (l[·]?)).Perm l := by
  have hp : p.Perm (List.range l.length) := List.isPerm_iff.mp h
  have := hp.filterMap (l[·]?)
  rwa [filterMap_getElem?_range] at this

end Mesa.Collect
