import MesaModel.Gen.FnSteps
import MesaModel.Model.StepCounter
/-!
Equivalence of the definition GENERATED from mesa/model.py (`Gen/FnSteps.lean`, rewritten by `harness/py2lean.py` on every
check) with the hand-written model `Model/StepCounter.lean` (C05).  The generated `wrapped_step` returns the list of calls
`self._user_step(*args, **kwargs)` it makes — (value of `self.steps` at the call, args, kwargs) — and the counter afterwards.
-/
namespace Mesa.Steps

/-- what the effect list of the generated `_wrapped_step` means IN THE MODEL: every recorded call
    `self._user_step(*a, **kw)`, made with the counter at `c`, runs the override chain of the instance with exactly these
    positional arguments and this counter value (`runChain`); a call that raised (`false`) ends the list.  The model's
    user steps take no keyword arguments, so `kw` is not interpreted (the equivalence is stated for `kw = []`). -/
def interpCalls (h : Hier) (es : List (Int × List Int × List (Int × Int))) : List Entry × Bool :=
  es.foldl (fun acc e => if acc.2 then (acc.1 ++ (runChain h 0 e.2.1 e.1.toNat).1, (runChain h 0 e.2.1 e.1.toNat).2) else acc)
    ([], true)

/-- C05 about the code-derived text: one call of the generated `_wrapped_step` calls the user's step exactly once, with the
    counter already advanced by exactly one, hands it exactly its own positional and keyword arguments, and leaves the
    counter at that value. -/
theorem C05_increment_before_user_code_generated (s : Int) (args : List Int) (kw : List (Int × Int)) :
    GenFn.wrapped_step ⟨s⟩ args kw = ([(s + 1, args, kw)], s + 1) := by
  simp only [GenFn.wrapped_step]
  -- the generated term is rewritten on every check: `simp` closes the form it has today, the second arm is for a
  -- variant that leaves arithmetic on the counter
  first
    | (simp; done)
    | (simp <;> omega)

/-- `Model._wrapped_step` as generated = the model's `callStep`: interpreting the calls the generated text makes (counter
    value AND forwarded `*args`, both taken from the generated term) in the model gives exactly what `callStep` records and
    returns, and the counter afterwards is `callStep`'s. -/
theorem C05_gen_wrapped_step_eq_model (i : Inst) (args : List Int) :
    interpCalls i.hier (GenFn.wrapped_step ⟨(i.steps : Int)⟩ args []).1 = (callStep i args).2 ∧
    (GenFn.wrapped_step ⟨(i.steps : Int)⟩ args []).2 = (((callStep i args).1.steps : Nat) : Int) := by
  have ht : ((i.steps : Int) + 1).toNat = i.steps + 1 := by omega
  rw [C05_increment_before_user_code_generated]
  refine ⟨?_, ?_⟩
  · simp [interpCalls, callStep, ht]
  · simp [callStep]
