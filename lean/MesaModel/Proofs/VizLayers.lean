import MesaModel.Model.VizLayers
import MesaModel.Proofs.Viz
/-!
Helper lemmas and spec functions for the property-layer part of C20 (`Model/VizLayers.lean`).
-/
namespace Mesa.Viz

/-! ## clip -/

theorem clamp_bounds {a lo hi : Int} (h : lo ≤ hi) : lo ≤ clamp a lo hi ∧ clamp a lo hi ≤ hi :=
  ⟨Int.le_min.mpr ⟨Int.le_max_right a lo, h⟩, Int.min_le_right _ _⟩

theorem clamp_mono {a b lo hi : Int} (h : a ≤ b) : clamp a lo hi ≤ clamp b lo hi :=
  Int.le_min.mpr
    ⟨Int.le_trans (Int.min_le_left _ _) (Int.max_le.mpr ⟨Int.le_trans h (Int.le_max_left b lo), Int.le_max_right b lo⟩),
      Int.min_le_right _ _⟩

theorem clamp_eq_self {a lo hi : Int} (h1 : lo ≤ a) (h2 : a ≤ hi) : clamp a lo hi = a := by
  unfold clamp
  rw [Int.max_eq_left h1, Int.min_eq_left h2]

theorem clamp_eq_lo {a lo hi : Int} (h : lo < hi) : clamp a lo hi = lo ↔ a ≤ lo := by
  unfold clamp
  constructor
  · intro e
    apply Int.not_lt.mp
    intro hlt
    have : lo < min (max a lo) hi := Int.lt_min.mpr ⟨Int.lt_of_lt_of_le hlt (Int.le_max_left a lo), h⟩
    rw [e] at this
    exact Int.lt_irrefl _ this
  · intro hle
    rw [Int.max_eq_right hle, Int.min_eq_left (Int.le_of_lt h)]

theorem clamp_eq_hi {a lo hi : Int} (h : lo < hi) : clamp a lo hi = hi ↔ hi ≤ a := by
  unfold clamp
  constructor
  · intro e
    have h1 : hi ≤ max a lo := by
      rw [← e]
      exact Int.min_le_left _ _
    rcases Int.le_total lo a with h2 | h2
    · rwa [Int.max_eq_left h2] at h1
    · rw [Int.max_eq_right h2] at h1
      exact absurd h (Int.not_lt.mpr h1)
  · intro hle
    rw [Int.max_eq_left (Int.le_trans (Int.le_of_lt h) hle), Int.min_eq_right hle]

/-! ## np.min / np.max -/

theorem minOf_spec {vals : List Int} {lo : Int} (h : minOf vals = some lo) : lo ∈ vals ∧ ∀ v ∈ vals, lo ≤ v := by
  cases vals with
  | nil => cases h
  | cons x xs =>
    cases h
    exact foldl_pick_spec min (· ≤ ·) (fun _ _ _ => Int.le_trans)
      (fun a b => (Int.le_total a b).imp Int.min_eq_left Int.min_eq_right) Int.min_le_left Int.min_le_right x xs

theorem maxOf_spec {vals : List Int} {hi : Int} (h : maxOf vals = some hi) : hi ∈ vals ∧ ∀ v ∈ vals, v ≤ hi := by
  cases vals with
  | nil => cases h
  | cons x xs =>
    cases h
    exact foldl_pick_spec max (· ≥ ·) (fun _ _ _ h1 h2 => Int.le_trans h2 h1)
      (fun a b => (Int.le_total b a).imp Int.max_eq_left Int.max_eq_right) Int.le_max_left Int.le_max_right x xs

theorem minOf_maxOf_of_mem {xs : List Int} {a : Int} (ha : a ∈ xs) :
    ∃ lo hi, minOf xs = some lo ∧ maxOf xs = some hi ∧ lo ≤ a ∧ a ≤ hi := by
  cases xs with
  | nil => cases ha
  | cons x xs => exact ⟨_, _, rfl, rfl, (minOf_spec rfl).2 a ha, (maxOf_spec rfl).2 a ha⟩

theorem Layer.at_mem {L : Layer} {x y : Nat} {v : Int} (h : L.at x y = some v) : v ∈ L.vals := by
  unfold Layer.at at h
  split at h
  · exact List.mem_of_getElem? h
  · cases h

/-! ## spec functions -/

/-- the range `[vmin, vmax]` a layer is drawn over: the portrayal's, else the layer's own minimum / maximum -/
def layerRange (L : Layer) (pt : LayerPortrayal) : Option (Int × Int) :=
  match minOf L.vals, maxOf L.vals with
  | some lo, some hi => some (pt.vmin.getD lo, pt.vmax.getD hi)
  | _, _ => none

/-- what one cell of a drawn layer shows -/
inductive Shown where
  | opacity (f : Frac)                               -- colour mode: the opacity of the one colour
  | level (f : Frac) (alpha : Nat)                   -- colormap mode on hexagons: the level handed to the colormap
  | raw (v : Int) (alpha : Nat) (vmin vmax : Int)    -- colormap mode through imshow: the value, with the range
deriving DecidableEq, Repr

/-- what a picture shows at cell `(x, y)` of a grid `w` wide: image row `y`, column `x`; hexagon `y * w + x` -/
def Picture.cell (p : Picture) (w x y : Nat) : Option Shown :=
  match p with
  | .imgRgba _ rows => (((rows[y]?).bind (·[x]?)).bind id).map .opacity
  | .imgCmap _ a lo hi rows => (((rows[y]?).bind (·[x]?)).bind id).map (.raw · a lo hi)
  | .hexRgba _ cells => ((cells[y * w + x]?).bind id).map .opacity
  | .hexCmap _ a cells => ((cells[y * w + x]?).bind id).map (.level · a)

/-- what a cell of value `v` shows when its layer is drawn over `[vmin, vmax]` -/
def shownAt (fam : Family) (pt : LayerPortrayal) (v vmin vmax : Int) : Option Shown :=
  match pt.mode with
  | .color _ => some (.opacity (if fam.isHex then hexShade pt.alpha v vmin vmax else orthoShade pt.alpha v vmin vmax))
  | .colormap _ => some (if fam.isHex then .level (normLevel v vmin vmax) pt.alpha else .raw v pt.alpha vmin vmax)
  | .neither => none

theorem drawLayer_ok {fam : Family} {name : String} {L : Layer} {pt : LayerPortrayal} {d : DrawnLayer}
    (hd : drawLayer fam name L pt = .ok d) :
    ∃ vmin vmax, layerRange L pt = some (vmin, vmax) ∧ d.name = name ∧
      d.cbar = (if pt.colorbar then some (vmin, vmax) else none) ∧ (fam.isHex = true → vmin ≤ vmax) ∧
      pt.mode ≠ .neither ∧
      ∀ {x y : Nat} {v : Int}, x < L.w → y < L.h → L.at x y = some v →
        d.pic.cell L.w x y = shownAt fam pt v vmin vmax := by
  unfold drawLayer at hd
  unfold layerRange shownAt
  cases h1 : minOf L.vals <;> cases h2 : maxOf L.vals <;> rw [h1, h2] at hd <;> try (cases hd; done)
  rename_i lo hi
  refine ⟨pt.vmin.getD lo, pt.vmax.getD hi, rfl, ?_⟩
  simp only at hd
  -- the hexagons: number `y·w + x` holds the cell; the image: row `y`, column `x`
  have hhex : ∀ {β} (f : Int → β) {x y : Nat} {v : Int}, x < L.w → y < L.h → L.at x y = some v →
      (((hexColors L).map (·.map f))[y * L.w + x]?).bind id = some (f v) := by
    intro β f x y v hx hy hv
    rw [List.getElem?_map, hexColors_getElem L hy hx, hv]
    rfl
  cases hm : pt.mode <;> rw [hm] at hd <;> simp only at hd
  case neither => cases hd
  case color c =>
    cases hf : fam.isHex <;> rw [hf] at hd <;> simp only [Bool.false_eq_true, if_false, if_true] at hd
    · cases hd
      refine ⟨rfl, rfl, fun h => (nomatch h), fun h => (nomatch h), fun hx hy hv => ?_⟩
      obtain ⟨row, hr1, hr2⟩ := imshowRows_getElem L hy hx
      simp only [Picture.cell]
      rw [List.getElem?_map, hr1, Option.map_some, Option.bind_some, List.getElem?_map, hr2, hv]
      rfl
    · split at hd
      · cases hd
      · cases hd
        refine ⟨rfl, rfl, fun _ => by omega, fun h => (nomatch h), fun hx hy hv => ?_⟩
        simp only [Picture.cell]
        rw [hhex _ hx hy hv]
        rfl
  case colormap cm =>
    cases hf : fam.isHex <;> rw [hf] at hd <;> simp only [Bool.false_eq_true, if_false, if_true] at hd
    · cases hd
      refine ⟨rfl, rfl, fun h => (nomatch h), fun h => (nomatch h), fun hx hy hv => ?_⟩
      obtain ⟨row, hr1, hr2⟩ := imshowRows_getElem L hy hx
      simp only [Picture.cell]
      rw [hr1, Option.bind_some, hr2, hv]
      rfl
    · split at hd
      · cases hd
      · cases hd
        refine ⟨rfl, rfl, fun _ => by omega, fun h => (nomatch h), fun hx hy hv => ?_⟩
        simp only [Picture.cell]
        rw [hhex _ hx hy hv]
        rfl

theorem drawLayer_range {fam : Family} {name : String} {L : Layer} {pt : LayerPortrayal} {d : DrawnLayer}
    (hd : drawLayer fam name L pt = .ok d) : ∃ r, layerRange L pt = some r :=
  let ⟨_, _, h, _⟩ := drawLayer_ok hd
  ⟨_, h⟩

/-- the entries of the request the space has a layer for -/
def knownPorts (layers : List (String × Layer)) (ports : List (String × LayerPortrayal)) : List (String × LayerPortrayal) :=
  ports.filter fun p => (layers.lookup p.1).isSome

theorem drawLayersLoop_spec (fam : Family) (layers : List (String × Layer)) :
    ∀ (ports : List (String × LayerPortrayal)) (ds : List DrawnLayer), drawLayersLoop fam layers ports = .ok ds →
      ds.map (·.name) = (knownPorts layers ports).map (·.1) ∧
      ∀ d ∈ ds, ∃ pt L, (d.name, pt) ∈ knownPorts layers ports ∧ layers.lookup d.name = some L ∧
        drawLayer fam d.name L pt = .ok d
  | [], ds, h => by
    simp only [drawLayersLoop] at h
    injection h with h
    subst h
    simp [knownPorts]
  | (name, pt) :: rest, ds, h => by
    unfold drawLayersLoop at h
    cases hl : layers.lookup name with
    | none =>
      rw [hl] at h
      rw [show knownPorts layers ((name, pt) :: rest) = knownPorts layers rest by simp [knownPorts, hl]]
      exact drawLayersLoop_spec fam layers rest ds h
    | some L =>
      rw [hl] at h
      simp only at h
      rw [show knownPorts layers ((name, pt) :: rest) = (name, pt) :: knownPorts layers rest by simp [knownPorts, hl]]
      cases hd : drawLayer fam name L pt with
      | error e =>
        rw [hd] at h
        cases h
      | ok d =>
        cases hr : drawLayersLoop fam layers rest with
        | error e =>
          rw [hd, hr] at h
          cases h
        | ok ds' =>
          rw [hd, hr] at h
          cases h
          obtain ⟨ih1, ih2⟩ := drawLayersLoop_spec fam layers rest ds' hr
          obtain ⟨_, _, _, hn, _⟩ := drawLayer_ok hd
          refine ⟨by simp [hn, ih1], fun d' hd' => ?_⟩
          rcases List.mem_cons.mp hd' with rfl | hd'
          · rw [hn]
            exact ⟨pt, L, List.mem_cons_self, hl, hd⟩
          · obtain ⟨pt', L', h1, h2, h3⟩ := ih2 d' hd'
            exact ⟨pt', L', List.mem_cons_of_mem _ h1, h2, h3⟩

end Mesa.Viz
