import MesaModel.Proofs.Devs
/-!
Once cancelled, never executed; once its callable has been garbage-collected, never executed.
`Lost i s`: id `i` can no longer run — it sits on the list cancelled or with its callable dead, or was already discarded.
-/
namespace Mesa.Devs

def Lost (i : Nat) (s : Sim) : Prop :=
  (∃ e ∈ s.pending, e.id = i ∧ (e.cancelled = true ∨ e.dead = true)) ∨ i ∈ s.gone

theorem lost_mono {i : Nat} {s s' : Sim} (h : Lost i s)
    (hp : ∀ e ∈ s.pending, e.cancelled = true ∨ e.dead = true →
      (∃ e' ∈ s'.pending, e'.id = e.id ∧ (e'.cancelled = true ∨ e'.dead = true)) ∨ e.id ∈ s'.gone)
    (hg : ∀ j ∈ s.gone, j ∈ s'.gone) : Lost i s' := by
  rcases h with ⟨e, he, rfl, hc⟩ | h
  · exact hp e he hc
  · exact Or.inr (hg i h)

theorem mapFlags_lost {i : Nat} {s s' : Sim} (h : Lost i s) (g : Ev → Ev)
    (hg : ∀ e, (g e).id = e.id ∧ (e.cancelled = true → (g e).cancelled = true) ∧ (e.dead = true → (g e).dead = true))
    (hp : s'.pending = s.pending.map g) (hgone : s'.gone = s.gone) : Lost i s' :=
  lost_mono h (fun e he hc => Or.inl ⟨g e, hp ▸ List.mem_map.mpr ⟨e, he, rfl⟩, (hg e).1, hc.imp (hg e).2.1 (hg e).2.2⟩)
    (fun _ hj => hgone ▸ hj)

theorem lost_of_sub {i : Nat} {s s' : Sim} (h : Lost i s) (hp : ∀ e ∈ s.pending, e ∈ s'.pending)
    (hg : ∀ j ∈ s.gone, j ∈ s'.gone) : Lost i s' :=
  lost_mono h (fun e he hc => Or.inl ⟨e, hp e he, rfl, hc⟩) hg

theorem doCmd1_lost {i : Nat} {s : Sim} (h : Lost i s) (c : Cmd) : Lost i (doCmd1 s c) :=
  doCmd1_induct c h (fun _ _ _ _ _ _ => lost_of_sub h (fun _ he => mem_insert.mpr (Or.inr he)) (fun _ hj => hj))
    (fun _ _ => mapFlags_lost h _ (fun e => by split <;> simp) rfl rfl)
    (fun _ _ => mapFlags_lost h _ (fun e => by split <;> simp) rfl rfl) (fun _ _ => h)

theorem lost_kept (i : Nat) : Kept (Lost i) where
  cmd c _ h := doCmd1_lost h c
  stop h _ hp := lost_mono h
    (fun e he _ => Or.inr (List.mem_append_right _ (List.mem_map.mpr ⟨e, (congrArg (e ∈ ·) (popLive_none hp)).mpr he, rfl⟩)))
    (fun _ hj => List.mem_append_left _ hj)
  late h _ hp _ := lost_mono h
    (fun e he hc => match (popLive_mem_iff hp).mp he with
      | .inl he => Or.inr (List.mem_append_right _ (List.mem_map.mpr ⟨e, he, rfl⟩))
      | .inr he => Or.inl ⟨e, he, rfl, hc⟩)
    (fun _ hj => List.mem_append_left _ hj)
  step {s e₀ r} h hp := by
    -- after the pop the id is still lost, unless it is the popped event's: that event is live, so its callable is dead
    have hcase : (e₀.id = i ∧ e₀.dead = true) ∨ Lost i (popped s e₀ r) := by
      rcases h with ⟨e, he, hi, hc⟩ | h
      · rcases (popLive_mem_iff hp).mp he with he | he
        · exact Or.inr (Or.inr (List.mem_append_right _ (List.mem_map.mpr ⟨e, he, hi⟩)))
        · rcases mem_insert.mp he with rfl | he
          · exact Or.inl ⟨hi, hc.resolve_left (by simp [(popLive_decomp hp).2])⟩
          · exact Or.inr (Or.inl ⟨e, he, hi, hc⟩)
      · exact Or.inr (Or.inr (List.mem_append_left _ h))
    rcases hcase with ⟨hi, hdead⟩ | hl
    · right
      unfold exec
      rw [if_pos hdead]
      exact List.mem_append_right _ (by simp [hi])
    · exact exec_induct (fun _ c _ h' => doCmd1_lost h' c)
        (fun _ => lost_of_sub hl (fun _ he => he) (fun _ hj => List.mem_append_left _ hj))
        (fun _ _ => lost_of_sub hl (fun _ he => mem_rearm he) (fun j hj => by
          show j ∈ (rearm (popped s e₀ r)).gone
          rw [(rearm_frame _).gone]
          exact hj))
        (fun _ _ => lost_of_sub hl (fun _ he => he) (fun _ hj => hj))
  caught h := h

theorem lost_not_logged {i : Nat} {s : Sim} (ha : Acc s) (h : Lost i s) : i ∉ logIds s.log := by
  intro hl
  have h1 := List.count_pos_iff.mpr hl
  have := ha.le_one i
  rcases h with ⟨e, he, hi, _⟩ | h
  · have : 0 < (ids s.pending).count i := List.count_pos_iff.mpr (List.mem_map.mpr ⟨e, he, hi⟩)
    omega
  · have := List.count_pos_iff.mpr h
    omega

theorem lost_never_logged {i : Nat} {s s' : Sim} (ha : Acc s) (h : Lost i s) (hr : ReachableFrom s s') :
    i ∉ logIds s'.log :=
  lost_not_logged (acc_kept.ofFrom ha hr) ((lost_kept i).ofFrom h hr)

end Mesa.Devs
