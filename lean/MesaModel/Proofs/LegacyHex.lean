import MesaModel.Model.LegacySetOrder
import MesaModel.Proofs.LegacySet
/-!
`_HexGrid.get_neighborhood` (C09, hexagonal part): the generated offset tables are the six unit steps
of a hexagonal lattice, and the breadth-first expansion returns exactly the cells within `r` steps
(centre by flag), as a strictly sorted list, inside the grid.  The induction over the levels is stated for `hexLevelsW ins`
(Model/LegacySetOrder.lean: the loop with `coordinates.add` as a parameter), of which the model's loop is the instance `sadd`;
`SetIns` (what is asked of `ins`) and the loop invariant `HexInv` are defined here.
-/
namespace Mesa.Legacy

/-! ### the offset tables -/

theorem axial_fst (c : Coord) : (axial c).1 = c.1 := rfl

/-- odd columns sit half a cell lower, so stepping to the next column lowers the axial row of an even
    column only -/
theorem axial_succ (x y : Int) : axial (x + 1, y) = (x + 1, (axial (x, y)).2 - if x % 2 = 0 then 1 else 0) := by
  simp only [axial]
  split <;> (congr 1; omega)

theorem axial_pred (x y : Int) : axial (x + -1, y) = (x + -1, (axial (x, y)).2 + if x % 2 = 0 then 0 else 1) := by
  simp only [axial]
  split <;> (congr 1; omega)

theorem axial_row (x y d : Int) : axial (x, y + d) = (x, (axial (x, y)).2 + d) := by
  simp only [axial]
  congr 1
  omega

/-- the cells next to `(x, y)`, by offset -/
theorem mem_hexAdjacent (x y dx dy : Int) : (x + dx, y + dy) ∈ hexAdjacent (x, y) ↔
    (dx = 0 ∧ (dy = -1 ∨ dy = 1)) ∨ ((dx = -1 ∨ dx = 1) ∧ (dy = 0 ∨ dy = if x % 2 = 0 then 1 else -1)) := by
  simp only [hexAdjacent]
  split
  · rename_i h
    simp only [Gen.hexEven, List.map_cons, List.map_nil, List.mem_cons, Prod.mk.injEq, List.not_mem_nil, or_false, Int.add_right_inj]
    omega
  · rename_i h
    simp only [Gen.hexOdd, List.map_cons, List.map_nil, List.mem_cons, Prod.mk.injEq, List.not_mem_nil, or_false, Int.add_right_inj]
    omega

/-- the same offsets are the unit steps in axial coordinates -/
theorem axial_step_iff (x y dx dy : Int) :
    (∃ dd ∈ axialDirs, axial (x + dx, y + dy) = ((axial (x, y)).1 + dd.1, (axial (x, y)).2 + dd.2)) ↔
    (dx = 0 ∧ (dy = -1 ∨ dy = 1)) ∨ ((dx = -1 ∨ dx = 1) ∧ (dy = 0 ∨ dy = if x % 2 = 0 then 1 else -1)) := by
  simp only [axialDirs, List.mem_cons, List.not_mem_nil, or_false, exists_eq_or_imp, exists_eq_left, axial_row,
    axial_fst, Prod.mk.injEq, Int.add_right_inj]
  -- only the column step `dx` decides how the axial row of column `x + dx` relates to that of column `x`
  by_cases h0 : dx = 0
  · subst h0
    rw [Int.add_zero]
    omega
  by_cases h1 : dx = 1
  · subst h1
    rw [axial_succ]
    split <;> omega
  by_cases h2 : dx = -1
  · subst h2
    rw [axial_pred]
    split <;> omega
  simp [h0, h1, h2]

/-- the generated offset tables are the six unit steps of a hexagonal lattice -/
theorem hexAdjacent_axial (c n : Coord) :
    n ∈ hexAdjacent c ↔ ∃ dd ∈ axialDirs, axial n = ((axial c).1 + dd.1, (axial c).2 + dd.2) := by
  obtain ⟨x, y⟩ := c
  obtain ⟨nx, ny⟩ := n
  obtain ⟨dx, rfl⟩ : ∃ dx, nx = x + dx := ⟨nx - x, by omega⟩
  obtain ⟨dy, rfl⟩ : ∃ dy, ny = y + dy := ⟨ny - y, by omega⟩
  rw [mem_hexAdjacent, axial_step_iff]

theorem axialDirs_neg : ∀ dd ∈ axialDirs, ((-dd.1, -dd.2) : Coord) ∈ axialDirs := by decide

/-- touching is symmetric because the six axial steps are closed under negation -/
theorem hexAdjacent_symm (c n : Coord) : n ∈ hexAdjacent c ↔ c ∈ hexAdjacent n := by
  have key : ∀ c n : Coord, n ∈ hexAdjacent c → c ∈ hexAdjacent n := by
    intro c n h
    rw [hexAdjacent_axial] at h ⊢
    obtain ⟨dd, hdd, he⟩ := h
    refine ⟨(-dd.1, -dd.2), axialDirs_neg dd hdd, ?_⟩
    rw [he]
    exact Prod.ext (by simp only []; omega) (by simp only []; omega)
  exact ⟨key c n, key n c⟩

theorem hexAdjacent_six (c : Coord) : (hexAdjacent c).length = 6 ∧ (hexAdjacent c).Nodup ∧ c ∉ hexAdjacent c := by
  obtain ⟨cx, cy⟩ := c
  simp only [hexAdjacent]
  split
  · simp [Gen.hexEven]
    omega
  · simp [Gen.hexOdd]
    omega

theorem Reach.succ {α : Type} {nb : α → List α} {k : Nat} {a c : α} (h : Reach nb k a c) : Reach nb (k + 1) a c :=
  Or.inl h

theorem Reach.eq_or_step {α : Type} {nb : α → List α} {k : Nat} {a c : α} (h : Reach nb k a c) :
    c = a ∨ ∃ m, c ∈ nb m := by
  induction k with
  | zero => exact Or.inl h
  | succ k ih =>
    rcases h with h | ⟨m, _, h⟩
    · exact ih h
    · exact Or.inr ⟨m, h⟩

/-! ### one item, one level -/

theorem mem_hexFilter (d : Dim) (vis : List Coord) (x n : Coord) :
    n ∈ hexFilter d vis (hexAdjacent x) ↔ n ∈ hexNbrs d x ∧ n ∉ vis := by
  unfold hexFilter hexNbrs
  split
  · simp only [List.mem_filter, decide_eq_true_eq]
  · simp only [List.mem_filter, Bool.and_eq_true, decide_eq_true_eq]
    constructor
    · rintro ⟨h1, h2, h3⟩
      exact ⟨⟨h1, h2⟩, h3⟩
    · rintro ⟨⟨h1, h2⟩, h3⟩
      exact ⟨h1, h2, h3⟩

/-- `ins` adds the member (the only thing the code relies on) -/
def SetIns (ins : Coord → List Coord → List Coord) : Prop := ∀ c v x, x ∈ ins c v ↔ x = c ∨ x ∈ v

theorem setIns_sadd : SetIns (fun c v => sadd c v) := fun c v x => mem_sadd c x v

/-! The membership lemmas are stated for `hexStepW ins`, the step with `coordinates.add` as a parameter; the model's `hexStep`
is the instance `ins = sadd` (by `rfl`). -/

theorem sorted_foldl_sadd (adj vis : List Coord) (h : SortedSet vis) :
    SortedSet (adj.foldl (fun v c => sadd c v) vis) :=
  foldl_keeps SortedSet (fun v c hv => sorted_sadd c v hv) adj vis h

section
variable {ins : Coord → List Coord → List Coord} (hins : SetIns ins)
include hins

theorem mem_hexStep_visited (d : Dim) (more : Bool) (st : List Coord × List Coord) (x c : Coord) :
    c ∈ (hexStepW ins d more st x).2 ↔ c ∈ st.2 ∨ c ∈ hexNbrs d x := by
  simp only [hexStepW, mem_foldl_ins (ins := fun v c => ins c v) (fun l x y => by rw [hins x l y, or_comm]), mem_hexFilter]
  constructor
  · rintro (h | ⟨h, _⟩)
    · exact Or.inl h
    · exact Or.inr h
  · rintro (h | h)
    · exact Or.inl h
    · by_cases hc : c ∈ st.2
      · exact Or.inl hc
      · exact Or.inr ⟨h, hc⟩

theorem mem_hexStep_queue (d : Dim) (st : List Coord × List Coord) (x c : Coord) :
    c ∈ (hexStepW ins d true st x).1 ↔ c ∈ st.1 ∨ (c ∈ (hexStepW ins d true st x).2 ∧ c ∉ st.2) := by
  rw [mem_hexStep_visited hins]
  simp only [hexStepW, if_true, List.mem_append, mem_hexFilter]
  constructor
  · rintro (h | ⟨h1, h2⟩)
    · exact Or.inl h
    · exact Or.inr ⟨Or.inr h1, h2⟩
  · rintro (h | ⟨h1 | h1, h2⟩)
    · exact Or.inl h
    · exact absurd h1 h2
    · exact Or.inr ⟨h1, h2⟩

/-- a level: the visited set grows by the neighbours of the items -/
theorem mem_level_visited (d : Dim) (more : Bool) (items : List Coord) (st : List Coord × List Coord) (c : Coord) :
    c ∈ (items.foldl (hexStepW ins d more) st).2 ↔ c ∈ st.2 ∨ ∃ x ∈ items, c ∈ hexNbrs d x := by
  induction items generalizing st with
  | nil => simp
  | cons y ys ih =>
    simp only [List.foldl_cons, ih, mem_hexStep_visited hins, List.mem_cons, exists_eq_or_imp, or_assoc]

/-- a level that queues: the new queue gains exactly the cells that became visited -/
theorem mem_level_queue (d : Dim) (items : List Coord) (st : List Coord × List Coord) (c : Coord) :
    c ∈ (items.foldl (hexStepW ins d true) st).1 ↔
      c ∈ st.1 ∨ (c ∈ (items.foldl (hexStepW ins d true) st).2 ∧ c ∉ st.2) := by
  induction items generalizing st with
  | nil => simp
  | cons y ys ih =>
    simp only [List.foldl_cons]
    rw [ih, mem_hexStep_queue hins]
    have hsub : c ∈ (hexStepW ins d true st y).2 → c ∈ (ys.foldl (hexStepW ins d true) (hexStepW ins d true st y)).2 := by
      intro h
      rw [mem_level_visited hins]
      exact Or.inl h
    have hsub0 : c ∈ st.2 → c ∈ (hexStepW ins d true st y).2 := by
      intro h
      rw [mem_hexStep_visited hins]
      exact Or.inl h
    constructor
    · rintro ((h | ⟨h1, h2⟩) | ⟨h1, h2⟩)
      · exact Or.inl h
      · exact Or.inr ⟨hsub h1, h2⟩
      · exact Or.inr ⟨h1, fun h => h2 (hsub0 h)⟩
    · rintro (h | ⟨h1, h2⟩)
      · exact Or.inl (Or.inl h)
      · by_cases hc : c ∈ (hexStepW ins d true st y).2
        · exact Or.inl (Or.inr ⟨hc, h2⟩)
        · exact Or.inr ⟨h1, hc⟩

end

theorem sorted_level (d : Dim) (more : Bool) (items : List Coord) (st : List Coord × List Coord)
    (h : SortedSet st.2) : SortedSet (items.foldl (hexStep d more) st).2 :=
  foldl_keeps (fun st => SortedSet st.2) (fun _ _ hv => sorted_foldl_sadd _ _ hv) items st h

/-! ### the breadth-first invariant -/

/-- after `k` levels: the visited set is (up to the centre) the set of cells within `k` steps, queued
    cells are within `k` steps, and every cell within `k` steps that is not queued has been expanded -/
structure HexInv (d : Dim) (pos : Coord) (k : Nat) (q v : List Coord) : Prop where
  vis : ∀ c, c ≠ pos → (c ∈ v ↔ Reach (hexNbrs d) k pos c)
  queue : ∀ x ∈ q, Reach (hexNbrs d) k pos x
  done : ∀ c, Reach (hexNbrs d) k pos c → c ∉ q → ∀ n ∈ hexNbrs d c, n ∈ v

theorem HexInv.init (d : Dim) (pos : Coord) : HexInv d pos 0 [pos] [] := by
  refine ⟨?_, ?_, ?_⟩
  · intro c hc
    simp only [Reach, List.not_mem_nil, false_iff]
    exact hc
  · intro x hx
    simp only [List.mem_singleton] at hx
    exact hx
  · intro c hc hq
    simp only [Reach] at hc
    simp only [List.mem_singleton] at hq
    exact absurd hc hq

/-- any level establishes the visited-set clause for one more step -/
theorem HexInv.level_vis {d : Dim} {pos : Coord} {k : Nat} {q v v' : List Coord} (P : HexInv d pos k q v)
    (h1 : ∀ c, c ∈ v' ↔ c ∈ v ∨ ∃ x ∈ q, c ∈ hexNbrs d x) :
    ∀ c, c ≠ pos → (c ∈ v' ↔ Reach (hexNbrs d) (k + 1) pos c) := by
  intro c hc
  rw [h1]
  constructor
  · rintro (h | ⟨x, hx, h⟩)
    · exact Or.inl ((P.vis c hc).mp h)
    · exact Or.inr ⟨x, P.queue x hx, h⟩
  · rintro (h | ⟨m, hm, h⟩)
    · exact Or.inl ((P.vis c hc).mpr h)
    · by_cases hq : m ∈ q
      · exact Or.inr ⟨m, hq, h⟩
      · exact Or.inl (P.done m hm hq c h)

/-- a queueing level re-establishes the invariant -/
theorem HexInv.level {d : Dim} {pos : Coord} {k : Nat} {q v q' v' : List Coord} (P : HexInv d pos k q v)
    (h1 : ∀ c, c ∈ v' ↔ c ∈ v ∨ ∃ x ∈ q, c ∈ hexNbrs d x)
    (h2 : ∀ c, c ∈ q' ↔ c ∈ v' ∧ c ∉ v) : HexInv d pos (k + 1) q' v' := by
  have hv := P.level_vis h1
  refine ⟨hv, ?_, ?_⟩
  · intro x hx
    obtain ⟨hx1, hx2⟩ := (h2 x).mp hx
    rcases (h1 x).mp hx1 with h | ⟨y, hy, h⟩
    · exact absurd h hx2
    · exact Or.inr ⟨y, P.queue y hy, h⟩
  · intro c hc hq n hn
    by_cases hk : Reach (hexNbrs d) k pos c
    · by_cases hcq : c ∈ q
      · exact (h1 n).mpr (Or.inr ⟨c, hcq, hn⟩)
      · exact (h1 n).mpr (Or.inl (P.done c hk hcq n hn))
    · have hne : c ≠ pos := by
        intro e
        subst e
        exact hk (Reach.self _ k c)
      have hnv : c ∉ v := fun h => hk ((P.vis c hne).mp h)
      have hv' : c ∈ v' := (hv c hne).mpr hc
      exact absurd ((h2 c).mpr ⟨hv', hnv⟩) hq

theorem mem_hexLevels {ins : Coord → List Coord → List Coord} (hins : SetIns ins) (d : Dim) (pos : Coord) (r : Nat) : ∀ (k : Nat) (q v : List Coord), HexInv d pos k q v →
    ∀ c, c ≠ pos → (c ∈ hexLevelsW ins d r q v ↔ Reach (hexNbrs d) (k + r) pos c) := by
  induction r with
  | zero =>
    intro k q v P c hc
    simp only [hexLevelsW, Nat.add_zero]
    exact P.vis c hc
  | succ r ih =>
    intro k q v P c hc
    simp only [hexLevelsW]
    by_cases hr : r = 0
    · subst hr
      simp only [hexLevelsW]
      exact P.level_vis (fun c => mem_level_visited hins d _ q ([], v) c) c hc
    · have hpos : decide (r > 0) = true := by
        simp only [decide_eq_true_eq]
        omega
      rw [hpos]
      have P' : HexInv d pos (k + 1) (q.foldl (hexStepW ins d true) ([], v)).1 (q.foldl (hexStepW ins d true) ([], v)).2 := by
        apply P.level (fun c => mem_level_visited hins d _ q ([], v) c)
        intro c
        rw [mem_level_queue hins]
        simp
      have := ih (k + 1) _ _ P' c hc
      rw [this]
      have e : k + 1 + r = k + (r + 1) := by omega
      rw [e]

theorem hexLevels_eq (d : Dim) (r : Nat) : ∀ q v, hexLevels d r q v = hexLevelsW (fun c v => sadd c v) d r q v := by
  induction r with
  | zero =>
    intro q v
    rfl
  | succ r ih =>
    intro q v
    simp only [hexLevels, hexLevelsW]
    exact ih _ _

theorem sorted_hexLevels (d : Dim) (r : Nat) : ∀ (q v : List Coord), SortedSet v → SortedSet (hexLevels d r q v) := by
  induction r with
  | zero =>
    intro q v h
    simpa only [hexLevels] using h
  | succ r ih =>
    intro q v h
    simp only [hexLevels]
    exact ih _ _ (sorted_level d _ q ([], v) h)

/-! ### the specification -/

theorem hex_spec (d : Dim) (pos : Coord) (ic : Bool) (r : Nat) :
    SortedSet (hexCompute d pos ic r) ∧
    ∀ c, c ∈ hexCompute d pos ic r ↔ (c = pos → ic = true) ∧ (c ≠ pos → Reach (hexNbrs d) r pos c) := by
  have hs : SortedSet (hexLevels d r [pos] []) := sorted_hexLevels d r [pos] [] List.Pairwise.nil
  have hm : ∀ c, c ≠ pos → (c ∈ hexLevels d r [pos] [] ↔ Reach (hexNbrs d) r pos c) := by
    intro c hc
    have := mem_hexLevels setIns_sadd d pos r 0 [pos] [] (HexInv.init d pos) c hc
    rw [Nat.zero_add, ← hexLevels_eq] at this
    exact this
  unfold hexCompute
  refine ⟨by cases ic; exact sorted_sdiscard _ _ hs; exact sorted_sadd _ _ hs, fun c => ?_⟩
  exact centre_by_flag (hm c) (fun h => by rw [h, if_pos rfl, mem_sadd])
    (fun h => by rw [h, if_neg (by simp), mem_sdiscard])

theorem hexNbrs_inGrid (d : Dim) (hw : 0 < d.w) (hh : 0 < d.h) (x n : Coord) (h : n ∈ hexNbrs d x) : d.inGrid n := by
  unfold hexNbrs at h
  unfold Dim.inGrid
  split at h
  · simp only [List.mem_map] at h
    obtain ⟨m, _, rfl⟩ := h
    exact ⟨Int.emod_nonneg _ (by omega), Int.emod_lt_of_pos _ hw, Int.emod_nonneg _ (by omega), Int.emod_lt_of_pos _ hh⟩
  · simp only [List.mem_filter, Dim.oob, Bool.not_eq_true', Bool.or_eq_false_iff, decide_eq_false_iff_not] at h
    omega

theorem hex_inGrid (d : Dim) (hw : 0 < d.w) (hh : 0 < d.h) (pos : Coord) (hpos : d.inGrid pos) (ic : Bool) (r : Nat) :
    ∀ c ∈ hexCompute d pos ic r, d.inGrid c := by
  intro c hc
  have h := ((hex_spec d pos ic r).2 c).mp hc
  by_cases e : c = pos
  · rw [e]
    exact hpos
  · rcases (h.2 e).eq_or_step with h' | ⟨m, h'⟩
    · exact absurd h' e
    · exact hexNbrs_inGrid d hw hh m c h'

end Mesa.Legacy
