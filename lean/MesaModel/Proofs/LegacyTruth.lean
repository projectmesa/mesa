import MesaModel.Model.LegacyTruth
import MesaModel.Proofs.LegacyCompose
/-! Agents with a truth value (C09): histories in which agents are made falsy / truthy between mutating
calls and cached `get_neighbors` queries.  The readers take the emptiness test the generated table names (Model/LegacyTruth.lean).  Defines `TQ`, `eraseTruth`, `runT`, `falsyAfter`. -/
namespace Mesa.Legacy

open Grid

/-- a call of an interleaved history: a call of `GQ` (mutating call or `get_neighbors`), or the agent `a` changes its
    truth value (its `__bool__` / `__len__` answers differently from now on) -/
inductive TQ where
  | q (x : GQ)
  | truth (a : Aid) (truthy : Bool)

/-- the calls of the grid in a history (an agent changing its truth value is no call of the grid) -/
def eraseTruth : List TQ → List GQ
  | [] => []
  | .q x :: rest => x :: eraseTruth rest
  | .truth _ _ :: rest => eraseTruth rest

/-- the answers of the `get_neighbors` calls, as the driver computes them: grid, cache and the set of falsy agents are carried along;
    the contents are read with the emptiness test of the code (`cellsContentsT`: it is handed the falsy set) -/
def runT : Grid → NCache → Falsy → List TQ → List (Except Err (List Aid))
  | _, _, _, [] => []
  | g, c, fz, .truth a b :: rest => runT g c (setTruth fz a b) rest
  | g, c, fz, .q (.op o) :: rest => runT (step g o).1 c fz rest
  | g, c, fz, .q (.nbrs k) :: rest => ((getNbhd g.dim c k).2.map (cellsContentsT fz g)) :: runT g (getNbhd g.dim c k).1 fz rest

/-- the set of falsy agents at the end of a history -/
def falsyAfter : Falsy → List TQ → Falsy
  | fz, [] => fz
  | fz, .truth a b :: rest => falsyAfter (setTruth fz a b) rest
  | fz, .q _ :: rest => falsyAfter fz rest

theorem mem_setTruth (fz : Falsy) (a : Aid) (b : Bool) (x : Aid) :
    x ∈ setTruth fz a b ↔ (x = a ∧ b = false) ∨ (x ≠ a ∧ x ∈ fz) := by
  unfold setTruth
  -- `a` itself is in the set exactly when it was made falsy; for everybody else nothing changes
  by_cases hxa : x = a
  · subst hxa
    cases b
    · by_cases hm : x ∈ fz <;> simp [hm]
    · simp
  · cases b
    · by_cases hm : a ∈ fz <;> simp [hm, hxa]
    · simp [hxa]

/-! ### the emptiness test of the readers -/

/-- the `!= default_val()` instance of the parametrised reader is `cellsContents` -/
theorem cellsContentsBy_eqDefault (fz : Falsy) (g : Grid) (cells : List Coord) :
    cellsContentsBy .eqDefault fz g cells = cellsContents g cells := by
  unfold cellsContentsBy cellsContents
  cases g.multi
  · simp only [Bool.false_eq_true, if_false, cellEmptyBy]
    congr 1
    funext c
    cases g.content c <;> simp
  · simp only [if_true, cellEmptyBy, Grid.isCellEmpty]

/-- on a MultiGrid the stored value is the cell's list: both tests agree -/
theorem cellsContentsBy_truthy_multi (fz : Falsy) (g : Grid) (hm : g.multi = true) (cells : List Coord) :
    cellsContentsBy .truthy fz g cells = cellsContents g cells := by
  unfold cellsContentsBy cellsContents
  simp only [hm, if_true, cellEmptyBy, Grid.isCellEmpty]

/-- on a single-occupancy grid the truthiness test returns the occupants that are not falsy -/
theorem mem_cellsContentsBy_truthy_single (fz : Falsy) (g : Grid) (hm : g.multi = false) (cells : List Coord) (a : Aid) :
    a ∈ cellsContentsBy .truthy fz g cells ↔ a ∈ cellsContents g cells ∧ a ∉ fz := by
  unfold cellsContentsBy cellsContents
  simp only [hm, Bool.false_eq_true, if_false, cellEmptyBy, List.mem_filterMap]
  constructor
  · rintro ⟨c, hc, h⟩
    cases hh : (g.content c).head? with
    | none =>
      rw [hh] at h
      simp at h
    | some b =>
      rw [hh] at h
      by_cases hb : b ∈ fz
      · simp [hb] at h
      · simp [hb] at h
        subst h
        exact ⟨⟨c, hc, hh⟩, hb⟩
  · rintro ⟨⟨c, hc, h⟩, hn⟩
    refine ⟨c, hc, ?_⟩
    rw [h]
    simp [hn]

/-- the `is None` instance of `grid.agents` is the plain flattening -/
theorem agentsBy_eqDefault (fz : Falsy) (g : Grid) : g.agentsBy .eqDefault fz = g.agentsList := by
  unfold Grid.agentsBy Grid.agentsList
  simp only [cellEmptyBy]
  rw [flatMap_filter_nonempty]

/-- the tests the code uses (generated from mesa/space.py): comparison with the empty value, in both places -/
theorem contentsTest_eq : contentsTest = .eqDefault := by decide
theorem agentsTest_eq : agentsTest = .eqDefault := by decide

theorem cellsContentsT_eq (fz : Falsy) (g : Grid) (cells : List Coord) : cellsContentsT fz g cells = cellsContents g cells := by
  unfold cellsContentsT
  rw [contentsTest_eq]
  exact cellsContentsBy_eqDefault fz g cells

theorem hexNeighborsT_eq (fz : Falsy) (g : Grid) (cells : List Coord) : hexNeighborsT fz g cells = hexNeighbors g cells := by
  unfold hexNeighborsT hexNeighbors
  cases g.rawCells cells with
  | error e => rfl
  | ok cs => simp only [cellsContentsT_eq]

theorem agentsListT_eq (g : Grid) (fz : Falsy) : g.agentsListT fz = g.agentsList := by
  unfold Grid.agentsListT
  rw [agentsTest_eq]
  exact agentsBy_eqDefault fz g

theorem runT_eq_runQ (hist : List TQ) : ∀ (g : Grid) (c : NCache) (fz : Falsy), runT g c fz hist = runQ g c (eraseTruth hist) := by
  induction hist with
  | nil =>
    intro g c fz
    rfl
  | cons x rest ih =>
    intro g c fz
    cases x with
    | truth a b =>
      simp only [runT, eraseTruth]
      exact ih g c _
    | q y =>
      cases y with
      | op o =>
        simp only [runT, eraseTruth, runQ]
        exact ih _ c fz
      | nbrs k =>
        simp only [runT, eraseTruth, runQ]
        rw [ih]
        have : cellsContentsT fz g = cellsContents g := funext (cellsContentsT_eq fz g)
        rw [this]

end Mesa.Legacy
