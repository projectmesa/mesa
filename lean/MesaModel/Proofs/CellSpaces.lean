import MesaModel.Proofs.CellSpace
import MesaModel.Proofs.CellSymm
/-!
Helper lemmas for C06: the concrete spaces of the model (grids, Network, Voronoi) are well-formed —
their cell list has no duplicates and connections lead to cells of the space; the default Voronoi capacity
(`roundFloat`); `space.agents` is the chained cell lists, without duplicates.
-/
namespace Mesa.Cells

structure SpaceOK (sp : Space) : Prop where
  closed : ConnClosed sp
  nodup : sp.cells.Nodup

theorem allCoords_nodup (dims : List Nat) : (allCoords dims).Nodup := by
  induction dims with
  | nil => simp [allCoords]
  | cons d ds ih =>
    simp only [allCoords]
    unfold List.Nodup at ih ⊢
    rw [List.pairwise_flatMap]
    refine ⟨fun x _ => ?_, ?_⟩
    · rw [List.pairwise_map]
      exact List.Pairwise.imp (fun h => by simpa using h) ih
    · refine List.Pairwise.imp ?_ (List.nodup_range (n := d))
      intro a b hab x hx y hy
      simp only [List.mem_map] at hx hy
      obtain ⟨_, _, rfl⟩ := hx
      obtain ⟨_, _, rfl⟩ := hy
      intro h
      simp only [List.cons.injEq] at h
      exact hab (by omega)

theorem rangeCoords_nodup (n : Nat) : (rangeCoords n).Nodup := by
  unfold rangeCoords List.Nodup
  rw [List.pairwise_map]
  refine List.Pairwise.imp ?_ (List.nodup_range (n := n))
  intro a b hab h
  simp only [List.cons.injEq, and_true] at h
  exact hab (by omega)

theorem mem_rangeCoords (n : Nat) (c : Cid) : c ∈ rangeCoords n ↔ ∃ i : Nat, i < n ∧ c = [(i : Int)] := by
  simp [rangeCoords, eq_comm]

theorem gridSpace_ok (k : GridKind) (dims : List Nat) (torus : Bool) (cap : Option Nat)
    (hk : k = .hex → dims.length = 2) : SpaceOK (gridSpace k dims torus cap) := by
  refine ⟨?_, allCoords_nodup dims⟩
  intro c hc key c' h
  simp only [gridSpace] at hc h ⊢
  rw [mem_allCoords] at hc ⊢
  exact gridConn_InB k dims torus c hc hk key c' h

theorem netSpace_ok (directed : Bool) (n : Nat) (edges : List (Nat × Nat)) (cap : Option Nat)
    (he : ∀ e ∈ edges, e.1 < n ∧ e.2 < n) : SpaceOK (netSpace directed n edges cap) := by
  refine ⟨?_, rangeCoords_nodup n⟩
  intro c hc key c' h
  simp only [netSpace] at hc h ⊢
  obtain ⟨u, _, rfl⟩ := (mem_rangeCoords n c).mp hc
  obtain ⟨v, _, rfl, hv⟩ := (mem_netConn directed edges u key c').mp h
  rw [mem_rangeCoords]
  refine ⟨v, ?_, rfl⟩
  rcases (mem_netAdj directed edges u v).mp hv with h1 | ⟨_, h1⟩
  · exact (he _ h1).2
  · exact (he _ h1).1

theorem mem_triPairs_lt {t : Nat × Nat × Nat} {n i j : Nat} (ht : t.1 < n ∧ t.2.1 < n ∧ t.2.2 < n)
    (h : (i, j) ∈ triPairs t) : j < n := by
  obtain ⟨a, b, c⟩ := t
  simp only [triPairs, List.mem_cons, Prod.mk.injEq, List.not_mem_nil, or_false] at h
  simp only at ht
  omega

theorem vorSpace_ok (n : Nat) (tris : List (Nat × Nat × Nat)) (cap : Option Nat)
    (ht : ∀ t ∈ tris, t.1 < n ∧ t.2.1 < n ∧ t.2.2 < n) : SpaceOK (vorSpace n tris cap) := by
  refine ⟨?_, rangeCoords_nodup n⟩
  intro c hc key c' h
  simp only [vorSpace] at hc h ⊢
  obtain ⟨i, _, rfl⟩ := (mem_rangeCoords n c).mp hc
  obtain ⟨j, _, rfl, hj⟩ := (mem_vorConn tris i key c').mp h
  rw [mem_rangeCoords]
  obtain ⟨t, htm, hp⟩ := (mem_vorAdj tris i j).mp hj
  exact ⟨j, mem_triPairs_lt (ht t htm) hp, rfl⟩

theorem vorSpaceAreas_ok (n : Nat) (tris : List (Nat × Nat × Nat)) (areas : List (Nat × Nat))
    (ht : ∀ t ∈ tris, t.1 < n ∧ t.2.1 < n ∧ t.2.2 < n) : SpaceOK (vorSpaceAreas n tris areas) :=
  ⟨(vorSpace_ok n tris none ht).closed, rangeCoords_nodup n⟩

/-- `int(area * 500)` on the exact area `num/den`: the integer `k` with `k ≤ 500 · num/den < k + 1` -/
theorem roundFloat_spec (num den : Nat) (hd : 0 < den) :
    roundFloat num den * den ≤ 500 * num ∧ 500 * num < (roundFloat num den + 1) * den := by
  unfold roundFloat
  have h1 := Nat.div_mul_le_self (num * 500) den
  have h2 := Nat.lt_div_mul_add (a := num * 500) hd
  constructor
  · omega
  · rw [Nat.add_mul]
    omega

theorem dictUpdate_of_nodup {α : Type} [DecidableEq α] (acc l : List α) (h : (acc ++ l).Nodup) :
    dictUpdate acc l = acc ++ l := by
  unfold dictUpdate
  induction l generalizing acc with
  | nil => simp
  | cons x l ih =>
    have hx : x ∉ acc := by
      intro hm
      rw [List.nodup_append] at h
      exact h.2.2 x hm x (by simp) rfl
    simp only [List.foldl_cons, dictAdd, if_neg hx]
    rw [ih (acc ++ [x]) (by simpa using h)]
    simp

/-- each list has no duplicates, and an agent listed by two cells would report both -/
theorem flatMap_occ_nodup {sp : Space} {B : Cid → Nat} {s : State} (h : InvB sp B s) {cells : List Cid} (hnd : cells.Nodup) :
    (cells.flatMap s.occ).Nodup := by
  unfold List.Nodup
  rw [List.pairwise_flatMap]
  refine ⟨fun c _ => h.nodup c, List.Pairwise.imp ?_ hnd⟩
  intro c c' hcc x hx y hy hxy
  subst hxy
  exact hcc (Option.some.inj ((h.mem_cell x c hx).symm.trans (h.mem_cell x c' hy)))

theorem spaceAgents_eq {sp : Space} {s : State} (hsp : SpaceOK sp) (h : Inv sp s) :
    spaceAgents sp s = sp.cells.flatMap s.occ := by
  unfold spaceAgents
  rw [dictUpdate_of_nodup [] _ (by simpa using flatMap_occ_nodup h hsp.nodup)]
  simp

end Mesa.Cells
