import MesaModel.Proofs.Signals
/-!
Helper lemmas for the re-entrancy part of C16: handlers that call `observe` / `unobserve` /
`clear_all_subscriptions` while they are being notified (`roundLoop`, `Reg.deliverR`, `stepR`).
-/
namespace Mesa.Signals

theorem Reg.acts_append (r : Reg Nat) (alive : Nat → Bool) (as bs : List Act) :
    r.acts alive (as ++ bs) = (r.acts alive as).acts alive bs := by
  simp [Reg.acts, List.foldl_append]

theorem Reg.acts_nil (r : Reg Nat) (alive : Nat → Bool) : r.acts alive [] = r := rfl

theorem roundLoop_cons_pos (progs : Nat → List Act) {alive : Nat → Bool} {n : Nat} {t : SigType} {g : Nat}
    {r : Reg Nat} (hg : alive g = true ∧ g ∈ r.subs n t) (rest called : List Nat) :
    roundLoop progs alive n t (g :: rest) r called =
      roundLoop progs alive n t rest (r.acts alive (progs g)) (called ++ [g]) := by
  simp [roundLoop, hg]

theorem roundLoop_cons_neg (progs : Nat → List Act) {alive : Nat → Bool} {n : Nat} {t : SigType} {g : Nat}
    {r : Reg Nat} (hg : ¬ (alive g = true ∧ g ∈ r.subs n t)) (rest called : List Nat) :
    roundLoop progs alive n t (g :: rest) r called = roundLoop progs alive n t rest r called := by
  simp only [roundLoop, Bool.and_eq_true, List.contains_iff_mem, hg, if_false]

/-- one round of `_mesa_notify`: who is called (`new`), and what the registry is afterwards -/
theorem roundLoop_spec (progs : Nat → List Act) (alive : Nat → Bool) (n : Nat) (t : SigType) (l : List Nat)
    (r : Reg Nat) (called : List Nat) :
    ∃ new, (roundLoop progs alive n t l r called).2 = called ++ new ∧
      (roundLoop progs alive n t l r called).1 = r.acts alive (new.flatMap progs) ∧
      new.Sublist (l.filter alive) ∧
      ∀ pre h post, new = pre ++ h :: post →
        alive h = true ∧ h ∈ (r.acts alive (pre.flatMap progs)).subs n t := by
  induction l generalizing r called with
  | nil => exact ⟨[], by simp [roundLoop], rfl, by simp, fun pre h post e => by simp at e⟩
  | cons g rest ih =>
    by_cases hg : alive g = true ∧ g ∈ r.subs n t
    · obtain ⟨new, h1, h2, h3, h4⟩ := ih (r.acts alive (progs g)) (called ++ [g])
      rw [roundLoop_cons_pos progs hg]
      refine ⟨g :: new, ?_, ?_, ?_, ?_⟩
      · rw [h1, List.append_assoc]
        rfl
      · rw [h2, List.flatMap_cons, Reg.acts_append]
      · rw [List.filter_cons, if_pos hg.1]
        exact h3.cons_cons g
      · intro pre h post e
        cases pre with
        | nil =>
          cases e
          exact hg
        | cons p pre' =>
          cases e
          rw [List.flatMap_cons, Reg.acts_append]
          exact h4 pre' h post rfl
    · obtain ⟨new, h1, h2, h3, h4⟩ := ih r called
      rw [roundLoop_cons_neg progs hg]
      refine ⟨new, h1, h2, ?_, h4⟩
      rw [List.filter_cons]
      split
      · exact h3.cons g
      · exact h3

theorem roundLoop_passive {progs : Nat → List Act} (hp : ∀ h, progs h = []) (alive : Nat → Bool) (n : Nat) (t : SigType)
    (l : List Nat) (r : Reg Nat) (called : List Nat) :
    roundLoop progs alive n t l r called =
      (r, called ++ l.filter fun h => alive h && (r.subs n t).contains h) := by
  induction l generalizing r called with
  | nil => simp [roundLoop]
  | cons g rest ih =>
    by_cases hg : alive g = true ∧ g ∈ r.subs n t
    · rw [roundLoop_cons_pos progs hg, hp g, Reg.acts_nil, ih, List.filter_cons, if_pos (by simpa using hg),
        List.append_assoc]
      rfl
    · rw [roundLoop_cons_neg progs hg, ih, List.filter_cons, if_neg (by simpa using hg)]

theorem deliverR_passive {progs : Nat → List Act} (hp : ∀ h, progs h = []) (r : Reg Nat) (alive : Nat → Bool)
    (n : Nat) (t : SigType) : r.deliverR progs alive n t = r.deliver alive n t := by
  unfold Reg.deliverR Reg.deliver
  rw [roundLoop_passive hp]
  have : ((r.subs n t).filter fun h => alive h && (r.subs n t).contains h) = (r.subs n t).filter alive := by
    apply List.filter_congr
    intro x hx
    simp [hx]
  simp only [List.nil_append, this]

theorem notifyR_passive {progs : Nat → List Act} (hp : ∀ h, progs h = []) (s : St) (sig : Sig) :
    notifyR progs s sig = notify s sig := by
  unfold notifyR notify
  rw [deliverR_passive hp]

theorem notifyAllR_passive {progs : Nat → List Act} (hp : ∀ h, progs h = []) (s : St) (sigs : List Sig) :
    notifyAllR progs s sigs = notifyAll s sigs := by
  unfold notifyAllR notifyAll
  simp only [notifyR_passive hp]

theorem stepR_list {progs : Nat → List Act} {s : St} {op : Op} {n : Nat} (h : op.listName = some n) :
    stepR progs s op = stepList (notifyAllR progs) s n op := by
  unfold stepR
  -- as in `step_list`: the operations `stepR` names have no `listName`; the catch-all branch remains
  split <;> first | cases h | simp only [h]
  rfl

theorem stepR_passive {progs : Nat → List Act} (hp : ∀ h, progs h = []) (s : St) (op : Op) :
    stepR progs s op = step s op := by
  induction op using Op.listCases with
  | list op n hl => rw [stepR_list hl, step_list hl, funext fun s => funext (notifyAllR_passive hp s)]
  | assign n v => simp only [stepR, step, notifyR_passive hp]
  | lassign n vs => simp only [stepR, step, notifyR_passive hp]
  | _ => rfl

theorem runR_passive {progs : Nat → List Act} (hp : ∀ h, progs h = []) (s : St) (ops : List Op) :
    runR progs s ops = run s ops := by
  induction ops generalizing s with
  | nil => rfl
  | cons op ops ih => simp only [runR, run, stepR_passive hp, ih]

/-! ### a handler nobody unsubscribes during the round is called once per subscription -/

theorem Reg.act_decls {r : Reg Nat} (w : r.WF) (alive : Nat → Bool) (a : Act) : (r.act alive a).decls = r.decls := by
  cases a with
  | observe n t h =>
    simp only [Reg.act]
    by_cases hv : Reg.validObserve r n t
    · rw [Reg.observe_ok w hv]
      rfl
    · rw [Reg.observe_err hv]
  | unobserve n t h =>
    simp only [Reg.act]
    by_cases hv : ∃ a, n = .one a ∧ t = .all ∧ a ∉ r.names
    · rw [Reg.unobserve_err hv]
    · rw [Reg.unobserve_ok w hv]
      rfl
  | clear n => cases n <;> rfl

theorem Reg.act_wf {r : Reg Nat} (w : r.WF) (alive : Nat → Bool) (a : Act) : (r.act alive a).WF :=
  Reg.wf_of_decls (Reg.act_decls w alive a) w

theorem Reg.acts_wf {r : Reg Nat} (w : r.WF) (alive : Nat → Bool) (as : List Act) : (r.acts alive as).WF := by
  induction as generalizing r with
  | nil => exact w
  | cons a as ih => exact ih (Reg.act_wf w alive a)

/-- the call `a` does not take `h` out of the subscriber list of (`n`, `t`), whatever the registry -/
def Act.keeps (alive : Nat → Bool) (a : Act) (h n : Nat) (t : SigType) : Prop :=
  ∀ r : Reg Nat, r.WF → h ∈ r.subs n t → h ∈ (r.act alive a).subs n t

theorem Reg.acts_keeps {alive : Nat → Bool} {h n : Nat} {t : SigType} (as : List Act)
    (hk : ∀ a ∈ as, a.keeps alive h n t) (r : Reg Nat) (w : r.WF) (hm : h ∈ r.subs n t) :
    h ∈ (r.acts alive as).subs n t := by
  induction as generalizing r with
  | nil => exact hm
  | cons a as ih =>
    show h ∈ ((r.act alive a).acts alive as).subs n t
    exact ih (fun b hb => hk b (by simp [hb])) _ (Reg.act_wf w alive a) (hk a (by simp) r w hm)

theorem roundLoop_complete (progs : Nat → List Act) (alive : Nat → Bool) (n : Nat) (t : SigType) (h : Nat)
    (hal : alive h = true) (l : List Nat) (r : Reg Nat) (called : List Nat) (w : r.WF)
    (hk : ∀ g ∈ l, ∀ a ∈ progs g, a.keeps alive h n t) (hm : h ∈ l → h ∈ r.subs n t) :
    (roundLoop progs alive n t l r called).2.count h = called.count h + l.count h := by
  induction l generalizing r called with
  | nil => rfl
  | cons g rest ih =>
    have hk' : ∀ g' ∈ rest, ∀ a ∈ progs g', a.keeps alive h n t := fun g' hg' => hk g' (List.mem_cons_of_mem _ hg')
    by_cases hg : alive g = true ∧ g ∈ r.subs n t
    · rw [roundLoop_cons_pos progs hg, ih _ _ (Reg.acts_wf w alive _) hk'
        fun hr => Reg.acts_keeps _ (hk g List.mem_cons_self) r w (hm (List.mem_cons_of_mem _ hr)),
        List.count_append, List.count_cons, List.count_nil, List.count_cons]
      omega
    · have hgh : g ≠ h := fun e => hg (e ▸ ⟨hal, hm (e ▸ List.mem_cons_self)⟩)
      rw [roundLoop_cons_neg progs hg, ih _ _ w hk' fun hr => hm (List.mem_cons_of_mem _ hr),
        List.count_cons_of_ne hgh]

theorem Act.keeps_observe (alive : Nat → Bool) (a : Sel Nat) (ty : Sel SigType) (g h n : Nat) (t : SigType) :
    (Act.observe a ty g).keeps alive h n t := by
  intro r w hm
  simp only [Reg.act]
  by_cases hv : Reg.validObserve r a ty
  · rw [Reg.observe_ok w hv]
    show h ∈ if _ then _ else _
    split
    · exact List.mem_append_left _ hm
    · exact hm
  · rw [Reg.observe_err hv]
    exact hm

theorem Act.keeps_unobserve_other (alive : Nat → Bool) (a : Sel Nat) (ty : Sel SigType) {g h : Nat} (n : Nat)
    (t : SigType) (hne : h ≠ g) (hal : alive h = true) : (Act.unobserve a ty g).keeps alive h n t := by
  intro r w hm
  simp only [Reg.act]
  by_cases hv : ∃ b, a = .one b ∧ ty = .all ∧ b ∉ r.names
  · rw [Reg.unobserve_err hv]
    exact hm
  · rw [Reg.unobserve_ok w hv]
    show h ∈ if _ then _ else _
    split
    · simp [Reg.keep, hm, hal, hne]
    · exact hm

theorem Act.keeps_clear_other (alive : Nat → Bool) {b : Nat} (h n : Nat) (t : SigType) (hne : n ≠ b) :
    (Act.clear (.one b)).keeps alive h n t := by
  intro r _ hm
  simp [Reg.act, Reg.clearAll, hne, hm]

/-! ### the registry is the history of all registry calls, those made by handlers included -/

def Act.toOp : Act → Op
  | .observe n t h => .observe n t h
  | .unobserve n t h => .unobserve n t h
  | .clear n => .clear n

theorem act_eq_step (s : St) (a : Act) : ({ s with reg := s.reg.act s.alive a } : St) = (step s a.toOp).1 := by
  cases a with
  | observe n t h =>
    simp only [Reg.act, Act.toOp, step]
    cases s.reg.observe n t h <;> rfl
  | unobserve n t h =>
    simp only [Reg.act, Act.toOp, step]
    cases s.reg.unobserve s.alive n t h <;> rfl
  | clear n => rfl

theorem acts_eq_run (s : St) (as : List Act) :
    ({ s with reg := s.reg.acts s.alive as } : St) = (run s (as.map Act.toOp)).1 := by
  induction as generalizing s with
  | nil => rfl
  | cons a as ih =>
    rw [List.map_cons, run_cons]
    show _ = (run (step s a.toOp).1 (as.map Act.toOp)).1
    rw [← act_eq_step, ← ih]
    rfl

/-- the registry calls the handlers reached by `ds` made, in the order they made them -/
def calledOps (progs : Nat → List Act) (ds : List (Nat × Sig)) : List Op :=
  ds.flatMap fun d => (progs d.1).map Act.toOp

theorem calledOps_append (progs : Nat → List Act) (a b : List (Nat × Sig)) :
    calledOps progs (a ++ b) = calledOps progs a ++ calledOps progs b := by
  simp [calledOps]

theorem calledOps_map (progs : Nat → List Act) (sig : Sig) (new : List Nat) :
    calledOps progs (new.map fun h => (h, sig)) = (new.flatMap progs).map Act.toOp := by
  rw [calledOps, List.flatMap_map, List.map_flatMap]

theorem notifyR_follows {r0 : Reg Nat} (w : r0.WF) {s : St} {σ : Table} (hf : Follows r0 s σ)
    (progs : Nat → List Act) (sig : Sig) :
    Follows r0 (notifyR progs s sig).1 ((calledOps progs (notifyR progs s sig).2).foldl (specSubsStep r0) σ) := by
  obtain ⟨new, h1, h2, _, _⟩ := roundLoop_spec progs s.alive sig.name sig.type (s.reg.subs sig.name sig.type) s.reg []
  have hops : calledOps progs (notifyR progs s sig).2 = (new.flatMap progs).map Act.toOp := by
    simp only [notifyR, Reg.deliverR, h1, List.nil_append]
    exact calledOps_map progs sig new
  have e : (notifyR progs s sig).1 = (notify { s with reg := s.reg.acts s.alive (new.flatMap progs) } sig).1 := by
    simp only [notifyR, Reg.deliverR, h2]
    rfl
  rw [hops, e, acts_eq_run]
  obtain ⟨g1, g2⟩ := run_follows w ((new.flatMap progs).map Act.toOp) hf
  obtain ⟨p1, p2⟩ := g2.pruned (notify_spec _ sig).2 rfl rfl
  exact ⟨p1.trans g1, p2⟩

theorem notifyAllR_cons (progs : Nat → List Act) (s : St) (sig : Sig) (sigs : List Sig) :
    notifyAllR progs s (sig :: sigs) =
      ((notifyAllR progs (notifyR progs s sig).1 sigs).1,
       (notifyR progs s sig).2 ++ (notifyAllR progs (notifyR progs s sig).1 sigs).2) :=
  foldl_out (notifyR progs) sigs (notifyR progs s sig).1 (notifyR progs s sig).2

theorem notifyAllR_follows {r0 : Reg Nat} (w : r0.WF) (progs : Nat → List Act) (sigs : List Sig) {s : St}
    {σ : Table} (hf : Follows r0 s σ) :
    Follows r0 (notifyAllR progs s sigs).1
      ((calledOps progs (notifyAllR progs s sigs).2).foldl (specSubsStep r0) σ) := by
  induction sigs generalizing s σ with
  | nil => exact hf
  | cons sig sigs ih =>
    rw [notifyAllR_cons, calledOps_append, List.foldl_append]
    exact ih (notifyR_follows w hf progs sig)

/-- the registry calls made by the handlers an operation reached -/
def outOps (progs : Nat → List Act) : Out → List Op
  | .ok ds => calledOps progs ds
  | .err _ => []

theorem outOps_step_nil (progs : Nat → List Act) {s : St} {op : Op} (h : emitted s op = []) :
    outOps progs (step s op).2 = [] := by
  rcases step_out s op with h' | ⟨e, h', _⟩
  · rw [h', h]
    rfl
  · rw [h']
    rfl

theorem stepR_follows {r0 : Reg Nat} (w : r0.WF) {s : St} {σ : Table} (hf : Follows r0 s σ)
    (progs : Nat → List Act) (op : Op) :
    Follows r0 (stepR progs s op).1
      ((outOps progs (stepR progs s op).2).foldl (specSubsStep r0) (specSubsStep r0 σ op)) := by
  have quiet : ∀ op', emitted s op' = [] →
      Follows r0 (step s op').1 ((outOps progs (step s op').2).foldl (specSubsStep r0) (specSubsStep r0 σ op')) := by
    intro op' hem
    rw [outOps_step_nil progs hem]
    exact step_follows w hf op'
  induction op using Op.listCases with
  | observe n t h => exact quiet _ rfl
  | unobserve n t h => exact quiet _ rfl
  | clear n => exact quiet _ rfl
  | drop x => exact quiet _ rfl
  | assign n v => exact notifyR_follows w hf progs _
  | lassign n vs => exact notifyR_follows w hf progs _
  | list op n hl =>
    rw [stepR_list hl, specSubsStep_list hl]
    unfold stepList
    cases s.lists n with
    | none => exact hf
    | some d =>
      dsimp only
      cases listOp n d op with
      | error e => exact hf
      | ok res => exact notifyAllR_follows w progs res.2 hf

/-- the history as the registry saw it: each operation, followed by the registry calls of the handlers it reached -/
def flatOps (progs : Nat → List Act) : List Op → List Out → List Op
  | op :: ops, o :: os => op :: (outOps progs o ++ flatOps progs ops os)
  | _, _ => []

theorem runR_cons (progs : Nat → List Act) (s : St) (op : Op) (ops : List Op) :
    runR progs s (op :: ops) =
      ((runR progs (stepR progs s op).1 ops).1, (stepR progs s op).2 :: (runR progs (stepR progs s op).1 ops).2) := rfl

theorem runR_follows {r0 : Reg Nat} (w : r0.WF) (progs : Nat → List Act) (ops : List Op) {s : St} {σ : Table}
    (hf : Follows r0 s σ) :
    Follows r0 (runR progs s ops).1 ((flatOps progs ops (runR progs s ops).2).foldl (specSubsStep r0) σ) := by
  induction ops generalizing s σ with
  | nil => exact hf
  | cons op ops ih =>
    rw [runR_cons]
    simp only [flatOps, List.foldl_cons, List.foldl_append]
    exact ih (stepR_follows w hf progs op)

end Mesa.Signals
