import MesaModel.Model.Copy
import MesaModel.Proofs.CopyBase
import MesaModel.Proofs.ListOps
/-! Invariant `Good` of the identity-level copy model (C19), in which `Props/C19.lean` states its theorems: in every reachable
world every cell of every space is an instance of its space's own class, the descriptors on that class are exactly the
space's own layers, and different spaces share neither a class nor a layer object. -/
namespace Mesa.Copy

theorem lookup_iff_mem {l : List (String × Nat)} (h : (l.map (·.1)).Nodup) (n : String) (v : Nat) :
    l.lookup n = some v ↔ (n, v) ∈ l :=
  ⟨mem_of_lookup, lookup_of_mem_nodup h⟩

theorem freshLayers_eq (names : List String) (n : Nat) : freshLayers names n = names.zipIdx n := by
  induction names generalizing n with
  | nil => rfl
  | cons x xs ih => rw [freshLayers, ih, List.zipIdx_cons]

theorem freshLayers_names (names : List String) (n : Nat) : (freshLayers names n).map (·.1) = names := by
  rw [freshLayers_eq]
  exact List.zipIdx_map_fst n names

theorem freshLayers_range (names : List String) (n : Nat) :
    ∀ p ∈ freshLayers names n, n ≤ p.2 ∧ p.2 < n + names.length := fun p hp => by
  rw [freshLayers_eq] at hp
  exact ⟨List.le_snd_of_mem_zipIdx hp, List.snd_lt_add_of_mem_zipIdx hp⟩

structure SpaceOK (w : World) (sp : SpaceObj) : Prop where
  klass_lt : sp.cellKlass < w.nextClass
  cells_klass : ∀ c ∈ sp.cells, c.klass = sp.cellKlass
  descr_iff : ∀ n l, w.descr sp.cellKlass n = some l ↔ (n, l) ∈ sp.layers
  layer_lt : ∀ p ∈ sp.layers, p.2 < w.nextLayer
  names_nodup : (sp.layers.map (·.1)).Nodup

structure Good (w : World) : Prop where
  ok : ∀ sid sp, w.spaces sid = some sp → SpaceOK w sp
  apart : ∀ i j si sj, i ≠ j → w.spaces i = some si → w.spaces j = some sj →
    si.cellKlass ≠ sj.cellKlass ∧ ∀ p ∈ si.layers, ∀ q ∈ sj.layers, p.2 ≠ q.2

theorem good_empty : Good World.empty :=
  ⟨fun _ _ h => by simp [World.empty] at h, fun _ _ _ _ _ h => by simp [World.empty] at h⟩

theorem Good.resolve_iff {w : World} (g : Good w) {sid : Nat} {sp : SpaceObj} (h : w.spaces sid = some sp)
    {c : CellObj} (hc : c ∈ sp.cells) (n : String) (l : Nat) : resolve w c n = some l ↔ (n, l) ∈ sp.layers := by
  have o := g.ok sid sp h
  unfold resolve
  rw [o.cells_klass c hc]
  exact o.descr_iff n l

theorem set_eq_some {f : Nat → Option SpaceObj} {s i : Nat} {a b : SpaceObj}
    (h : (if i = s then some a else f i) = some b) : i = s ∧ a = b ∨ ¬ i = s ∧ f i = some b :=
  (ite_some_cases h).imp (fun h => ⟨h.1, h.2.symm⟩) id

/-- every operation puts one space `sp'` at one index `s`; `apart` is symmetric, so it is enough that `sp'` is apart from the
    others -/
theorem good_setSpace {w : World} (g : Good w) {s nc nl ns : Nat} {sp' : SpaceObj} {d' : Nat → String → Option Nat}
    (hnc : w.nextClass ≤ nc) (hnl : w.nextLayer ≤ nl) (hd' : ∀ k, k ≠ sp'.cellKlass → d' k = w.descr k)
    (hap : ∀ j sj, j ≠ s → w.spaces j = some sj →
      sp'.cellKlass ≠ sj.cellKlass ∧ ∀ p ∈ sp'.layers, ∀ q ∈ sj.layers, p.2 ≠ q.2)
    (ok' : SpaceOK ⟨nc, nl, ns, d', fun i => if i = s then some sp' else w.spaces i⟩ sp') :
    Good ⟨nc, nl, ns, d', fun i => if i = s then some sp' else w.spaces i⟩ := by
  refine ⟨fun i si hi => ?_, fun i j si sj hij hi hj => ?_⟩
  · rcases set_eq_some hi with ⟨_, rfl⟩ | ⟨his, hi⟩
    · exact ok'
    · have o := g.ok i si hi
      refine ⟨Nat.lt_of_lt_of_le o.klass_lt hnc, o.cells_klass, fun n l => ?_,
        fun p hp => Nat.lt_of_lt_of_le (o.layer_lt p hp) hnl, o.names_nodup⟩
      show d' si.cellKlass n = some l ↔ _
      rw [hd' _ (hap i si his hi).1.symm]
      exact o.descr_iff n l
  · rcases set_eq_some hi with ⟨rfl, rfl⟩ | ⟨his, hi⟩
    · rcases set_eq_some hj with ⟨rfl, _⟩ | ⟨hjs, hj⟩
      · exact absurd rfl hij
      · exact hap j sj hjs hj
    · rcases set_eq_some hj with ⟨_, rfl⟩ | ⟨hjs, hj⟩
      · have a := hap i si his hi
        exact ⟨a.1.symm, fun p hp q hq => (a.2 q hq p hp).symm⟩
      · exact g.apart i j si sj hij hi hj

/-- the world after adding a whole new space (a new grid or a copy) whose class and layer objects are fresh -/
def addSpaceWorld (w : World) (names : List String) (cells : List CellObj) (dk dl : Nat) : World :=
  { nextClass := w.nextClass + dk, nextLayer := w.nextLayer + dl, nextSpace := w.nextSpace + 1,
    descr := installAll w.descr w.nextClass (freshLayers names w.nextLayer),
    spaces := fun i => if i = w.nextSpace then
      some { cellKlass := w.nextClass, cells := cells, layers := freshLayers names w.nextLayer } else w.spaces i }

theorem good_addSpace {w : World} (g : Good w) (names : List String) (hn : names.Nodup) (cells : List CellObj)
    (hc : ∀ c ∈ cells, c.klass = w.nextClass) (dk dl : Nat) (hdk : 0 < dk) (hdl : names.length ≤ dl) :
    Good (addSpaceWorld w names cells dk dl) := by
  have hnd : ((freshLayers names w.nextLayer).map (·.1)).Nodup := (freshLayers_names names _).symm ▸ hn
  have hr := freshLayers_range names w.nextLayer
  refine good_setSpace g (Nat.le_add_right _ dk) (Nat.le_add_right _ dl) (fun k hk => funext fun n => if_neg hk)
    (fun j sj _ hj => ?_) ⟨Nat.lt_add_of_pos_right hdk, hc, fun n l => ?_, fun p hp => ?_, hnd⟩
  · have o := g.ok j sj hj
    exact ⟨Nat.ne_of_gt o.klass_lt, fun p hp q hq =>
      Nat.ne_of_gt (Nat.lt_of_lt_of_le (o.layer_lt q hq) (hr p hp).1)⟩
  · simp only [installAll, if_true]
    exact lookup_iff_mem hnd n l
  · exact Nat.lt_of_lt_of_le (hr p hp).2 (Nat.add_le_add_left hdl _)

-- `newGrid w coords` unfolds to `addSpaceWorld w ["empty"] (coords.map (⟨·, w.nextClass⟩)) 1 1`
theorem good_newGrid {w : World} (g : Good w) (coords : List (List Int)) : Good (newGrid w coords) :=
  good_addSpace g ["empty"] (by simp) (coords.map (⟨·, w.nextClass⟩)) (List.forall_mem_map.mpr fun _ _ => rfl) 1 1
    Nat.one_pos (Nat.le_refl 1)

theorem copySpace_ok {w w' : World} {sid : Nat} (h : copySpace w sid = .ok w') :
    ∃ sp, w.spaces sid = some sp ∧ w' = addSpaceWorld w (sp.layers.map (·.1))
      (sp.cells.map fun c => { c with klass := w.nextClass }) (max 1 sp.cells.length) sp.layers.length := by
  unfold copySpace at h
  split at h
  · cases h
  · rename_i sp hsp
    cases h
    exact ⟨sp, hsp, rfl⟩

theorem copySpace_new {w w' : World} {sid : Nat} {sp : SpaceObj} (hs : w.spaces sid = some sp)
    (h : copySpace w sid = .ok w') : w'.spaces w.nextSpace = some (copiedSpace w sp) := by
  obtain ⟨_, hs', rfl⟩ := copySpace_ok h
  cases hs.symm.trans hs'
  exact if_pos rfl

theorem good_copySpace {w w' : World} (g : Good w) {sid : Nat} (h : copySpace w sid = .ok w') : Good w' := by
  obtain ⟨sp, hsp, rfl⟩ := copySpace_ok h
  exact good_addSpace g _ (g.ok sid sp hsp).names_nodup _ (List.forall_mem_map.mpr fun _ _ => rfl) _ _
    (Nat.lt_of_lt_of_le Nat.one_pos (Nat.le_max_left ..)) (Nat.le_of_eq (List.length_map _))

theorem good_editLayers {w : World} (g : Good w) {sid : Nat} {sp : SpaceObj} (hsp : w.spaces sid = some sp)
    {L : List (String × Nat)} {d' : Nat → String → Option Nat} {nl : Nat}
    (hd : ∀ n l, d' sp.cellKlass n = some l ↔ (n, l) ∈ L) (hd' : ∀ k, k ≠ sp.cellKlass → d' k = w.descr k)
    (hL : ∀ p ∈ L, p ∈ sp.layers ∨ w.nextLayer ≤ p.2 ∧ p.2 < nl) (hnl : w.nextLayer ≤ nl)
    (hnd : (L.map (·.1)).Nodup) :
    Good { w with nextLayer := nl, descr := d',
                  spaces := fun i => if i = sid then some { sp with layers := L } else w.spaces i } := by
  have o := g.ok sid sp hsp
  refine good_setSpace g (Nat.le_refl _) hnl hd' (fun j sj hj hsj => ?_)
    ⟨o.klass_lt, o.cells_klass, hd, fun p hp => ?_, hnd⟩
  · have a := g.apart sid j sp sj (Ne.symm hj) hsp hsj
    refine ⟨a.1, fun p hp q hq => ?_⟩
    rcases hL p hp with h | h
    · exact a.2 p h q hq
    · exact Nat.ne_of_gt (Nat.lt_of_lt_of_le ((g.ok j sj hsj).layer_lt q hq) h.1)
  · rcases hL p hp with h | h
    · exact Nat.lt_of_lt_of_le (o.layer_lt p h) hnl
    · exact h.2

theorem good_addLayer {w w' : World} (g : Good w) {sid : Nat} {name : String}
    (h : addLayer w sid name = .ok w') : Good w' := by
  unfold addLayer at h
  split at h
  · cases h
  · rename_i sp hsp
    by_cases hfree : (sp.layers.lookup name).isSome
    · rw [if_pos hfree] at h
      cases h
    · rw [if_neg hfree] at h
      cases h
      have o := g.ok sid sp hsp
      have hname : ∀ p ∈ sp.layers, p.1 ≠ name := fun p hp e =>
        hfree (List.lookup_isSome_iff.mpr ⟨p, hp, beq_iff_eq.mpr e.symm⟩)
      have hnot : ∀ l, (name, l) ∉ sp.layers := fun l hm => hname _ hm rfl
      refine good_editLayers g hsp (fun n l => ?_) (fun k hk => funext fun n => if_neg fun h => hk h.1)
        (fun p hp => ?_) (Nat.le_succ _) ?_
      · by_cases hn : n = name
        · subst hn
          simp [hnot l, eq_comm]
        · simp [hn, o.descr_iff]
      · rcases List.mem_append.mp hp with hp | hp
        · exact .inl hp
        · cases List.mem_singleton.mp hp
          exact .inr ⟨Nat.le_refl _, Nat.lt_succ_self _⟩
      · rw [List.map_append]
        refine List.nodup_append.mpr ⟨o.names_nodup, by simp, fun a ha b hb hab => ?_⟩
        obtain ⟨p, hp, rfl⟩ := List.mem_map.mp ha
        cases List.mem_singleton.mp hb
        exact hname p hp hab

theorem good_removeLayer {w w' : World} (g : Good w) {sid : Nat} {name : String}
    (h : removeLayer w sid name = .ok w') : Good w' := by
  unfold removeLayer at h
  split at h
  · cases h
  · rename_i sp hsp
    by_cases hl : (sp.layers.lookup name).isNone
    · rw [if_pos hl] at h
      cases h
    · rw [if_neg hl] at h
      cases h
      refine good_editLayers g hsp (fun n l => ?_) (fun k hk => funext fun n => if_neg fun h => hk h.1)
        (fun p hp => Or.inl (List.mem_filter.mp hp).1) (Nat.le_refl _)
        ((List.filter_sublist.map _).nodup (g.ok sid sp hsp).names_nodup)
      by_cases hn : n = name
      · subst hn
        simp
      · simp [hn, (g.ok sid sp hsp).descr_iff]

theorem good_orKeep {w : World} (g : Good w) : ∀ {r : Except Err World}, (∀ w', r = .ok w' → Good w') →
    Good (match r with | .ok w' => w' | .error _ => w)
  | .ok w', h => h w' rfl
  | .error _, _ => g

theorem good_step {w : World} (g : Good w) (op : Op) : Good (step w op) := by
  cases op with
  | newGrid cs => exact good_newGrid g cs
  | addLayer sid n => exact good_orKeep g fun _ => good_addLayer g
  | removeLayer sid n => exact good_orKeep g fun _ => good_removeLayer g
  | copy sid => exact good_orKeep g fun _ => good_copySpace g

theorem good_foldl {w : World} (g : Good w) (ops : List Op) : Good (ops.foldl step w) := by
  induction ops generalizing w with
  | nil => exact g
  | cons op ops ih => exact ih (good_step g op)

theorem good_run (ops : List Op) : Good (run ops) := good_foldl good_empty ops

end Mesa.Copy
