import MesaModel.Model.VizFrame
/-!
Helper lemmas for the axis limits (`Model/VizFrame.lean`).
-/
namespace Mesa.Viz

theorem frameOf_orthogonal {sp : Space} (hf : sp.fam.isOrthogonal = true) :
    frameOf sp = some ⟨2, -1, 2 * sp.w - 1, -1, 2 * sp.h - 1⟩ ∧ sp.fam.isHex = false := by
  unfold frameOf
  revert hf
  -- here and below: for the classes the hypothesis names both sides compute to the same (`rfl`); for the other classes it is false
  cases sp.fam <;> intro hf <;> first | exact ⟨rfl, rfl⟩ | exact absurd hf (by decide)

theorem frameOf_hex {sp : Space} (hf : sp.fam.isHex = true) :
    frameOf sp = some ⟨1, -2, 2 * sp.w + (sp.h % 2 : Nat) + 1, -4, 3 * sp.h + 2⟩ := by
  unfold frameOf
  revert hf
  cases sp.fam <;> intro hf <;> first | rfl | exact absurd hf (by decide)

theorem frameOf_continuous {sp : Space} (hf : sp.fam.cellular = false) :
    frameOf sp = some ⟨20, -(sp.w : Int), 21 * sp.w, -(sp.h : Int), 21 * sp.h⟩ ∧ sp.fam.isHex = false := by
  unfold frameOf
  revert hf
  cases sp.fam <;> intro hf <;> first | exact ⟨rfl, rfl⟩ | exact absurd hf (by decide)

end Mesa.Viz
