import MesaModel.Model.LegacySetOrder
import MesaModel.Proofs.LegacyDraws
import MesaModel.Proofs.LegacyHex
/-! The iteration order of a Python set never reaches an observable of the legacy grids (C01-legacy). -/
namespace Mesa.Legacy

open Grid

theorem mem_sortedOf (l : List Coord) (x : Coord) : x ∈ sortedOf l ↔ x ∈ l := by
  induction l with
  | nil => simp [sortedOf]
  | cons p l ih =>
    have : sortedOf (p :: l) = sadd p (sortedOf l) := rfl
    rw [this, mem_sadd, ih, List.mem_cons]

theorem sorted_sortedOf (l : List Coord) : SortedSet (sortedOf l) := by
  induction l with
  | nil => exact List.Pairwise.nil
  | cons p l ih => exact sorted_sadd p _ ih

theorem sortedOf_congr (l l' : List Coord) (h : ∀ x, x ∈ l ↔ x ∈ l') : sortedOf l = sortedOf l' :=
  SortedSet.ext (sorted_sortedOf l) (sorted_sortedOf l') (fun c => by rw [mem_sortedOf, mem_sortedOf, h c])

theorem sortedOf_perm (l l' : List Coord) (h : l.Perm l') : sortedOf l = sortedOf l' :=
  sortedOf_congr l l' (fun _ => h.mem_iff)

theorem sortedOf_of_sorted (l : List Coord) (h : SortedSet l) : sortedOf l = l :=
  SortedSet.ext (sorted_sortedOf l) h (mem_sortedOf l)

theorem sortedOf_perm_self (l : List Coord) (hnd : l.Nodup) : (sortedOf l).Perm l :=
  (List.perm_ext_iff_of_nodup (sorted_sortedOf l).nodup hnd).mpr (mem_sortedOf l)

theorem pickLoopS_fst (g : Grid) (s : Script) : (g.pickLoopS s).map (·.1) = g.pickLoop s := by
  induction s using pickLoop.induct g with
  | case1 x y rest p hp =>
    rw [pickLoopS, pickLoop, if_pos hp, if_pos hp]
    rfl
  | case2 x y rest p hp ih =>
    rw [pickLoopS, pickLoop, if_neg hp, if_neg hp]
    exact ih
  | case3 s hs =>
    match s, hs with
    | [], _ => rfl
    | [_], _ => rfl
    | x :: y :: rest, hs => exact absurd rfl (hs x y rest)

theorem choice_fst {α : Type} (l : List α) (s : Script) :
    (choice l s).map (·.1) = match below s l.length with
      | none => none
      | some (i, _) => l[i]? := by
  unfold choice
  cases below s l.length with
  | none => rfl
  | some r =>
    obtain ⟨i, s'⟩ := r
    simp only []
    cases l[i]? <;> rfl

/-! ### hex neighbourhoods: any representation of `coordinates` -/

/-- whatever order the set `coordinates` keeps its members in, the neighbourhood returned is the model's -/
theorem hexComputeW_eq (ins : Coord → List Coord → List Coord) (hins : SetIns ins) (d : Dim) (pos : Coord) (ic : Bool) (r : Nat) :
    hexComputeW ins d pos ic r = hexCompute d pos ic r := by
  refine SortedSet.ext (sorted_sortedOf _) (hex_spec d pos ic r).1 (fun c => ?_)
  have hm : c ≠ pos → (c ∈ hexLevelsW ins d r [pos] [] ↔ Reach (hexNbrs d) r pos c) := fun hc => by
    have := mem_hexLevels hins d pos r 0 [pos] [] (HexInv.init d pos) c hc
    rwa [Nat.zero_add] at this
  rw [(hex_spec d pos ic r).2 c, hexComputeW, mem_sortedOf]
  by_cases e : c = pos
  · subst e
    cases ic <;> simp [hins c _ c]
  · cases ic <;> simp [hins pos _ c, e, hm e]

end Mesa.Legacy
