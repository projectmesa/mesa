import MesaModel.Proofs.CellNbhd
/-!
Helper lemmas for C07 / C06: connections edited after construction (`Cell.connect`, `Cell.disconnect`) —
the edit touches one cell's dict only, and the memo tables stay transparent when every edit drops them
(`Cell._forget_neighborhoods`, repair SC2).
-/
namespace Mesa.Cells

section Generic
variable {α : Type} [DecidableEq α]

theorem connectConn_same {κ : Type} [DecidableEq κ] (conn : α → List (κ × α)) (c other : α) (key : κ) :
    connectConn conn c other key c = dictSet (conn c) key other := if_pos rfl

theorem connectConn_other {κ : Type} [DecidableEq κ] (conn : α → List (κ × α)) (c other : α) (key : κ) {x : α}
    (h : x ≠ c) : connectConn conn c other key x = conn x := if_neg h

theorem disconnectConn_same {κ : Type} (conn : α → List (κ × α)) (c other : α) :
    disconnectConn conn c other c = dictDropValue (conn c) other := if_pos rfl

theorem disconnectConn_other {κ : Type} (conn : α → List (κ × α)) (c other : α) {x : α} (h : x ≠ c) :
    disconnectConn conn c other x = conn x := if_neg h

/-- `c.connections.values()` -/
def nbOfConn {κ : Type} (conn : α → List (κ × α)) (c : α) : List α := (conn c).map (·.2)

/-- After `_forget_neighborhoods` of cell `c` the memo tables are sound for any connection structure that
    differs from the old one at most at `c`. -/
theorem cachesOK_forget {nb nb' : α → List α} {cs : Caches α} (h : CachesOK nb cs) (c : α)
    (hsame : ∀ x, x ≠ c → nb' x = nb x) : CachesOK nb' (cs.forget c) := by
  refine ⟨memoOK_nil nb', memoOK_nil nb', ?_⟩
  intro x v hv
  simp only [Caches.forget] at hv
  rw [assocGet_filter (fun k => decide (k ≠ c))] at hv
  split at hv
  · rename_i hx
    rw [h.2.2 x v hv, nbhd_succ, nbhd_succ, nbhdU_zero, nbhdU_zero, hsame x (of_decide_eq_true hx)]
  · cases hv

/-- what a program does to the neighbourhood machinery: ask, or edit the connections of one cell -/
inductive Act (α κ : Type) where
  | ask (q : Query α)
  | connect (c other : α) (key : κ)     -- `c.connect(other, key)`
  | disconnect (c other : α)            -- `c.disconnect(other)`

/-- the answers the code gives to the `ask`s of a history, memo tables threaded through, every edit followed
    by `_forget_neighborhoods` -/
def runActs {κ : Type} [DecidableEq κ] (conn : α → List (κ × α)) (cs : Caches α) : List (Act α κ) → List (List α)
  | [] => []
  | .ask q :: rest => (q.run (nbOfConn conn) cs).1 :: runActs conn (q.run (nbOfConn conn) cs).2 rest
  | .connect c o k :: rest => runActs (connectConn conn c o k) (cs.forget c) rest
  | .disconnect c o :: rest => runActs (disconnectConn conn c o) (cs.forget c) rest

/-- the specification: each `ask` is answered by the uncached function on the connections as they are then -/
def specActs {κ : Type} [DecidableEq κ] (conn : α → List (κ × α)) : List (Act α κ) → List (List α)
  | [] => []
  | .ask q :: rest => q.answer (nbOfConn conn) :: specActs conn rest
  | .connect c o k :: rest => specActs (connectConn conn c o k) rest
  | .disconnect c o :: rest => specActs (disconnectConn conn c o) rest

theorem runActs_spec {κ : Type} [DecidableEq κ] (conn : α → List (κ × α)) (cs : Caches α)
    (h : CachesOK (nbOfConn conn) cs) (acts : List (Act α κ)) : runActs conn cs acts = specActs conn acts := by
  induction acts generalizing conn cs with
  | nil => rfl
  | cons a rest ih =>
    cases a with
    | ask q =>
      have hq := q.run_spec (nbOfConn conn) cs h
      simp only [runActs, specActs]
      rw [hq.1, ih _ _ hq.2]
    | connect c o k =>
      simp only [runActs, specActs]
      exact ih _ _ (cachesOK_forget h c fun x hx => congrArg (List.map Prod.snd) (connectConn_other conn c o k hx))
    | disconnect c o =>
      simp only [runActs, specActs]
      exact ih _ _ (cachesOK_forget h c fun x hx => congrArg (List.map Prod.snd) (disconnectConn_other conn c o hx))

end Generic
end Mesa.Cells
