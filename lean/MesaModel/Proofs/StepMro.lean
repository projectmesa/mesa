import MesaModel.Model.StepMro
import MesaModel.Proofs.StepCounter
/-! Helper lemmas about the C3 linearisation of `Model/StepMro.lean` (property C05, multiple inheritance). -/
namespace Mesa.Steps

theorem c3Pick_spec {seqs : List (List Nat)} {h : Nat} (hp : c3Pick seqs = some h) :
    (∃ s ∈ seqs, s.head? = some h) ∧ ∀ s ∈ seqs, h ∉ s.tail := by
  unfold c3Pick at hp
  have hmem := List.mem_of_find?_eq_some hp
  have hprop := List.find?_some hp
  refine ⟨?_, ?_⟩
  · obtain ⟨s, hs, hh⟩ := List.mem_filterMap.mp hmem
    exact ⟨s, hs, hh⟩
  · intro s hs hin
    have := (List.all_eq_true.mp hprop) s hs
    simp [hin] at this

/-- what one round makes of a sequence: a head `h` is taken off -/
def c3Drop (h : Nat) (s : List Nat) : List Nat := if s.head? = some h then s.tail else s

theorem mem_c3Remove {h : Nat} {seqs : List (List Nat)} {t : List Nat} :
    t ∈ c3Remove h seqs ↔ t ≠ [] ∧ ∃ s ∈ seqs, t = c3Drop h s := by
  unfold c3Remove
  simp only [List.mem_filter, List.mem_map, Bool.not_eq_eq_eq_not, Bool.not_true, List.isEmpty_eq_false_iff]
  constructor
  · rintro ⟨⟨s, hs, rfl⟩, hne⟩
    exact ⟨hne, s, hs, rfl⟩
  · rintro ⟨hne, s, hs, rfl⟩
    exact ⟨⟨s, hs, rfl⟩, hne⟩

/-- either `h` was the head, or nothing is taken off and `h` can only occur in the tail -/
theorem c3Drop_cases (h : Nat) (s : List Nat) :
    s = h :: c3Drop h s ∨ (c3Drop h s = s ∧ (h ∈ s → h ∈ s.tail)) := by
  unfold c3Drop
  split
  · obtain ⟨tl, rfl⟩ := List.head?_eq_some_iff.mp ‹_›
    exact Or.inl rfl
  · refine Or.inr ⟨rfl, fun hmem => ?_⟩
    cases s with
    | nil => cases hmem
    | cons a tl =>
      rcases List.mem_cons.mp hmem with rfl | hmem
      · exact absurd rfl ‹¬ _›
      · exact hmem

theorem c3Merge_spec (f : Nat) (seqs : List (List Nat)) (out : List Nat) (hm : c3Merge f seqs = some out) :
    (∀ x, x ∈ out ↔ ∃ s ∈ seqs, x ∈ s) ∧ out.Nodup ∧ ∀ s ∈ seqs, s.Sublist out := by
  induction f generalizing seqs out with
  | zero =>
    cases seqs with
    | nil =>
      cases hm
      simp
    | cons s rest => simp [c3Merge] at hm
  | succ f ih =>
    cases seqs with
    | nil =>
      cases hm
      simp
    | cons s0 rest =>
      simp only [c3Merge] at hm
      cases hp : c3Pick (s0 :: rest) with
      | none => simp [hp] at hm
      | some h =>
        simp only [hp] at hm
        obtain ⟨out', hr, rfl⟩ := Option.map_eq_some_iff.mp hm
        obtain ⟨ha, hb, hc⟩ := ih _ _ hr
        obtain ⟨⟨sh, hsh, hhead⟩, htail⟩ := c3Pick_spec hp
        -- what the next round says about its sequences, said of `c3Drop h s` for every `s` of this round
        have hin : ∀ s ∈ s0 :: rest, ∀ x ∈ c3Drop h s, x ∈ out' := fun s hs x hx =>
          (ha x).mpr ⟨_, mem_c3Remove.mpr ⟨List.ne_nil_of_mem hx, s, hs, rfl⟩, hx⟩
        have hout : ∀ x ∈ out', ∃ s ∈ s0 :: rest, x ∈ c3Drop h s := fun x hx => by
          obtain ⟨t, ht, hxt⟩ := (ha x).mp hx
          obtain ⟨_, s, hs, rfl⟩ := mem_c3Remove.mp ht
          exact ⟨s, hs, hxt⟩
        refine ⟨fun x => ⟨?_, ?_⟩, List.nodup_cons.mpr ⟨fun hmem => ?_, hb⟩, fun s hs => ?_⟩
        · intro hx
          rcases List.mem_cons.mp hx with rfl | hx
          · exact ⟨sh, hsh, List.mem_of_mem_head? hhead⟩
          · obtain ⟨s, hs, hxs⟩ := hout x hx
            refine ⟨s, hs, ?_⟩
            rcases c3Drop_cases h s with e | ⟨e, _⟩
            · rw [e]
              exact List.mem_cons_of_mem _ hxs
            · exact e ▸ hxs
        · rintro ⟨s, hs, hx⟩
          rcases c3Drop_cases h s with e | ⟨e, _⟩
          · rw [e] at hx
            exact List.mem_cons.mpr ((List.mem_cons.mp hx).imp id (hin s hs x))
          · exact List.mem_cons_of_mem _ (hin s hs x (e.symm ▸ hx))
        · -- `h` is in no tail, so it is in no sequence of the next round
          obtain ⟨s, hs, hxs⟩ := hout h hmem
          rcases c3Drop_cases h s with e | ⟨e, ht⟩
          · have ht : s.tail = c3Drop h s := congrArg List.tail e
            exact htail s hs (ht ▸ hxs)
          · exact htail s hs (ht (e ▸ hxs))
        · have hsub : (c3Drop h s).Sublist out' := by
            by_cases hnil : c3Drop h s = []
            · exact hnil ▸ List.nil_sublist _
            · exact hc _ (mem_c3Remove.mpr ⟨hnil, s, hs, rfl⟩)
          rcases c3Drop_cases h s with e | ⟨e, _⟩
          · rw [e]
            exact hsub.cons_cons h
          · exact (e ▸ hsub).cons h

/-- empty sequences play no part in the merge -/
theorem c3Merge_spec_filter (f : Nat) (seqs : List (List Nat)) (out : List Nat)
    (hm : c3Merge f (seqs.filter fun s => !s.isEmpty) = some out) :
    (∀ x, x ∈ out ↔ ∃ s ∈ seqs, x ∈ s) ∧ out.Nodup ∧ ∀ s ∈ seqs, s.Sublist out := by
  obtain ⟨ha, hb, hc⟩ := c3Merge_spec _ _ _ hm
  have hmem : ∀ s ∈ seqs, s ≠ [] → s ∈ seqs.filter fun s => !s.isEmpty :=
    fun s hs hne => List.mem_filter.mpr ⟨hs, by simpa using hne⟩
  refine ⟨fun x => (ha x).trans ⟨fun ⟨s, hs, hx⟩ => ⟨s, (List.mem_filter.mp hs).1, hx⟩,
    fun ⟨s, hs, hx⟩ => ⟨s, hmem s hs (List.ne_nil_of_mem hx), hx⟩⟩, hb, fun s hs => ?_⟩
  by_cases hnil : s = []
  · exact hnil ▸ List.nil_sublist _
  · exact hc s (hmem s hs hnil)

theorem c3Merge_single (s : List Nat) (hn : s.Nodup) (f : Nat) (hf : s.length ≤ f) (hne : s ≠ []) :
    c3Merge f [s] = some s := by
  induction s generalizing f with
  | nil => exact absurd rfl hne
  | cons a tl ih =>
    cases f with
    | zero => simp at hf
    | succ f =>
      have hnd := List.nodup_cons.mp hn
      have hp : c3Pick [a :: tl] = some a := by
        simp [c3Pick, hnd.1]
      simp only [c3Merge, hp]
      by_cases htl : tl = []
      · subst htl
        simp [c3Remove, c3Merge]
      · have hr : c3Remove a [a :: tl] = [tl] := by simp [c3Remove, htl]
        rw [hr, ih hnd.2 f (by simpa using hf) htl]
        rfl

/-! ### the class table -/

/-- every recorded MRO starts with its own class, mentions only classes defined no later, nobody twice -/
def TInv (T : Table) : Prop :=
  ∀ (k : Nat) (m : List Nat), T[k]? = some m → m.head? = some k ∧ (∀ x ∈ m, x ≤ k) ∧ m.Nodup

theorem TInv_init : TInv Table.init := by
  intro k m h
  cases k with
  | zero =>
    simp [Table.init] at h
    subst h
    simp
  | succ k => simp [Table.init] at h

theorem Table.mro_of_lt {T : Table} {c : Nat} (h : c < T.length) : T[c]? = some (T.mro c) := by
  simp [Table.mro, List.getElem?_eq_getElem h]

theorem Table.mro_spec {T : Table} (hT : TInv T) (c : Nat) : (∀ x ∈ T.mro c, x ≤ c) ∧ (T.mro c).Nodup := by
  unfold Table.mro
  cases h : T[c]? with
  | none => simp
  | some m => exact (hT c m h).2

theorem Table.linearise_spec {T : Table} (hT : TInv T) {bases m : List Nat} (h : T.linearise bases = some m) :
    m.head? = some T.length ∧ m.Nodup ∧ (∀ x ∈ m, x ≤ T.length) ∧
    (∀ b ∈ bases, (T.mro b).Sublist m) ∧ bases.Sublist m ∧
    (∀ x ∈ m, x = T.length ∨ x ∈ bases ∨ ∃ b ∈ bases, x ∈ T.mro b) := by
  unfold Table.linearise at h
  split at h
  · rename_i hc
    simp only [Bool.and_eq_true, List.all_eq_true, decide_eq_true_eq] at hc
    have hlt := hc.1
    obtain ⟨out, hm, rfl⟩ := Option.map_eq_some_iff.mp h
    · obtain ⟨ha, hb, hsub⟩ := c3Merge_spec_filter _ _ _ hm
      -- what is merged are the MROs of the bases and the list of bases
      have hfrom : ∀ x ∈ out, x ∈ bases ∨ ∃ b ∈ bases, x ∈ T.mro b := by
        intro x hx
        obtain ⟨s, hs, hxs⟩ := (ha x).mp hx
        simp only [List.mem_append, List.mem_map, List.mem_singleton] at hs
        rcases hs with ⟨b, hb', rfl⟩ | rfl
        · exact Or.inr ⟨b, hb', hxs⟩
        · exact Or.inl hxs
      have hsmall : ∀ x ∈ out, x < T.length := by
        intro x hx
        rcases hfrom x hx with hxs | ⟨b, hb', hxs⟩
        · simpa using hlt x hxs
        · exact Nat.lt_of_le_of_lt ((Table.mro_spec hT b).1 x hxs) (by simpa using hlt b hb')
      refine ⟨rfl, ?_, ?_, ?_, ?_, ?_⟩
      · exact List.nodup_cons.mpr ⟨fun hin => Nat.lt_irrefl _ (hsmall _ hin), hb⟩
      · intro x hx
        rcases List.mem_cons.mp hx with rfl | hx
        · exact Nat.le_refl _
        · exact Nat.le_of_lt (hsmall x hx)
      · intro b hb'
        exact (hsub _ (List.mem_append_left _ (List.mem_map_of_mem hb'))).cons _
      · exact (hsub _ (by simp)).cons _
      · intro x hx
        rcases List.mem_cons.mp hx with rfl | hx
        · exact Or.inl rfl
        · exact Or.inr (hfrom x hx)
  · simp at h

theorem TInv_define {T T' : Table} (hT : TInv T) {bases : List Nat} (h : T.define bases = some T') : TInv T' := by
  obtain ⟨m, hl, rfl⟩ := Option.map_eq_some_iff.mp h
  obtain ⟨h1, h2, h3, _⟩ := Table.linearise_spec hT hl
  intro k m' hk
  rw [List.getElem?_append] at hk
  split at hk
  · exact hT k m' hk
  · -- behind `T` there is only the new entry
    rw [List.getElem?_singleton] at hk
    split at hk
    · cases hk
      obtain rfl : k = T.length := by omega
      exact ⟨h1, h3, h2⟩
    · cases hk

theorem TInv_foldlM (defs : List (List Nat)) (T0 T : Table) (h0 : TInv T0)
    (h : defs.foldlM (fun T b => T.define b) T0 = some T) : TInv T := by
  induction defs generalizing T0 with
  | nil =>
    simp [List.foldlM] at h
    subst h
    exact h0
  | cons b defs ih =>
    simp only [List.foldlM_cons] at h
    cases hd : T0.define b with
    | none => simp [hd] at h
    | some T1 =>
      simp only [hd] at h
      exact ih T1 (TInv_define h0 hd) h

theorem Table.linearise_single {T : Table} (hT : TInv T) {b : Nat} (hb : b < T.length) :
    T.linearise [b] = some (T.length :: T.mro b) := by
  obtain ⟨hh, _, hn⟩ := hT b (T.mro b) (Table.mro_of_lt hb)
  cases hm : T.mro b with
  | nil => simp [hm] at hh
  | cons a rest =>
    simp only [hm, List.head?_cons, Option.some.injEq] at hh
    subst hh
    rw [hm] at hn
    have hnd := List.nodup_cons.mp hn
    unfold Table.linearise
    have hc : ([a].all (· < T.length) && decide [a].Nodup) = true := by simp [hb]
    rw [if_pos hc]
    have hseqs : (([a].map T.mro ++ [[a]]).filter (fun s => !s.isEmpty)) = [a :: rest, [a]] := by simp [hm]
    simp only [hseqs]
    have hp : c3Pick [a :: rest, [a]] = some a := by simp [c3Pick, hnd.1]
    have hfuel : (List.map List.length [a :: rest, [a]]).sum + 1 = (rest.length + 2) + 1 := by simp
    rw [hfuel]
    simp only [c3Merge, hp]
    by_cases hr : rest = []
    · subst hr
      simp [c3Remove, c3Merge]
    · have hrm : c3Remove a [a :: rest, [a]] = [rest] := by simp [c3Remove, hr]
      rw [hrm, c3Merge_single rest hnd.2 _ (by omega) hr]
      rfl

/-! ### from positions in the MRO to classes -/

/-- Read through the list the hierarchy was made from, the overriding depths are the members whose level overrides. -/
theorem overriding_map {α : Type} (f : α → Level) (l : List α) (d : Nat) :
    (overriding (l.map f) d).map (fun x => l[x - d]?) = (l.filter fun a => (f a).overrides).map some := by
  induction l generalizing d with
  | nil => rfl
  | cons a l ih =>
    have hrest : (overriding (l.map f) (d + 1)).map (fun x => (a :: l)[x - d]?) =
        (l.filter fun a => (f a).overrides).map some := by
      rw [← ih (d + 1)]
      refine List.map_congr_left fun x hx => ?_
      have := (mem_overriding.mp hx).1
      rw [show x - d = (x - (d + 1)) + 1 by omega, List.getElem?_cons_succ]
    rw [List.map_cons, overriding, List.filter_cons]
    cases (f a).overrides
    · simp only [Bool.false_eq_true, if_false]
      exact hrest
    · simp only [if_true, List.map_cons, Nat.sub_self, List.getElem?_cons_zero, hrest]

theorem filterMap_of_map_eq {α β : Type} {g : α → Option β} {xs : List α} {ys : List β} (h : xs.map g = ys.map some) :
    xs.filterMap g = ys := by
  simpa [List.filterMap_map] using congrArg (List.filterMap id) h

theorem callStep_labels {α : Type} (f : α → Level) (l : List α) (i : Inst) (hi : i.hier = l.map f) (args : List Int) :
    (callStep i args).2.1.filterMap (fun e => l[e.depth]?) =
      (l.filter fun a => (f a).overrides).take (callStep i args).2.1.length ∧
    (callStep i args).2.1.length ≤ (l.filter fun a => (f a).overrides).length := by
  have hpre : (callStep i args).2.1.map (·.depth) <+: overriding (l.map f) 0 := hi ▸ runChain_prefix i.hier 0 args (i.steps + 1)
  have hlen := congrArg List.length (overriding_map f l 0)
  simp only [List.length_map] at hlen
  refine ⟨filterMap_of_map_eq ?_, by simpa [hlen] using hpre.length_le⟩
  have := congrArg (List.map fun x => l[x - 0]?) (List.prefix_iff_eq_take.mp hpre)
  rwa [List.map_map, List.map_take, overriding_map, ← List.map_take, List.length_map] at this

end Mesa.Steps
