import MesaModel.Proofs.Legacy
import MesaModel.Proofs.LegacyNet
/-!
NetworkGrid as a space of its own: `pos` ↔ node lists agreement over all histories of
place / remove / move, what each call does, rejected calls change nothing (C08-style, C18, C09 agents).
-/
namespace Mesa.Legacy

open Grid

theorem netInv_init (n : Nat) (edges : List (Nat × Nat)) : NetInv (Net.init n edges) where
  pos_content := by intro a v; simp [Net.init]
  in_net := by intro v h; simp [Net.init] at h
  nodup := by intro v; simp [Net.init]

/-! ### place -/

theorem net_place_res (t : Net) (a : Aid) (v : Nat) :
    (v < t.n → (t.place a v).2 = .ok) ∧ (¬ v < t.n → t.place a v = (t, .err .key)) := by
  unfold Net.place
  constructor <;> intro h <;> simp [h]

theorem net_place_err (t : Net) (a : Aid) (v : Nat) (e : Err) (h : (t.place a v).2 = .err e) : (t.place a v).1 = t := by
  unfold Net.place at h ⊢
  split
  · rename_i hv
    simp [hv] at h
  · rfl

theorem net_place_n (t : Net) (a : Aid) (v : Nat) : (t.place a v).1.n = t.n ∧ (t.place a v).1.edges = t.edges := by
  unfold Net.place
  split <;> simp

theorem net_place_pos (t : Net) (a : Aid) (v : Nat) (hv : v < t.n) :
    (t.place a v).1.pos a = some v ∧ ∀ b, b ≠ a → (t.place a v).1.pos b = t.pos b := by
  unfold Net.place
  simp only [hv, if_true]
  exact ⟨by simp [updA], fun b hb => by simp [updA, hb]⟩

theorem net_place_content (t : Net) (a : Aid) (v : Nat) (hv : v < t.n) :
    (t.place a v).1.content v = t.content v ++ [a] ∧ ∀ u, u ≠ v → (t.place a v).1.content u = t.content u := by
  unfold Net.place
  simp only [hv, if_true]
  exact ⟨by simp, fun u hu => by simp [hu]⟩

theorem net_place_inv (t : Net) (a : Aid) (v : Nat) (hi : NetInv t) (hpos : t.pos a = none) : NetInv (t.place a v).1 := by
  by_cases hv : v < t.n
  · have hna := (hi.agree.pos_eq_none a).mp hpos
    obtain ⟨hp1, hp2⟩ := net_place_pos t a v hv
    obtain ⟨hc1, hc2⟩ := net_place_content t a v hv
    have hag := hi.agree.set (k := v) (a := a) hc2 hp2
      (by rw [hc1]; exact List.nodup_append.mpr ⟨hi.nodup v, by simp, by simp; exact fun x hx e => hna v (e ▸ hx)⟩)
      (fun b hb => by rw [hc1]; simp [hb]) (fun q _ => hna q) (by rw [hc1, hp1]; simp) (by rw [hp1]; simp)
    refine ⟨hag.pos_content, fun u hne => ?_, hag.nodup⟩
    rw [(net_place_n t a v).1]
    by_cases hu : u = v
    · subst hu
      exact hv
    · rw [hc2 u hu] at hne
      exact hi.in_net u hne
  · rw [(net_place_res t a v).2 hv]
    exact hi

/-! ### remove -/

theorem net_remove_err (t : Net) (a : Aid) (e : Err) (h : (t.remove a).2 = .err e) : (t.remove a).1 = t := by
  unfold Net.remove at h ⊢
  cases hp : t.pos a with
  | none => rfl
  | some v =>
    simp only [hp] at h ⊢
    by_cases hm : a ∈ t.content v
    · simp [hm] at h
    · simp [hm]

theorem net_remove_n (t : Net) (a : Aid) : (t.remove a).1.n = t.n ∧ (t.remove a).1.edges = t.edges := by
  unfold Net.remove
  split
  · simp
  · split <;> simp

theorem net_remove_placed (t : Net) (hi : NetInv t) (a : Aid) (v : Nat) (hp : t.pos a = some v) :
    (t.remove a).2 = .ok ∧ (t.remove a).1.pos a = none ∧ (∀ b, b ≠ a → (t.remove a).1.pos b = t.pos b) ∧
    (t.remove a).1.content v = (t.content v).erase a ∧ ∀ u, u ≠ v → (t.remove a).1.content u = t.content u := by
  have hm : a ∈ t.content v := (hi.pos_content a v).mp hp
  unfold Net.remove
  simp only [hp, hm, if_true]
  exact ⟨trivial, by simp [updA], fun b hb => by simp [updA, hb], by simp, fun u hu => by simp [hu]⟩

theorem net_remove_unplaced (t : Net) (a : Aid) (hp : t.pos a = none) : t.remove a = (t, .err .key) := by
  unfold Net.remove
  simp [hp]

theorem net_remove_inv (t : Net) (a : Aid) (hi : NetInv t) : NetInv (t.remove a).1 := by
  cases hp : t.pos a with
  | none =>
    rw [net_remove_unplaced t a hp]
    exact hi
  | some v =>
    obtain ⟨_, hp1, hp2, hc1, hc2⟩ := net_remove_placed t hi a v hp
    obtain ⟨hm, huniq⟩ := hi.agree.mem_content hp
    have hag := hi.agree.set (k := v) (a := a) hc2 hp2 (by rw [hc1]; exact (hi.nodup v).erase a)
      (fun b hb => by rw [hc1]; exact List.mem_erase_of_ne hb) (fun q hq h => hq (huniq q h))
      (by rw [hc1, hp1]; simp [(hi.nodup v).mem_erase_iff]) (by rw [hp1]; simp)
    refine ⟨hag.pos_content, fun u hne => ?_, hag.nodup⟩
    rw [(net_remove_n t a).1]
    by_cases hu : u = v
    · subst hu
      exact hi.in_net u (List.ne_nil_of_mem hm)
    · rw [hc2 u hu] at hne
      exact hi.in_net u hne

/-! ### move -/

theorem net_move_missing (t : Net) (a : Aid) (v : Nat) (hv : ¬ v < t.n) : t.move a v = (t, .err .key) := by
  unfold Net.move
  simp [hv]

theorem net_move_unplaced (t : Net) (a : Aid) (v : Nat) (hp : t.pos a = none) : t.move a v = (t, .err .key) := by
  unfold Net.move
  split
  · rw [net_remove_unplaced t a hp]
  · rfl

/-- `move_agent`: KeyError before anything changes for a node that does not exist; else `remove_agent`, and
    `place_agent` if that returned -/
theorem net_move_cases (t : Net) (a : Aid) (v : Nat) :
    (¬ v < t.n ∧ t.move a v = (t, .err .key)) ∨
    (v < t.n ∧ ((∃ e, (t.remove a).2 = .err e ∧ t.move a v = (t, .err e)) ∨
                ((t.remove a).2 = .ok ∧ t.move a v = (t.remove a).1.place a v))) := by
  unfold Net.move
  by_cases hv : v < t.n
  · refine Or.inr ⟨hv, ?_⟩
    rw [if_pos hv]
    have he := net_remove_err t a
    rcases hr : t.remove a with ⟨t1, r⟩
    rw [hr] at he
    cases r with
    | err e => exact Or.inl ⟨e, rfl, by rw [← he e rfl]⟩
    | ok => exact Or.inr ⟨rfl, rfl⟩
  · exact Or.inl ⟨hv, if_neg hv⟩

theorem net_move_eq (t : Net) (hi : NetInv t) (a : Aid) (u v : Nat) (hp : t.pos a = some u) (hv : v < t.n) :
    t.move a v = (t.remove a).1.place a v := by
  have hok := (net_remove_placed t hi a u hp).1
  rcases net_move_cases t a v with ⟨hn, _⟩ | ⟨_, ⟨e, he, _⟩ | ⟨_, h⟩⟩
  · exact absurd hv hn
  · rw [hok] at he
    cases he
  · exact h

theorem net_move_err (t : Net) (a : Aid) (v : Nat) (e : Err) (h : (t.move a v).2 = .err e) : (t.move a v).1 = t := by
  rcases net_move_cases t a v with ⟨_, h'⟩ | ⟨hv, ⟨e', _, h'⟩ | ⟨_, h'⟩⟩
  · rw [h']
  · rw [h']
  · -- a node that exists takes the agent: this case does not raise
    rw [h', (net_place_res _ a v).1 (by rw [(net_remove_n t a).1]; exact hv)] at h
    cases h

theorem net_move_inv (t : Net) (a : Aid) (v : Nat) (hi : NetInv t) : NetInv (t.move a v).1 := by
  by_cases hv : v < t.n
  · cases hp : t.pos a with
    | none =>
      rw [net_move_unplaced t a v hp]
      exact hi
    | some u =>
      rw [net_move_eq t hi a u v hp hv]
      exact net_place_inv _ a v (net_remove_inv t a hi) (net_remove_placed t hi a u hp).2.1
  · rw [net_move_missing t a v hv]
    exact hi

/-- what `move_agent` does to a placed agent and an existing node: the agent leaves its node's list and is
    appended to the target's (also when both are the same node: it goes to the end) -/
theorem net_move_placed (t : Net) (hi : NetInv t) (a : Aid) (u v : Nat) (hp : t.pos a = some u) (hv : v < t.n) :
    (t.move a v).2 = .ok ∧ (t.move a v).1.pos a = some v ∧ (∀ b, b ≠ a → (t.move a v).1.pos b = t.pos b) ∧
    (t.move a v).1.content v = (t.content v).erase a ++ [a] ∧
    (u ≠ v → (t.move a v).1.content u = (t.content u).erase a) ∧
    ∀ x, x ≠ u → x ≠ v → (t.move a v).1.content x = t.content x := by
  obtain ⟨_, _, hp2, hc1, hc2⟩ := net_remove_placed t hi a u hp
  have hn : (t.remove a).1.n = t.n := (net_remove_n t a).1
  have hv' : v < (t.remove a).1.n := by rw [hn]; exact hv
  obtain ⟨hq1, hq2⟩ := net_place_pos (t.remove a).1 a v hv'
  obtain ⟨hd1, hd2⟩ := net_place_content (t.remove a).1 a v hv'
  rw [net_move_eq t hi a u v hp hv]
  refine ⟨(net_place_res _ a v).1 hv', hq1, fun b hb => by rw [hq2 b hb, hp2 b hb], ?_, ?_, ?_⟩
  · rw [hd1]
    by_cases huv : v = u
    · subst huv
      rw [hc1]
    · rw [hc2 v huv]
      have : a ∉ t.content v := fun h => by
        have := (hi.pos_content a v).mpr h
        rw [hp] at this
        exact huv (Option.some.inj this).symm
      rw [List.erase_of_not_mem this]
  · intro huv
    rw [hd2 u huv, hc1]
  · intro x hxu hxv
    rw [hd2 x hxv, hc2 x hxu]

/-! ### histories -/

theorem nstep_inv (t : Net) (op : NOp) (hi : NetInv t) (hok : NOpOk t op) : NetInv (nstep t op).1 := by
  cases op with
  | place a v => exact net_place_inv t a v hi hok
  | remove a => exact net_remove_inv t a hi
  | move a v => exact net_move_inv t a v hi

theorem nstep_n (t : Net) (op : NOp) : (nstep t op).1.n = t.n ∧ (nstep t op).1.edges = t.edges := by
  cases op with
  | place a v => exact net_place_n t a v
  | remove a => exact net_remove_n t a
  | move a v =>
    simp only [nstep]
    rcases net_move_cases t a v with ⟨_, h⟩ | ⟨_, ⟨e, _, h⟩ | ⟨_, h⟩⟩ <;> rw [h]
    · exact ⟨rfl, rfl⟩
    · exact ⟨rfl, rfl⟩
    · exact ⟨(net_place_n _ a v).1.trans (net_remove_n t a).1, (net_place_n _ a v).2.trans (net_remove_n t a).2⟩

theorem nrun_inv (t : Net) (ops : List NOp) (hi : NetInv t) (hok : NHistOk t ops) : NetInv (nrun t ops) := by
  induction ops generalizing t with
  | nil => exact hi
  | cons op ops ih => exact ih _ (nstep_inv t op hi hok.1) hok.2

theorem nrun_n (t : Net) (ops : List NOp) : (nrun t ops).n = t.n ∧ (nrun t ops).edges = t.edges := by
  induction ops generalizing t with
  | nil => exact ⟨rfl, rfl⟩
  | cons op ops ih =>
    have := ih (nstep t op).1
    have h := nstep_n t op
    exact ⟨this.1.trans h.1, this.2.trans h.2⟩

/-- a rejected call leaves the whole state as it was (no invariant needed) -/
theorem nstep_err (t : Net) (op : NOp) (e : Err) (h : (nstep t op).2 = .err e) : (nstep t op).1 = t := by
  cases op with
  | place a v => exact net_place_err t a v e h
  | remove a => exact net_remove_err t a e h
  | move a v => exact net_move_err t a v e h

theorem nrun_naccepted (t : Net) (ops : List NOp) (hok : NHistOk t ops) :
    nrun t (naccepted t ops) = nrun t ops ∧ NHistOk t (naccepted t ops) := by
  induction ops generalizing t with
  | nil => exact ⟨rfl, trivial⟩
  | cons op ops ih =>
    obtain ⟨h1, h2⟩ := ih _ hok.2
    unfold naccepted
    cases hr : (nstep t op).2 with
    | ok =>
      simp only [nrun]
      exact ⟨h1, hok.1, h2⟩
    | err e =>
      simp only [nrun]
      have he := nstep_err t op e hr
      rw [he] at h1 h2 ⊢
      exact ⟨h1, h2⟩

theorem naccepted_all_ok (t : Net) (ops : List NOp) :
    ∀ (pre : List NOp) (op : NOp) (post : List NOp), naccepted t ops = pre ++ op :: post → (nstep (nrun t pre) op).2 = .ok := by
  induction ops generalizing t with
  | nil =>
    intro pre op post h
    simp [naccepted] at h
  | cons o ops ih =>
    intro pre op post h
    unfold naccepted at h
    cases hr : (nstep t o).2 with
    | ok =>
      rw [hr] at h
      simp only at h
      cases pre with
      | nil =>
        simp at h
        rw [← h.1]
        simpa [nrun] using hr
      | cons p pre' =>
        simp only [List.cons_append, List.cons.injEq] at h
        obtain ⟨hp, hrest⟩ := h
        subst hp
        simp only [nrun]
        exact ih _ pre' op post hrest
    | err e =>
      rw [hr] at h
      simp only at h
      have := nstep_err t o e hr
      rw [this] at h
      exact ih t pre op post h

/-! ### reads -/

theorem net_cellsContents_eq (t : Net) (nodes : List Nat) : t.cellsContents nodes = nodes.flatMap t.content :=
  flatMap_filter_nonempty t.content nodes

theorem net_cellsContents_spec (t : Net) (hi : NetInv t) (nodes : List Nat) (hnd : nodes.Nodup) :
    (t.cellsContents nodes).Nodup ∧ ∀ a, a ∈ t.cellsContents nodes ↔ ∃ u ∈ nodes, t.pos a = some u := by
  rw [net_cellsContents_eq]
  exact ⟨hi.agree.flatMap_nodup hnd, hi.agree.mem_flatMap nodes⟩

theorem net_all_spec (t : Net) (hi : NetInv t) :
    t.getAllCellContents.Nodup ∧ (∀ a, a ∈ t.getAllCellContents ↔ t.pos a ≠ none) ∧
    t.agentsList = t.getAllCellContents ∧ t.getAllCellContents = t.allNodes.flatMap t.content := by
  have hnd : t.allNodes.Nodup := by unfold Net.allNodes; exact List.nodup_range
  obtain ⟨h1, h2⟩ := net_cellsContents_spec t hi t.allNodes hnd
  refine ⟨h1, ?_, ?_, net_cellsContents_eq t _⟩
  · intro a
    rw [show t.getAllCellContents = t.cellsContents t.allNodes from rfl, h2]
    constructor
    · rintro ⟨u, _, hu⟩ h
      rw [h] at hu
      cases hu
    · intro h
      cases hp : t.pos a with
      | none => exact absurd hp h
      | some u =>
        refine ⟨u, ?_, rfl⟩
        unfold Net.allNodes
        exact List.mem_range.mpr (hi.in_net u (List.ne_nil_of_mem ((hi.pos_content a u).mp hp)))
  · unfold Net.agentsList Net.getAllCellContents dedup
    rw [net_cellsContents_eq]
    have := foldl_dedup_of_nodup (t.allNodes.flatMap t.content) [] (by simpa using hi.agree.flatMap_nodup hnd)
    simpa using this

end Mesa.Legacy
