import MesaModel.Model.StepBinding
import MesaModel.Proofs.StepCounter
/-! Helper lemmas for C05: the binding of `step` on the instance (model: `Model/StepBinding.lean`). -/
namespace Mesa.Steps

theorem takeThrough_prefix (r : Nat) (l : List Entry) : takeThrough r l <+: l := by
  induction l with
  | nil => exact List.prefix_refl _
  | cons e es ih =>
    unfold takeThrough
    split
    · exact ⟨es, rfl⟩
    · exact (List.prefix_cons_inj e).mpr ih

theorem cutAt_prefix (r : Option Nat) (res : List Entry × Bool) : (cutAt r res).1 <+: res.1 := by
  unfold cutAt
  cases r with
  | none => exact List.prefix_refl _
  | some r =>
    simp only
    split
    · exact takeThrough_prefix r _
    · exact List.prefix_refl _

theorem call_wrapped_steps (o : Obj) (hw : o.dictStep = some .wrapper) (args : List Int) :
    (o.call args).obj.inst.steps = o.inst.steps + 1 ∧ (o.call args).obj.dictStep = some .wrapper ∧
    (o.call args).obj.userStep = o.userStep ∧
    (∀ e ∈ (o.call args).entries, e.steps = o.inst.steps + 1) ∧ (∀ c ∈ (o.call args).fns, c.steps = o.inst.steps + 1) := by
  obtain ⟨i, d, u, rz⟩ := o
  simp only at hw
  subst hw
  cases u with
  | chain =>
    refine ⟨rfl, rfl, rfl, ?_, by simp [Obj.call]⟩
    intro e he
    exact runChain_steps _ _ _ _ e ((cutAt_prefix _ _).subset he)
  | fn f => exact ⟨rfl, rfl, rfl, by simp [Obj.call], by simp [Obj.call]⟩

theorem call_wrapped_chain (o : Obj) (hw : o.dictStep = some .wrapper) (hu : o.userStep = .chain) (args : List Int) :
    (o.call args).entries = (callStepR o.inst o.raiser args).2.1 ∧ (o.call args).ok = (callStepR o.inst o.raiser args).2.2 ∧
    (o.call args).obj.inst = (callStepR o.inst o.raiser args).1 ∧ (o.call args).fns = [] := by
  obtain ⟨i, d, u, rz⟩ := o
  simp only at hw hu
  subst hw
  subst hu
  exact ⟨rfl, rfl, rfl, rfl⟩

theorem call_wrapped_fn (o : Obj) (hw : o.dictStep = some .wrapper) (f : Nat) (hu : o.userStep = .fn f) (args : List Int) :
    (o.call args).entries = [] ∧ (o.call args).fns = [⟨f, o.inst.steps + 1, args⟩] ∧ (o.call args).ok = !raisesFn f := by
  obtain ⟨i, d, u, rz⟩ := o
  simp only at hw hu
  subst hw
  subst hu
  exact ⟨rfl, rfl, rfl⟩

theorem apply_wrapped (o : Obj) (hw : o.dictStep = some .wrapper) (op : BOp) (hop : op.rebindsStep = false) :
    (o.apply op).dictStep = some .wrapper ∧
    (o.apply op).inst.steps = o.inst.steps + (if op.isCall then 1 else 0) ∧
    ((∀ f, op ≠ .setUser f) → (o.apply op).userStep = o.userStep) := by
  cases op with
  | call args =>
    obtain ⟨h1, h2, h3, _⟩ := call_wrapped_steps o hw args
    exact ⟨h2, h1, fun _ => h3⟩
  | assign f => simp [BOp.rebindsStep] at hop
  | del => simp [BOp.rebindsStep] at hop
  | setUser f => exact ⟨hw, rfl, fun h => absurd rfl (h f)⟩

theorem run_wrapped (o : Obj) (hw : o.dictStep = some .wrapper) (ops : List BOp)
    (hops : ∀ op ∈ ops, op.rebindsStep = false) :
    (o.run ops).dictStep = some .wrapper ∧ (o.run ops).inst.steps = o.inst.steps + (ops.filter (·.isCall)).length ∧
    ((∀ op ∈ ops, ∀ f, op ≠ .setUser f) → (o.run ops).userStep = o.userStep) := by
  induction ops generalizing o with
  | nil => exact ⟨hw, rfl, fun _ => rfl⟩
  | cons op ops ih =>
    obtain ⟨a1, a2, a3⟩ := apply_wrapped o hw op (hops op List.mem_cons_self)
    obtain ⟨i1, i2, i3⟩ := ih (o.apply op) a1 (fun x hx => hops x (List.mem_cons_of_mem _ hx))
    refine ⟨i1, ?_, fun hu => (i3 fun x hx => hu x (List.mem_cons_of_mem _ hx)).trans (a3 (hu op List.mem_cons_self))⟩
    show ((o.apply op).run ops).inst.steps = _
    rw [i2, a2, List.filter_cons]
    split <;> simp <;> omega

/-- without the wrapper in the instance `__dict__`, or with an operation that takes it out, the counter stands still -/
theorem apply_unwrapped (o : Obj) (op : BOp) (h : o.dictStep ≠ some .wrapper ∨ op.rebindsStep = true) :
    (o.apply op).dictStep ≠ some .wrapper ∧ (o.apply op).inst.steps = o.inst.steps := by
  cases op with
  | call args =>
    have hw := h.resolve_right (by simp [BOp.rebindsStep])
    simp only [Obj.apply, Obj.call]
    cases hd : o.dictStep with
    | none => simp [tick]
    | some s =>
      cases s with
      | wrapper => exact absurd hd hw
      | fn f => simp [hd]
  | assign f => simp [Obj.apply]
  | del => simp [Obj.apply]
  | setUser f => exact ⟨h.resolve_right (by simp [BOp.rebindsStep]), rfl⟩

theorem run_unwrapped (o : Obj) (hw : o.dictStep ≠ some .wrapper) (ops : List BOp) :
    (o.run ops).dictStep ≠ some .wrapper ∧ (o.run ops).inst.steps = o.inst.steps := by
  induction ops generalizing o with
  | nil => exact ⟨hw, rfl⟩
  | cons op ops ih =>
    obtain ⟨h1, h2⟩ := apply_unwrapped o op (Or.inl hw)
    obtain ⟨i1, i2⟩ := ih (o.apply op) h1
    exact ⟨i1, i2.trans h2⟩

theorem Obj.run_append (o : Obj) (l1 l2 : List BOp) : o.run (l1 ++ l2) = (o.run l1).run l2 := by
  simp [Obj.run, List.foldl_append]

theorem apply_raiser (o : Obj) (op : BOp) : (o.apply op).raiser = o.raiser := by
  cases op with
  | call args =>
    simp only [Obj.apply, Obj.call]
    cases o.dictStep with
    | none => rfl
    | some sl =>
      cases sl with
      | wrapper => cases o.userStep <;> rfl
      | fn f => rfl
  | assign f => rfl
  | del => rfl
  | setUser f => rfl

theorem run_raiser (o : Obj) (ops : List BOp) : (o.run ops).raiser = o.raiser := by
  induction ops generalizing o with
  | nil => rfl
  | cons op ops ih => exact (ih (o.apply op)).trans (apply_raiser o op)

theorem construct_run (h : Hier) (stopAt : Nat) (pre rz : Option Nat) (ops : List BOp)
    (hops : ∀ op ∈ ops, op.rebindsStep = false) :
    let o := (Obj.construct h stopAt pre rz).run ops
    o.dictStep = some .wrapper ∧ o.inst.steps = (ops.filter (·.isCall)).length ∧ o.raiser = rz ∧
    ((∀ op ∈ ops, ∀ f, op ≠ .setUser f) → o.userStep = match pre with | some f => .fn f | none => .chain) := by
  obtain ⟨h1, h2, h3⟩ := run_wrapped (Obj.construct h stopAt pre rz) rfl ops hops
  exact ⟨h1, h2.trans (Nat.zero_add _), run_raiser _ ops, fun hu => (h3 hu).trans (by cases pre <;> rfl)⟩

theorem construct_run_rebound (h : Hier) (stopAt : Nat) (pre rz : Option Nat) (before : List BOp) (op : BOp)
    (after : List BOp) (hb : ∀ x ∈ before, x.rebindsStep = false) (hop : op.rebindsStep = true) :
    ((Obj.construct h stopAt pre rz).run (before ++ op :: after)).inst.steps = (before.filter (·.isCall)).length ∧
    ((Obj.construct h stopAt pre rz).run (before ++ op :: after)).dictStep ≠ some .wrapper := by
  obtain ⟨_, hs, _⟩ := construct_run h stopAt pre rz before hb
  obtain ⟨g1, g2⟩ := apply_unwrapped ((Obj.construct h stopAt pre rz).run before) op (Or.inr hop)
  obtain ⟨r1, r2⟩ := run_unwrapped _ g1 after
  have e : (Obj.construct h stopAt pre rz).run (before ++ op :: after)
      = ((((Obj.construct h stopAt pre rz).run before).apply op).run after) := by
    rw [Obj.run_append]
    rfl
  rw [e]
  exact ⟨by rw [r2, g2, hs], r1⟩

theorem takeThrough_split (r : Nat) (pre : List Entry) (e : Entry) (post : List Entry) (he : e.depth = r)
    (hpre : ∀ x ∈ pre, x.depth ≠ r) : takeThrough r (pre ++ e :: post) = pre ++ [e] := by
  induction pre with
  | nil => simp [takeThrough, he]
  | cons p pre ih =>
    have hp : (p.depth == r) = false := by simpa using hpre p List.mem_cons_self
    simp only [List.cons_append, takeThrough, hp]
    rw [ih (fun x hx => hpre x (List.mem_cons_of_mem _ hx))]
    rfl

theorem cutAt_of_not_reached {r : Nat} {res : List Entry × Bool} (h : ∀ e ∈ res.1, e.depth ≠ r) :
    cutAt (some r) res = res := by
  have hany : res.1.any (·.depth == r) = false := List.any_eq_false.mpr fun e he => by simpa using h e he
  simp only [cutAt, hany, Bool.false_eq_true, if_false]

theorem cutAt_of_reached {r : Nat} {res : List Entry × Bool} {pre post : List Entry} {e : Entry}
    (hfull : res.1 = pre ++ e :: post) (he : e.depth = r) (hpre : ∀ x ∈ pre, x.depth ≠ r) :
    cutAt (some r) res = (pre ++ [e], false) := by
  have hany : res.1.any (·.depth == r) = true :=
    List.any_eq_true.mpr ⟨e, hfull ▸ List.mem_append_right _ List.mem_cons_self, by simpa using he⟩
  simp only [cutAt, hany, if_true]
  rw [hfull, takeThrough_split r pre e post he hpre]

end Mesa.Steps
