import MesaModel.Proofs.LegacySet
/-!
`NetworkGrid.get_neighborhood` (C09, network part): the r-fold expansion `ball` is exactly "within r
hops", `netNbhd` returns exactly those nodes (centre by flag) without duplicates, and the adjacency
lists of a simple edge list are symmetric, loop-free and duplicate-free.  Defines `SimpleEdges`.
-/
namespace Mesa.Legacy

/-! ### `ninsert`, `expand`, `ball` -/

theorem mem_ninsert (x y : Nat) (l : List Nat) : y ∈ ninsert x l ↔ y = x ∨ y ∈ l := by
  rw [or_comm]
  exact mem_addNew l x y

theorem mem_expand (adj : Nat → List Nat) (s : List Nat) (y : Nat) :
    y ∈ expand adj s ↔ y ∈ s ∨ ∃ u ∈ s, y ∈ adj u :=
  mem_foldl_adds (m := adj) (fun l u y => mem_foldl_ins (ins := fun acc v => ninsert v acc) (fun l x y => mem_addNew l x y) (adj u) l y) s s y

theorem nodup_expand (adj : Nat → List Nat) (s : List Nat) (h : s.Nodup) : (expand adj s).Nodup :=
  foldl_keeps List.Nodup (fun l u hl => foldl_keeps List.Nodup (fun l v hl => nodup_addNew l v hl) (adj u) l hl) s s h

theorem ball_spec (adj : Nat → List Nat) (r v u : Nat) : u ∈ ball adj r v ↔ Reach adj r v u := by
  induction r generalizing u with
  | zero => simp [ball, Reach]
  | succ r ih =>
    simp only [ball, Reach, mem_expand]
    constructor
    · rintro (h | ⟨m, hm, h⟩)
      · exact Or.inl ((ih u).mp h)
      · exact Or.inr ⟨m, (ih m).mp hm, h⟩
    · rintro (h | ⟨m, hm, h⟩)
      · exact Or.inl ((ih u).mpr h)
      · exact Or.inr ⟨m, (ih m).mpr hm, h⟩

theorem ball_nodup (adj : Nat → List Nat) (r v : Nat) : (ball adj r v).Nodup := by
  induction r with
  | zero => simp [ball]
  | succ r ih =>
    simp only [ball]
    exact nodup_expand adj _ ih

/-! ### `netNbhd` -/

theorem reach_one (adj : Nat → List Nat) (v u : Nat) : Reach adj 1 v u ↔ u = v ∨ u ∈ adj v := by
  simp only [Reach]
  constructor
  · rintro (h | ⟨m, rfl, h⟩)
    · exact Or.inl h
    · exact Or.inr h
  · rintro (h | h)
    · exact Or.inl h
    · exact Or.inr ⟨v, rfl, h⟩

theorem network_spec (adj : Nat → List Nat) (within : Nat → Nat → List Nat)
    (hspec : ∀ v r u, u ∈ within v r ↔ Reach adj r v u) (hnd : ∀ v r, (within v r).Nodup)
    (hloop : ∀ v, v ∉ adj v) (v : Nat) (ic : Bool) (r : Nat) (u : Nat) :
    u ∈ netNbhd adj within v ic r ↔ (u = v → ic = true) ∧ (u ≠ v → Reach adj r v u) := by
  unfold netNbhd
  by_cases hr : r = 1
  · -- one hop: the adjacency list itself, which does not hold the centre
    subst hr
    rw [if_pos rfl]
    refine centre_by_flag (inS := u ∈ adj v) (fun e => by rw [reach_one]; simp [e])
      (fun h => by rw [h, if_pos rfl, List.mem_append, List.mem_singleton, or_comm])
      (fun h => by rw [h, if_neg (by simp)]; exact ⟨fun hu => ⟨hu, fun e => hloop v (e ▸ hu)⟩, And.left⟩)
  · -- the nodes within `r` hops, among them the centre
    rw [if_neg hr, List.mem_mergeSort]
    refine centre_by_flag (inS := u ∈ within v r) (fun _ => hspec v r u)
      (fun h => by
        rw [h, if_pos rfl]
        exact ⟨Or.inr, fun hu => hu.elim (fun e => e ▸ (hspec v r v).mpr (Reach.self adj r v)) id⟩)
      (fun h => by rw [h, if_neg (by simp), (hnd v r).mem_erase_iff, and_comm])

theorem network_nodup (adj : Nat → List Nat) (within : Nat → Nat → List Nat)
    (hnd : ∀ v r, (within v r).Nodup) (hadj : ∀ v, (adj v).Nodup) (hloop : ∀ v, v ∉ adj v)
    (v : Nat) (ic : Bool) (r : Nat) : (netNbhd adj within v ic r).Nodup := by
  unfold netNbhd
  by_cases hr : r = 1
  · simp only [if_pos hr]
    cases ic with
    | true =>
      simp only [if_true]
      rw [List.nodup_append]
      refine ⟨hadj v, by simp, ?_⟩
      intro a ha b hb
      simp only [List.mem_singleton] at hb
      subst hb
      intro e
      subst e
      exact hloop a ha
    | false => simpa using hadj v
  · simp only [if_neg hr]
    rw [(List.mergeSort_perm _ _).nodup_iff]
    cases ic with
    | true => simpa using hnd v r
    | false => simpa using (hnd v r).erase v

/-! ### adjacency lists of a simple edge list -/

/-- an edge list of a simple undirected graph: no self-loops, no edge twice (in either orientation) -/
def SimpleEdges (es : List (Nat × Nat)) : Prop :=
  (∀ e ∈ es, e.1 ≠ e.2) ∧ es.Pairwise (fun e f => ¬ (e = f ∨ (e.1 = f.2 ∧ e.2 = f.1)))

theorem mem_adjOf (es : List (Nat × Nat)) (u v : Nat) :
    u ∈ adjOf es v ↔ ∃ e ∈ es, (e.1 = v ∧ e.2 = u) ∨ (e.1 ≠ v ∧ e.2 = v ∧ e.1 = u) := by
  unfold adjOf
  simp only [List.mem_filterMap]
  constructor
  · rintro ⟨e, he, h⟩
    refine ⟨e, he, ?_⟩
    split at h
    · rename_i h1
      exact Or.inl ⟨h1, by simpa using h⟩
    · rename_i h1
      split at h
      · rename_i h2
        exact Or.inr ⟨h1, h2, by simpa using h⟩
      · simp at h
  · rintro ⟨e, he, h⟩
    refine ⟨e, he, ?_⟩
    rcases h with ⟨h1, h2⟩ | ⟨h1, h2, h3⟩
    · rw [if_pos h1, h2]
    · rw [if_neg h1, if_pos h2, h3]

theorem adjOf_noloop (es : List (Nat × Nat)) (h : SimpleEdges es) (v : Nat) : v ∉ adjOf es v := by
  rw [mem_adjOf]
  rintro ⟨e, he, h1 | h1⟩
  · exact h.1 e he (h1.1.trans h1.2.symm)
  · exact h1.1 h1.2.2

theorem adjOf_nodup (es : List (Nat × Nat)) (h : SimpleEdges es) (v : Nat) : (adjOf es v).Nodup := by
  -- what an edge contributes to the list of `v`: its other end
  have hend : ∀ (e : Nat × Nat) x, x ∈ (if e.1 = v then some e.2 else if e.2 = v then some e.1 else none) →
      (e.1 = v ∧ e.2 = x) ∨ (e.2 = v ∧ e.1 = x) := by
    intro e x hx
    split at hx
    · exact Or.inl ⟨‹_›, Option.some.inj hx⟩
    · split at hx
      · exact Or.inr ⟨‹_›, Option.some.inj hx⟩
      · cases hx
  unfold adjOf List.Nodup
  rw [List.pairwise_filterMap]
  refine h.2.imp fun {e f} hef x hx y hy hxy => hef ?_
  subst hxy
  -- two edges with the same two ends are the same edge, in one orientation or the other
  rcases hend e x hx with ⟨a, b⟩ | ⟨a, b⟩ <;> rcases hend f x hy with ⟨c, d⟩ | ⟨c, d⟩
  · exact Or.inl (Prod.ext (a.trans c.symm) (b.trans d.symm))
  · exact Or.inr ⟨a.trans c.symm, b.trans d.symm⟩
  · exact Or.inr ⟨b.trans d.symm, a.trans c.symm⟩
  · exact Or.inl (Prod.ext (b.trans d.symm) (a.trans c.symm))

theorem adjOf_symm (es : List (Nat × Nat)) (u v : Nat) : u ∈ adjOf es v ↔ v ∈ adjOf es u := by
  have key : ∀ a b, a ∈ adjOf es b → b ∈ adjOf es a := by
    intro a b
    simp only [mem_adjOf]
    rintro ⟨e, he, h⟩
    refine ⟨e, he, ?_⟩
    rcases h with ⟨h1, h2⟩ | ⟨h1, h2, h3⟩
    · by_cases c : e.1 = a
      · exact Or.inl ⟨c, by rw [h2, ← c, h1]⟩
      · exact Or.inr ⟨c, h2, h1⟩
    · exact Or.inl ⟨h3, h2⟩
  exact ⟨key u v, key v u⟩

/-- `NetworkGrid.get_neighborhood` on a simple graph: exactly the nodes within r hops, centre by flag, no duplicates -/
theorem net_nbhd_spec (t : Net) (hs : SimpleEdges t.edges) (v : Nat) (ic : Bool) (r : Nat) :
    (t.nbhd v ic r).Nodup ∧ ∀ u, u ∈ t.nbhd v ic r ↔ (u = v → ic = true) ∧ (u ≠ v → Reach (adjOf t.edges) r v u) := by
  unfold Net.nbhd
  refine ⟨?_, ?_⟩
  · exact network_nodup _ _ (fun v r => ball_nodup _ r v) (adjOf_nodup _ hs) (adjOf_noloop _ hs) v ic r
  · intro u
    exact network_spec _ _ (fun v r u => ball_spec _ r v u) (fun v r => ball_nodup _ r v) (adjOf_noloop _ hs) v ic r u

end Mesa.Legacy
