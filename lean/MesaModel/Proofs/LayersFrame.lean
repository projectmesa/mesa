import MesaModel.Proofs.LayersViews
/-!
Helper lemmas for C11: the value of a layer changes only by an op that writes to *that* layer
(through the layer, through the cell attribute of a name attached to it, through a reference that
aliases its current array, or — for the built-in `empty` layer — by the grid when agents move); the shapes of the
grid and of every layer object never change; the grid object's own attributes change only by `grid.<name> = x`.
-/
namespace Mesa.Layers

theorem mayWrite_of_targets {s : State} (hw : WF s) {l : Nat} (hl : l < s.nLayers) {op : Op}
    (ht : op.targets s (s.layers l).data) : op.mayWrite s l := by
  have owns : ∀ l', s.owns l' (s.layers l).data → l' = l := fun l' ⟨hl', e⟩ => hw.data_inj l' l hl' hl e.symm
  have named : ∀ n, s.cellArr n (s.layers l).data → s.named? n = some l := by
    rintro n ⟨l', hn, e⟩
    rw [cellLayer?_eq hw] at hn
    rw [hn, hw.data_inj l' l (hw.att_lt n l' hn) hl e.symm]
  have empty : s.emptyTarget (s.layers l).data → s.impl = .new ∧ s.named? "empty" = some l := by
    intro he
    by_cases hi : s.impl = .new
    · rw [emptyTarget_new hi] at he
      exact ⟨hi, named _ he⟩
    · exact absurd ((emptyTarget_legacy hi _).mp he) (hw.legacy_data hi l hl)
  cases op with
  | layerSet l' _ _ | cellSet2 l' _ _ | setCells l' _ _ | setFrom l' _ _ | modifyCell l' _ _
  | modifyCellU l' _ _ _ => exact owns l' ht
  | cellSet n _ _ => exact named n ht
  | hset hd _ _ => exact ht
  | place _ _ | move _ _ | remove _ => exact empty ht
  | _ => exact ht.elim

theorem Effect.value {s s' : State} {op : Op} (hw : WF s) {l : Nat} (hl : l < s.nLayers)
    (hno : ¬ op.mayWrite s l) (e : Effect s op s') (c : Coord) : s'.value l c = s.value l c := by
  cases e with
  | inPlace w =>
    unfold State.value
    rw [w.shape.layers, w.heap _ (fun ht => hno (mayWrite_of_targets hw hl ht))]
  | alloc L x dt _ => exact value_alloc hw hl ..
  | create n x dt _ => exact value_alloc hw hl _ x dt c
  | repoint l' x dt hmw _ _ =>
    have h1 : l ≠ l' := fun e => hno (e ▸ hmw)
    have h2 : (s.layers l).data ≠ s.next := Nat.ne_of_lt (hw.data_lt l hl)
    simp [State.value, State.repoint, upd, h1, h2]
  | _ => rfl

theorem value_stable {s : State} (hw : WF s) {l : Nat} (hl : l < s.nLayers) (op : Op)
    (hno : ¬ op.mayWrite s l) (c : Coord) : (step s op).1.value l c = s.value l c :=
  (step_effect s op).value hw hl hno c

/-- a history none of whose ops may write layer `l` (judged at the state each op is issued in) -/
def noWrite (l : Nat) : State → List Op → Prop
  | _, [] => True
  | s, op :: ops => ¬ op.mayWrite s l ∧ noWrite l (step s op).1 ops

theorem value_stable_run {s : State} (hw : WF s) {l : Nat} (hl : l < s.nLayers) (ops : List Op)
    (hn : noWrite l s ops) (c : Coord) :
    (run s ops).1.value l c = s.value l c ∧ l < (run s ops).1.nLayers := by
  induction ops generalizing s with
  | nil => exact ⟨rfl, hl⟩
  | cons op ops ih =>
    simp only [run]
    obtain ⟨h1, h2⟩ := hn
    have hl' : l < (step s op).1.nLayers := Nat.lt_of_lt_of_le hl (nLayers_step s op)
    obtain ⟨e, hl''⟩ := ih (WF_step hw op) hl' h2
    exact ⟨e.trans (value_stable hw hl op h1 c), hl''⟩

theorem shapes_run (t : State) (os : List Op) : (run t os).1.dims = t.dims ∧
    ∀ k, k < t.nLayers → ((run t os).1.layers k).dims = (t.layers k).dims := by
  induction os generalizing t with
  | nil => exact ⟨rfl, fun _ _ => rfl⟩
  | cons op os ih =>
    simp only [run]
    obtain ⟨a, b⟩ := ih (step t op).1
    obtain ⟨_, hd, hn, hl⟩ := (step_effect t op).keeps
    exact ⟨a.trans hd, fun k hk => (b k (Nat.lt_of_lt_of_le hk hn)).trans (hl k hk)⟩

theorem step_gattrs (s : State) (op : Op) :
    (step s op).1.gattrs = s.gattrs ∨
    ∃ m, op = .gridSet m ∧ s.named? m = none ∧ (step s op).1.gattrs = m :: s.gattrs := by
  generalize (step s op).1 = s', step_effect s op = e
  cases e with
  | inPlace w => exact .inl w.gattrs
  | gattr n hop hn => exact .inr ⟨n, hop, hn, rfl⟩
  | _ => exact .inl rfl

theorem run_cons_fst (s : State) (op : Op) (ops : List Op) : (run s (op :: ops)).1 = (run (step s op).1 ops).1 := rfl

end Mesa.Layers
