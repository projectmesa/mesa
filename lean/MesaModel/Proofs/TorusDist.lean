/-! The distance along one axis of a torus.  The legacy grids (`_distance_squared`) and the continuous space
(`axisDist`) compute it the same way — reduce `|a - b|` modulo the size, take the shorter way round — each with an
`iabs` of its own; the fact that this is the least distance between the residue classes is proved here once, for any
function that is the absolute value. -/
namespace Mesa

theorem torus_least {abs : Int → Int} (habs : ∀ z, (0 ≤ z ∧ abs z = z) ∨ (z < 0 ∧ abs z = -z))
    (w a b : Int) (hw : 0 < w) :
    (∃ k : Int, min (abs (a - b) % w) (w - abs (a - b) % w) = abs (a - b + k * w)) ∧
    ∀ k : Int, min (abs (a - b) % w) (w - abs (a - b) % w) ≤ abs (a - b + k * w) := by
  have h0 := Int.emod_nonneg (abs (a - b)) (Int.ne_of_gt hw)
  have h1 := Int.emod_lt_of_pos (abs (a - b)) hw
  have hd := Int.emod_add_mul_ediv (abs (a - b)) w
  rw [Int.mul_comm] at hd
  generalize abs (a - b) / w = q at hd
  generalize abs (a - b) % w = m at h0 h1 hd ⊢
  have hx : a - b = m + q * w ∨ a - b = -(m + q * w) := by
    have := habs (a - b)
    omega
  -- an image `±(m + j * w)` of the reduced difference lies at least `min m (w - m)` away from 0
  have near (j : Int) : min m (w - m) ≤ abs (m + j * w) ∧ min m (w - m) ≤ abs (-(m + j * w)) := by
    have hp := habs (m + j * w)
    have hn := habs (-(m + j * w))
    by_cases hj : j < 0
    · have h2 : 0 ≤ (-j - 1) * w := Int.mul_nonneg (by omega) (by omega)
      rw [Int.sub_mul, Int.neg_mul, Int.one_mul] at h2
      omega
    · have h2 : 0 ≤ j * w := Int.mul_nonneg (by omega) (by omega)
      omega
  refine ⟨?_, fun k => ?_⟩
  · -- attained at `±m` if `m` is the shorter way round, else at `±(m - w)`
    by_cases hm : m ≤ w - m
    · rcases hx with hx | hx
      · refine ⟨-q, ?_⟩
        have := habs (a - b + -q * w)
        rw [Int.neg_mul] at this ⊢
        omega
      · refine ⟨q, ?_⟩
        have := habs (a - b + q * w)
        omega
    · rcases hx with hx | hx
      · refine ⟨-(q + 1), ?_⟩
        have := habs (a - b + -(q + 1) * w)
        rw [Int.neg_mul, Int.add_mul, Int.one_mul] at this ⊢
        omega
      · refine ⟨q + 1, ?_⟩
        have := habs (a - b + (q + 1) * w)
        rw [Int.add_mul, Int.one_mul] at this ⊢
        omega
  · rcases hx with hx | hx
    · have := (near (q + k)).1
      rw [Int.add_mul] at this
      rwa [show a - b + k * w = m + (q * w + k * w) by omega]
    · have := (near (q - k)).2
      rw [Int.sub_mul] at this
      rwa [show a - b + k * w = -(m + (q * w - k * w)) by omega]

end Mesa
