import MesaModel.Proofs.AgentSetAlg
/-! Histories of set-changing operations on the store of C03 (`SOp`, `applyOp`) and the
    duplicate-freeness invariant they preserve. -/
namespace Mesa.ASet

inductive SOp where
  | mk (ids : List Nat)
  | select (s : Nat) (pred : Option Pred) (ty : Option Nat) (am : AtMost) (inplace : Bool)
  | shuffle (s : Nat) (inplace : Bool)
  | sort (s : Nat) (key : Key) (asc : Bool) (inplace : Bool)
  | group (s : Nat) (key : Key) (asSets : Bool)
  | setAttr (s : Nat) (k : Nat) (v : Int)
  | add (s : Nat) (a : Nat)
  | discard (s : Nat) (a : Nat)
  | remove (s : Nat) (a : Nat)
  | setop (op : SetOp) (s : Nat) (o : Other)
  | isetop (op : SetOp) (s : Nat) (o : Other)
  | pop (s : Nat)
  | clear (s : Nat)
  | kill (a : Nat)

/-- the state after an operation (a raising call leaves the store as it was) -/
def applyOp (st : Store) : SOp → Store
  | .mk ids => (mk st ids).1
  | .select s p t a i => (select st s p t a i).1
  | .shuffle s i => (shuffle st s i).1
  | .sort s key asc i => match sort st s key asc i with | .ok r => r.1 | .error _ => st
  | .group s key b => match group st s key b with | .ok r => r.1 | .error _ => st
  | .setAttr s k v => setAttr st s k v
  | .add s a => add st s a
  | .discard s a => discard st s a
  | .remove s a => match remove st s a with | .ok st' => st' | .error _ => st
  | .setop op s o => (setop st op s o).1
  | .isetop op s o => isetop st op s o
  | .pop s => match pop st s with | .ok r => r.1 | .error _ => st
  | .clear s => clear st s
  | .kill a => kill st a

theorem applyOp_frame (st : Store) (op : SOp) :
    (applyOp st op).pop.map (·.id) = st.pop.map (·.id) ∧
    (applyOp st op).rng = match op with | .shuffle s _ => (Rng.shuffle (st.get s) st.rng).2 | _ => st.rng := by
  cases op with
  | setAttr s k v =>
    refine ⟨?_, rfl⟩
    simp only [applyOp, setAttr, List.map_map]
    apply List.map_congr_left
    intro a _
    simp only [Function.comp]
    split <;> rfl
  | sort s key asc i =>
    cases hk : keysOf st key (st.get s) with
    | none => simp [applyOp, sort, hk]
    | some ks => simp [applyOp, sort, hk, put_pop, put_rng]
  | group s key b =>
    cases hk : keysOf st key (st.get s) with
    | none => simp [applyOp, group, hk]
    | some ks => cases b <;> simp [applyOp, group, hk]
  | remove s a =>
    by_cases hm : a ∈ st.get s
    · simp [applyOp, remove, hm, discard]
    · simp [applyOp, remove, hm]
  | pop s =>
    cases hl : st.get s with
    | nil => simp [applyOp, pop, hl, popL]
    | cons a rest => simp [applyOp, pop, hl, popL]
  | _ => simp [applyOp, mk, select, shuffle, add, discard, setop, isetop, clear, kill, put_pop, put_rng]

theorem set_wf {st : Store} (h : st.WF) (s : Nat) (l : List Nat) (hl : l.Nodup) :
    Store.WF { st with sets := st.sets.set s l } := by
  intro x hx
  rcases List.mem_or_eq_of_mem_set hx with hx | rfl
  · exact h x hx
  · exact hl

theorem applyOp_wf {st : Store} (h : st.WF) (op : SOp) : (applyOp st op).WF := by
  cases op with
  | mk ids => exact Store.put_wf h _ _ _ (nodup_dedup _)
  | select s p t a i =>
    exact Store.put_wf h _ _ _ ((Store.get_nodup h s).sublist (selectIds_sublist st _ p t a))
  | shuffle s i =>
    simp only [applyOp, shuffle]
    have h' : Store.WF { st with rng := (Rng.shuffle (st.get s) st.rng).2 } := h
    exact Store.put_wf h' _ _ _ ((Rng.shuffle_nodup _ _).mpr (Store.get_nodup h s))
  | sort s key asc i =>
    cases hk : keysOf st key (st.get s) with
    | none =>
      simp only [applyOp, sort, hk]
      exact h
    | some ks =>
      simp only [applyOp, sort, hk]
      exact Store.put_wf h _ _ _ ((sortL_perm _ _ _).nodup_iff.mpr (Store.get_nodup h s))
  | group s key b =>
    cases hk : keysOf st key (st.get s) with
    | none =>
      simp only [applyOp, group, hk]
      exact h
    | some ks =>
      simp only [applyOp, group, hk]
      cases b
      · exact h
      · intro x hx
        simp only [if_true, List.mem_append, List.mem_map] at hx
        rcases hx with hx | ⟨g, hg, rfl⟩
        · exact h x hx
        · rw [groupBy_eq] at hg
          obtain ⟨k, _, rfl⟩ := List.mem_map.mp hg
          exact (Store.get_nodup h s).sublist List.filter_sublist
  | setAttr s k v => exact h
  | add s a => exact set_wf h _ _ (nodup_addKey (Store.get_nodup h s))
  | discard s a => exact set_wf h _ _ ((Store.get_nodup h s).erase a)
  | remove s a =>
    by_cases hm : a ∈ st.get s
    · simp only [applyOp, remove, hm, if_true]
      exact set_wf h _ _ ((Store.get_nodup h s).erase a)
    · simp only [applyOp, remove, hm, if_false]
      exact h
  | setop op s o => exact Store.put_wf h _ _ _ (nodup_setop_eval _ _ op)
  | isetop op s o => exact set_wf h _ _ (nodup_isetopL (Store.get_nodup h s) _ _ op)
  | pop s =>
    simp only [applyOp, pop]
    cases hl : st.get s with
    | nil =>
      simp only [popL]
      exact h
    | cons a rest =>
      simp only [popL]
      have := Store.get_nodup h s
      rw [hl] at this
      exact set_wf h _ _ (List.nodup_cons.mp this).2
  | clear s => exact set_wf h _ _ (by rw [clearL_eq_nil]; exact List.nodup_nil)
  | kill a =>
    intro x hx
    simp only [applyOp, kill, List.mem_map] at hx
    obtain ⟨l, hl, rfl⟩ := hx
    exact (h l hl).erase a

end Mesa.ASet
