import MesaModel.Gen.FnCellOcc
import MesaModel.Proofs.CellSpace
/-!
Equivalence of the definitions GENERATED from mesa/discrete_space/cell.py (`Gen/FnCellOcc.lean`, rewritten by
`harness/py2lean.py` on every check) with the per-cell operations of the hand-written occupancy model
`Model/CellSpace.lean` (C06, C18-cells; C19 builds on the same model).

The generated functions work on a record standing for ONE cell (`_agents`, `capacity`, `empty`); `cellRec sp s c e` is the
record of cell `c` in the model state: its agent list, its capacity (the model's `Option Nat` read as Python's `None` / int)
and the value last stored into `cell.empty` (`e` stands for whatever the attribute holds where the model says "never written":
`add_agent` / `remove_agent` do not read it).  A generated mutator returns (`.ok ()` / `.error …`, `_agents` afterwards,
`empty` afterwards).

Proof style: every proof unfolds the generated definition and finishes with case splits + `simp` / `omega`, never `rfl` on
the generated term, so that harmless rewrites of the source (inlined locals, reordered independent statements, `not … <`
for `>=`, …) keep checking while a semantic change does not.
-/
namespace Mesa.Cells

open GenOcc

/-- the record of cell `c` in the model state `s` of the space `sp` -/
def cellRec (sp : Space) (s : State) (c : Cid) (e : Bool) : CellRec :=
  { coordinate := c, _agents := s.occ c, capacity := (sp.cap c).map Int.ofNat, empty := (s.flag c).getD e }

/-- what a generated mutator's result means in the model: the state with cell `c`'s list and flag replaced -/
def putCell (s : State) (c : Cid) (ag : List Aid) (em : Bool) : State :=
  { s with occ := upd s.occ c ag, flag := upd s.flag c (some em) }

/-- `Cell.agents` as generated: (a copy of) the cell's list -/
theorem C06_gen_agents_eq_model (sp : Space) (s : State) (c : Cid) (e : Bool) :
    agents (cellRec sp s c e) = nbhdAgents s [c] := by
  simp [agents, cellRec, nbhdAgents]

/-- `Cell.is_empty` as generated = the model's `isEmpty` -/
theorem C06_gen_is_empty_eq_model (sp : Space) (s : State) (c : Cid) (e : Bool) :
    is_empty (cellRec sp s c e) = isEmpty s c := by
  simp only [is_empty, agents, cellRec, isEmpty]
  cases s.occ c <;> simp <;> omega

/-- `Cell.is_full` as generated = the model's `isFull` (capacity None: never full; 0 included) -/
theorem C06_gen_is_full_eq_model (sp : Space) (s : State) (c : Cid) (e : Bool) :
    is_full (cellRec sp s c e) = isFull sp s c := by
  simp only [is_full, agents, cellRec, isFull]
  have hc : sp.cap c = none ∨ ∃ k, sp.cap c = some k := by cases sp.cap c <;> simp
  rcases hc with hc | ⟨k, hc⟩
  · simp [hc]
  · simp only [hc]
    rw [Bool.eq_iff_iff]
    simp
    omega

/-- the test of `add_agent` on a record: `self.capacity is not None and len(self._agents) >= self.capacity` -/
def recFull (r : CellRec) : Bool :=
  match r.capacity with
  | some k => decide ((r._agents.length : Int) ≥ k)
  | none => false

/-- the generated `add_agent`, flattened: refuse under `recFull`, else append and store `empty = False` -/
theorem gen_add_agent_spec (r : CellRec) (a : Aid) :
    add_agent r a =
      if recFull r then (.error Py.Err.Exception, r._agents, r.empty) else (.ok (), r._agents ++ [a], false) := by
  simp only [add_agent, recFull]
  have hc : r.capacity = none ∨ ∃ k, r.capacity = some k := by cases r.capacity <;> simp
  rcases hc with hc | ⟨k, hc⟩
  · simp [hc]
  · by_cases h : (r._agents.length : Int) ≥ k
    -- in both cases: `simp` alone closes the goal when the source tests `len >= capacity` as it stands; a source that
    -- writes the test another way (`not (len < capacity)`, `capacity <= n`) leaves an inequality for `omega`
    · first
        | (simp [hc, h]; done)
        | (simp [hc, h] <;> omega)
    · first
        | (simp [hc, h]; done)
        | (simp [hc, h] <;> omega)

/-- the record's test is the model's `fullFor` -/
theorem recFull_cellRec (sp : Space) (s : State) (c : Cid) (e : Bool) : recFull (cellRec sp s c e) = fullFor sp s c := by
  simp only [recFull, cellRec, fullFor]
  have hc : sp.cap c = none ∨ ∃ k, sp.cap c = some k := by cases sp.cap c <;> simp
  rcases hc with hc | ⟨k, hc⟩
  · simp [hc]
  · simp only [hc]
    rw [Bool.eq_iff_iff]
    simp

/-- `Cell.add_agent` as generated = the model's `addAgent` on the cell's record: it raises exactly when the model refuses
    (`fullFor`: a capacity k, 0 included, and k agents or more), otherwise appends at the end and stores `empty = False`;
    list and flag afterwards are the model's. -/
theorem C06_gen_add_agent_eq_model (sp : Space) (s : State) (c : Cid) (a : Aid) (e : Bool) :
    add_agent (cellRec sp s c e) a =
      ((if (addAgent sp s c a).2 then .ok () else .error Py.Err.Exception),
       (addAgent sp s c a).1.occ c, ((addAgent sp s c a).1.flag c).getD e) := by
  rw [gen_add_agent_spec, recFull_cellRec]
  simp only [addAgent]
  by_cases h : fullFor sp s c = true <;> simp [h, cellRec, upd]

/-- the generated `remove_agent`, flattened -/
theorem gen_remove_agent_spec (r : CellRec) (a : Aid) :
    remove_agent r a =
      if a ∈ r._agents then (.ok (), r._agents.erase a, (r._agents.erase a).isEmpty)
      else (.error Py.Err.Value, r._agents, r.empty) := by
  simp only [remove_agent, is_empty, agents]
  by_cases h : a ∈ r._agents
  · cases hl : r._agents.erase a <;> simp [h] <;> omega
  · simp [h]

/-- `Cell.remove_agent` as generated = the model's `removeAgent`: `ValueError` exactly when the agent is not listed (the model's
    `none`), otherwise the first occurrence goes and `empty` is recomputed from the list; list and flag afterwards are the model's. -/
theorem C06_gen_remove_agent_eq_model (sp : Space) (s : State) (c : Cid) (a : Aid) (e : Bool) :
    remove_agent (cellRec sp s c e) a =
      match removeAgent s c a with
      | some s' => (.ok (), s'.occ c, (s'.flag c).getD e)
      | none => (.error Py.Err.Value, s.occ c, (s.flag c).getD e) := by
  rw [gen_remove_agent_spec]
  simp only [cellRec, removeAgent]
  by_cases h : a ∈ s.occ c
  · simp [h, upd]
  · simp [h]

/-- The model's per-cell mutators ARE the generated text: `addAgent` / `removeAgent` change cell `c`'s list and flag to what the
    generated `add_agent` / `remove_agent` return on the cell's record and nothing else (no other cell, no agent's `cell`, not the
    registry), and refuse exactly when the generated text raises. -/
theorem C06_model_mutators_are_generated (sp : Space) (s : State) (c : Cid) (a : Aid) (e : Bool) :
    addAgent sp s c a = (match add_agent (cellRec sp s c e) a with
      | (.ok _, ag, em) => (putCell s c ag em, true)
      | (.error _, _, _) => (s, false)) ∧
    removeAgent s c a = (match remove_agent (cellRec sp s c e) a with
      | (.ok _, ag, em) => some (putCell s c ag em)
      | (.error _, _, _) => none) := by
  constructor
  · rw [gen_add_agent_spec, recFull_cellRec]
    simp only [addAgent]
    by_cases h : fullFor sp s c = true <;> simp [h, cellRec, putCell]
  · rw [gen_remove_agent_spec]
    simp only [cellRec, removeAgent, putCell]
    by_cases h : a ∈ s.occ c <;> simp [h]

/-- C06 capacity clause over the generated text (as `C06_capacity` (1) states it for the model): whatever `add_agent` answers, a
    cell with capacity k (0 included) ends up with at most k agents or with at most as many as it held; a cell that holds
    capacity-many or more never gains one; a cell within its capacity never goes above it; and an accepted add on a cell with
    capacity k found fewer than k agents there. -/
theorem C06_capacity_generated (r : CellRec) (a : Aid) (k : Nat) (hk : r.capacity = some (k : Int)) :
    (((add_agent r a).2.1.length ≤ k ∨ (add_agent r a).2.1.length ≤ r._agents.length) ∧
     (k ≤ r._agents.length → (add_agent r a).2.1.length ≤ r._agents.length) ∧
     (r._agents.length ≤ k → (add_agent r a).2.1.length ≤ k)) ∧
    ((add_agent r a).1 = .ok () → r._agents.length < k ∧ (add_agent r a).2.1 = r._agents ++ [a]) := by
  rw [gen_add_agent_spec]
  have hf : recFull r = decide ((r._agents.length : Int) ≥ (k : Int)) := by simp only [recFull, hk]
  by_cases h : (r._agents.length : Int) ≥ (k : Int)
  · have hk' : k ≤ r._agents.length := by omega
    simp [hf, h, hk']
  · have : r._agents.length < k := by omega
    simp [hf, h]
    omega

/-- The same for ANY integer capacity the record may hold (the model has capacities ≥ 0 only; the generated text does not care):
    an accepted add found strictly fewer agents than the capacity — so a negative capacity, like 0, takes nobody — and a record
    without a capacity accepts always. -/
theorem C06_capacity_generated_any_int (r : CellRec) (a : Aid) :
    (∀ cap : Int, r.capacity = some cap → ((add_agent r a).1 = .ok () ↔ (r._agents.length : Int) < cap)) ∧
    (r.capacity = none → (add_agent r a).1 = .ok ()) := by
  rw [gen_add_agent_spec]
  constructor
  · intro cap hc
    have hf : recFull r = decide ((r._agents.length : Int) ≥ cap) := by simp only [recFull, hc]
    by_cases h : (r._agents.length : Int) ≥ cap
    · have : ¬ (r._agents.length : Int) < cap := by omega
      simp [hf, h, this]
    · have h1 : (r._agents.length : Int) < cap := by omega
      have h2 : ¬ cap ≤ (r._agents.length : Int) := by omega
      simp [hf, h1, h2]
  · intro hc
    have hf : recFull r = false := by simp only [recFull, hc]
    simp [hf]

/-- `empty` agrees with "no agents" after every accepted add / remove, over the generated text. -/
theorem C06_empty_flag_generated (r : CellRec) (a : Aid) :
    ((add_agent r a).1 = .ok () → ((add_agent r a).2.2 = true ↔ (add_agent r a).2.1 = [])) ∧
    ((remove_agent r a).1 = .ok () → ((remove_agent r a).2.2 = true ↔ (remove_agent r a).2.1 = [])) := by
  constructor
  · rw [gen_add_agent_spec]
    by_cases h : recFull r = true <;> simp [h]
  · rw [gen_remove_agent_spec]
    by_cases h : a ∈ r._agents <;> simp [h, List.isEmpty_iff]

/-- C18 over the generated text: a rejected `add_agent` (full cell) / `remove_agent` (agent not listed) leaves the cell's record
    unchanged — list and `empty` are what they were. -/
theorem C18_cells_rejected_mutator_generated (r : CellRec) (a : Aid) (err : Py.Err) :
    ((add_agent r a).1 = .error err → (add_agent r a).2 = (r._agents, r.empty) ∧ err = Py.Err.Exception) ∧
    ((remove_agent r a).1 = .error err → (remove_agent r a).2 = (r._agents, r.empty) ∧ err = Py.Err.Value ∧ a ∉ r._agents) := by
  constructor
  · rw [gen_add_agent_spec]
    by_cases h : recFull r = true <;> simp [h]
    intro h'
    exact h'.symm
  · rw [gen_remove_agent_spec]
    by_cases h : a ∈ r._agents <;> simp [h]
    intro h'
    exact h'.symm

/-- what the effect list of the generated `move_to` means in the model: every entry is one run of the `cell` setter of agent
    `a` (of class `k`) with that cell; a setter that raised ends the list -/
def interpSetCell (sp : Space) (k : AKind) (a : Aid) (s : State) (es : List Cid) : State × Res :=
  es.foldl (fun acc c => if acc.2 = .ok then setCell sp acc.1 k a (some c) else acc) (s, .ok)

/-- `BasicMovement.move_to` as generated = the model's `moveTo` step: exactly one run of the agent's `cell` setter, with exactly
    the given cell.  Guards of the call site, not of the code: the agent exists and its class has the mixin (`CellAgent`,
    `Grid2DMovingAgent`; a `FixedAgent` has no `move_to`: AttributeError in the model and in Python), and `space[c]` was a cell. -/
theorem C06_gen_move_to_eq_model (sp : Space) (s : State) (a : Aid) (c : Cid) (k : AKind) (r : MoverRec)
    (hk : s.kinds[a]? = some k) (hm : k ≠ .fixed) (hc : c ∈ sp.cells) :
    interpSetCell sp k a s (move_to r c) = step sp s (.moveTo a c) := by
  have h : move_to r c = [c] := by simp [move_to]
  rw [h]
  cases k <;> simp_all [interpSetCell, step]

/-- the exceptions of the `FixedCell.cell` setter in the small error enum of the translation -/
def fixedRes : Res → Except Py.Err Unit
  | .err .fixed => .error Py.Err.Value          -- ValueError("Cannot move agent in FixedCell")
  | .err .full => .error Py.Err.Exception       -- Exception("ERROR: Cell is full"), passed on from `add_agent`
  | _ => .ok ()

/-- `FixedCell.cell` (getter) as generated: the agent's `_mesa_cell` -/
theorem C06_gen_fixed_cell_eq_model (s : State) (a : Aid) : fixed_cell ⟨a, s.cellOf a⟩ = s.cellOf a := by
  simp [fixed_cell]

/-- `FixedCell.cell` (setter, S12-repaired order) as generated = the model's `setCellFixed` with a cell as target, on the
    agent's record and the record of the target cell: ValueError for an agent that has a cell (nothing touched), otherwise
    `add_agent` on the target — its refusal is passed on, the agent stays unplaced and the cell's record is unchanged —, then
    `_mesa_cell` names the target.  Result, the target cell's record afterwards and the agent's `_mesa_cell` afterwards are the
    model's.  (The model's third case, `agent.cell = None` on an unplaced fixed agent — `None.add_agent`: AttributeError — has no
    cell record to run on and stays with the correspondence check.) -/
theorem C06_gen_fixed_set_cell_eq_model (sp : Space) (s : State) (a : Aid) (c : Cid) (e : Bool) :
    fixed_set_cell ⟨a, s.cellOf a⟩ (cellRec sp s c e) =
      (fixedRes (setCellFixed sp s a (some c)).2, cellRec sp (setCellFixed sp s a (some c)).1 c e,
       (setCellFixed sp s a (some c)).1.cellOf a) := by
  simp only [fixed_set_cell, fixed_cell, setCellFixed]
  have hc : s.cellOf a = none ∨ ∃ o, s.cellOf a = some o := by cases s.cellOf a <;> simp
  rcases hc with hc | ⟨o, hc⟩
  · rw [gen_add_agent_spec, recFull_cellRec]
    simp only [addAgent]
    by_cases h : fullFor sp s c = true <;> simp [hc, h, fixedRes, cellRec, upd]
  · simp [hc, fixedRes]

/-- C18 over the generated text of the `FixedCell.cell` setter: whenever it raises — the agent has a cell already, or the
    target is full — the target cell's record and the agent's `_mesa_cell` are returned unchanged. -/
theorem C18_cells_fixed_set_cell_reject_generated (r : FixedRec) (cell : CellRec) (err : Py.Err)
    (h : (fixed_set_cell r cell).1 = .error err) : (fixed_set_cell r cell).2 = (cell, r._mesa_cell) := by
  revert h
  simp only [fixed_set_cell, fixed_cell]
  rw [gen_add_agent_spec]
  have hc : r._mesa_cell = none ∨ ∃ o, r._mesa_cell = some o := by cases r._mesa_cell <;> simp
  rcases hc with hc | ⟨o, hc⟩ <;> by_cases h2 : recFull cell = true <;> simp [hc, h2]

end Mesa.Cells
