import MesaModel.Model.VizSize
import MesaModel.Proofs.VizLayers
/-!
Helper lemmas for the default-size part of C20 (`Model/VizSize.lean`): a second invariant of reachable spaces
(the cells are those the space was built with; agents of continuous spaces lie inside the bounds), what the drawing
code computes for each kind of class, and the extent of a space that holds an agent.
-/
namespace Mesa.Viz

structure Space.Sized (sp : Space) : Prop where
  cells : ∃ extra, sp.cells = initCells sp.fam sp.w sp.h extra
  inside : sp.fam.cellular = false → ∀ a ∈ sp.placed, ∃ l, a.location = some l ∧
    0 ≤ l.x ∧ l.x < sp.w ∧ 0 ≤ l.y ∧ l.y < sp.h

theorem init?_sized {fam w h extra sp} (hi : Space.init? fam w h extra = some sp) : sp.Sized := by
  unfold Space.init? at hi
  split at hi
  · injection hi with hi
    subst hi
    exact ⟨⟨extra, rfl⟩, fun _ a ha => by simp at ha⟩
  · cases hi

theorem place_sized {sp sp' : Space} {a : Nat} {l : Loc} (hs : sp.Sized) (hp : sp.place a l = some sp') : sp'.Sized := by
  obtain ⟨_, hval, rfl⟩ := place_some hp
  refine ⟨hs.cells, fun hcell g hg => ?_⟩
  simp only [List.mem_append, List.mem_singleton] at hg
  rcases hg with hg | rfl
  · exact hs.inside hcell g hg
  · exact ⟨l, mkAgent_location _ _ _, validLoc_continuous (sp := sp) hcell hval⟩

theorem remove_sized {sp sp' : Space} {a : Nat} (hs : sp.Sized) (hp : sp.remove a = some sp') : sp'.Sized := by
  rw [remove_some hp]
  exact ⟨hs.cells, fun hcell g hg => hs.inside hcell g (List.mem_filter.mp hg).1⟩

theorem move_sized {sp sp' : Space} {a : Nat} {l : Loc} (hs : sp.Sized) (hp : sp.move a l = some sp') : sp'.Sized := by
  rcases move_some hp with ⟨_, sp1, h1, h2⟩ | ⟨hcell, hval, rfl⟩
  · exact place_sized (remove_sized hs h1) h2
  · refine ⟨hs.cells, fun hcell' g hg => ?_⟩
    rw [List.mem_map] at hg
    obtain ⟨g0, hg0, rfl⟩ := hg
    split
    · exact ⟨l, mkAgent_location _ _ _, validLoc_continuous (sp := sp) hcell hval⟩
    · exact hs.inside hcell' g0 hg0

theorem reachable_sized {sp : Space} (h : Reachable sp) : sp.Sized := by
  induction h with
  | init hi => exact init?_sized hi
  | @step _ _ op _ ha ih =>
    cases op with
    | place a l => exact place_sized ih ha
    | move a l => exact move_sized ih ha
    | remove a => exact remove_sized ih ha

theorem mem_gridCells_bounds {w h : Nat} {l : Loc} (hl : l ∈ gridCells w h) :
    0 ≤ l.x ∧ l.x < w ∧ 0 ≤ l.y ∧ l.y < h := by
  unfold gridCells at hl
  rw [List.mem_flatMap] at hl
  obtain ⟨x, hx, hl⟩ := hl
  rw [List.mem_map] at hl
  obtain ⟨y, hy, rfl⟩ := hl
  rw [List.mem_range] at hx hy
  exact ⟨Int.natCast_nonneg x, Int.ofNat_lt.mpr hx, Int.natCast_nonneg y, Int.ofNat_lt.mpr hy⟩

/-! ## the three kinds of classes the drawing code tells apart: `w × h` rectangles, networks, Voronoi grids -/

/-- the classes whose space is a `w × h` rectangle: the orthogonal grids (`single`, `multi`, `moore`, `vn`), the hex grids
    (`hexs`, `hexm`, `hex`) and the continuous spaces (`cs`, `xcs`); the others are `netgrid`, `net` and `vor` -/
abbrev Family.rect (fam : Family) : Prop :=
  fam.isOrthogonal = true ∨ fam.isHex = true ∨ fam.cellular = false

theorem Family.trichotomy (fam : Family) :
    fam.rect ∨ (fam = .net ∨ fam = .netgrid) ∨ fam = .vor := by
  cases fam <;> decide

theorem rect_of_altairSupported {fam : Family} (h : altairSupported fam = true) :
    fam.rect := by
  revert h
  cases fam <;> decide

theorem initCells_grid {fam : Family} (hf : fam.isOrthogonal = true ∨ fam.isHex = true) (w h : Nat) (extra : List Loc) :
    initCells fam w h extra = gridCells w h := by
  revert hf
  -- here and below: for the classes the hypothesis names both sides compute to the same (`rfl`); for the other classes it is false
  cases fam <;> intro hf <;> first | rfl | exact absurd hf (by decide)

theorem drawRaises_rect {sp : Space} (hf : sp.fam.rect) :
    drawRaises sp = if sp.w = 0 ∧ sp.h = 0 then some .zeroDivision else none := by
  unfold drawRaises
  revert hf
  cases sp.fam <;> intro hf <;> first | rfl | exact absurd hf (by decide)

theorem defaultSize_rect {sp : Space} (hf : sp.fam.rect) :
    defaultSize sp = sizeOfExtent (max (sp.w : Int) (sp.h : Int)) := by
  unfold defaultSize
  revert hf
  cases sp.fam <;> intro hf <;> first | rfl | exact absurd hf (by decide)

theorem drawRaises_net {sp : Space} (hf : sp.fam = .net ∨ sp.fam = .netgrid) :
    drawRaises sp = if sp.cells.isEmpty then some .value else none := by
  unfold drawRaises
  rcases hf with hf | hf <;> rw [hf]

theorem defaultSize_net {sp : Space} (hf : sp.fam = .net ∨ sp.fam = .netgrid) :
    defaultSize sp = if sp.cells.length = 0 then .undefined else if sp.cells.length = 1 then sizeOfExtent 1 else .layout := by
  unfold defaultSize
  rcases hf with hf | hf <;> rw [hf]

/-! ## where the agents of a reachable space are -/

theorem located_in_bounds {sp : Space} (h : Reachable sp) {a : Agent} (ha : a ∈ sp.placed)
    (hf : sp.fam.rect) :
    ∃ l, a.location = some l ∧ 0 ≤ l.x ∧ l.x < sp.w ∧ 0 ≤ l.y ∧ l.y < sp.h := by
  have hs := reachable_sized h
  by_cases hcell : sp.fam.cellular = true
  · obtain ⟨l, hloc, hl⟩ := (reachable_wf h).located a ha
    obtain ⟨extra, hc⟩ := hs.cells
    have hl := hl hcell
    rw [hc, initCells_grid (hf.imp_right fun h => h.resolve_right (by simp [hcell]))] at hl
    exact ⟨l, hloc, mem_gridCells_bounds hl⟩
  · exact hs.inside (by simpa using hcell) a ha

theorem cells_ne_nil_of_placed {sp : Space} (hw : sp.WF) (hcell : sp.fam.cellular = true) (hne : sp.placed ≠ []) :
    sp.cells ≠ [] := by
  obtain ⟨a, ha⟩ := List.exists_mem_of_ne_nil _ hne
  obtain ⟨l, _, hl⟩ := hw.located a ha
  exact List.ne_nil_of_mem (hl hcell)

theorem extent_pos {sp : Space} (h : Reachable sp) (hne : sp.placed ≠ [])
    (hf : sp.fam.rect) :
    0 < max (sp.w : Int) (sp.h : Int) := by
  obtain ⟨a, ha⟩ := List.exists_mem_of_ne_nil _ hne
  obtain ⟨l, _, _, _, _, _⟩ := located_in_bounds h ha hf
  omega

theorem min_pos_of_placed {sp : Space} (h : Reachable sp) (hsup : altairSupported sp.fam = true) (hne : sp.placed ≠ []) :
    min sp.w sp.h ≠ 0 := by
  obtain ⟨a, ha⟩ := List.exists_mem_of_ne_nil _ hne
  obtain ⟨l, _, _, _, _, _⟩ := located_in_bounds h ha (rect_of_altairSupported hsup)
  omega

theorem drawRaises_none_of_placed {sp : Space} (h : Reachable sp) (hne : sp.placed ≠ []) : drawRaises sp = none := by
  rcases sp.fam.trichotomy with hf | hf | hf
  · have := extent_pos h hne hf
    rw [drawRaises_rect hf, if_neg (by omega)]
  · have hcell : sp.fam.cellular = true := by rcases hf with hf | hf <;> rw [hf] <;> rfl
    rw [drawRaises_net hf, if_neg (by simpa using cells_ne_nil_of_placed (reachable_wf h) hcell hne)]
  · unfold drawRaises
    rw [hf]

/-! ## extents -/

theorem spread_pos_of_ne {xs : List Int} {a b : Int} (ha : a ∈ xs) (hb : b ∈ xs) (hab : a ≠ b) : 0 < spread xs := by
  obtain ⟨lo, hi, h1, h2, _, _⟩ := minOf_maxOf_of_mem ha
  have := (minOf_spec h1).2 b hb
  have := (maxOf_spec h2).2 b hb
  simp only [spread, h1, h2]
  omega

theorem spread_nonneg (xs : List Int) : 0 ≤ spread xs := by
  cases xs with
  | nil => exact Int.le_refl 0
  | cons x xs =>
    obtain ⟨lo, hi, h1, h2, _, _⟩ := minOf_maxOf_of_mem (List.mem_cons_self (a := x) (l := xs))
    simp only [spread, h1, h2]
    omega

theorem sizeOfExtent_undefined_iff (e : Int) : sizeOfExtent e = .undefined ↔ ¬ 0 < e := by
  unfold sizeOfExtent
  split <;> simp [*]

theorem sizeOfExtent_or_one {e : Int} (he : 0 ≤ e) :
    ∃ f, sizeOfExtent (if e = 0 then 1 else e) = .exact f ∧ f.num = 32400 ∧ 0 < f.den := by
  have hpos : 0 < (if e = 0 then 1 else e) := by split <;> omega
  unfold sizeOfExtent
  rw [if_pos hpos]
  refine ⟨_, rfl, rfl, ?_⟩
  have := Int.mul_pos hpos hpos
  simp only
  omega

theorem bbox_pos {cells : List Loc} (hnd : cells.Nodup) (hlen : 2 ≤ cells.length) :
    0 < max (spread (cells.map (·.x))) (spread (cells.map (·.y))) := by
  match cells, hnd, hlen with
  | c1 :: c2 :: rest, hnd, _ =>
    have hne : c1 ≠ c2 := fun e => (List.nodup_cons.mp hnd).1 (e ▸ List.mem_cons_self)
    have hx := spread_nonneg ((c1 :: c2 :: rest).map (·.x))
    have hy := spread_nonneg ((c1 :: c2 :: rest).map (·.y))
    have m1 : c1 ∈ c1 :: c2 :: rest := List.mem_cons_self
    have m2 : c2 ∈ c1 :: c2 :: rest := List.mem_cons_of_mem _ List.mem_cons_self
    -- the two points differ in a coordinate, and the centroids spread in that direction
    by_cases hxe : c1.x = c2.x
    · have hye : c1.y ≠ c2.y := by
        intro e
        apply hne
        cases c1
        cases c2
        simp_all
      have := spread_pos_of_ne (List.mem_map_of_mem (f := (·.y)) m1) (List.mem_map_of_mem m2) hye
      omega
    · have := spread_pos_of_ne (List.mem_map_of_mem (f := (·.x)) m1) (List.mem_map_of_mem m2) hxe
      omega

end Mesa.Viz
