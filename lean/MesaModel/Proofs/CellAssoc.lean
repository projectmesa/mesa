import MesaModel.Model.CellGeometry
import MesaModel.Proofs.ListOps
/-!
Python dicts as lists of items: lookup (`assocGet`), assignment (`dictSet`), deletion by value
(`dictDropValue`), and what "no key twice" (`KeysNodup`) gives: lookup and membership say the same, so
facts about the items of an edited dict follow from the lookup equations.
-/
namespace Mesa.Cells

section Generic
variable {α : Type} [DecidableEq α]

/-- a dict: no key twice -/
def KeysNodup {β : Type} (m : List (α × β)) : Prop := (m.map (·.1)).Nodup

omit [DecidableEq α] in
theorem keysNodup_cons {β : Type} {k : α} {v : β} {m : List (α × β)} :
    KeysNodup ((k, v) :: m) ↔ k ∉ m.map (·.1) ∧ KeysNodup m := List.nodup_cons

theorem assocGet_cons {β : Type} (k : α) (v : β) (m : List (α × β)) (k' : α) :
    assocGet ((k, v) :: m) k' = if k = k' then some v else assocGet m k' := rfl

theorem assocGet_mem {α β : Type} [DecidableEq α] {m : List (α × β)} {k : α} {v : β}
    (h : assocGet m k = some v) : (k, v) ∈ m := by
  induction m with
  | nil => cases h
  | cons p m ih =>
    obtain ⟨k', v'⟩ := p
    rw [assocGet_cons] at h
    split at h
    · rename_i hk
      cases h
      exact hk ▸ List.mem_cons_self
    · exact List.mem_cons_of_mem _ (ih h)

theorem assocGet_none_of_not_mem {β : Type} {m : List (α × β)} {k : α} (h : k ∉ m.map (·.1)) :
    assocGet m k = none := by
  induction m with
  | nil => rfl
  | cons q m ih =>
    obtain ⟨k1, v1⟩ := q
    rw [List.map_cons, List.mem_cons, not_or] at h
    rw [assocGet_cons, if_neg (Ne.symm h.1), ih h.2]

theorem assocGet_eq_some_iff {β : Type} {m : List (α × β)} (h : KeysNodup m) (k : α) (v : β) :
    assocGet m k = some v ↔ (k, v) ∈ m := by
  induction m with
  | nil => simp [assocGet]
  | cons p m ih =>
    obtain ⟨k0, v0⟩ := p
    obtain ⟨hk0, hm⟩ := keysNodup_cons.mp h
    rw [assocGet_cons, List.mem_cons, Prod.mk.injEq, ← ih hm]
    by_cases hk : k0 = k
    · subst hk
      rw [if_pos rfl, assocGet_none_of_not_mem hk0]
      simp [eq_comm]
    · rw [if_neg hk]
      simp [Ne.symm hk]

theorem assocGet_filter {β : Type} (q : α → Bool) (m : List (α × β)) (k : α) :
    assocGet (m.filter fun p => q p.1) k = if q k then assocGet m k else none := by
  induction m with
  | nil => simp [assocGet]
  | cons p m ih =>
    obtain ⟨k0, v0⟩ := p
    rw [List.filter_cons]
    by_cases hk : k0 = k
    · subst hk
      cases hq : q k0 <;> simp [assocGet_cons, ih, hq]
    · cases q k0 <;> simp [assocGet_cons, ih, hk]

theorem assocGet_dictSet {β : Type} (m : List (α × β)) (k : α) (v : β) (k' : α) :
    assocGet (dictSet m k v) k' = if k = k' then some v else assocGet m k' := by
  induction m with
  | nil => rfl
  | cons p m ih =>
    obtain ⟨k0, v0⟩ := p
    simp only [dictSet]
    by_cases h0 : k0 = k
    · subst h0
      rw [if_pos rfl, assocGet_cons, assocGet_cons]
      split <;> rfl
    · rw [if_neg h0, assocGet_cons, assocGet_cons, ih]
      by_cases h1 : k0 = k'
      · have h2 : ¬ k = k' := fun e => h0 (h1.trans e.symm)
        simp only [if_pos h1, if_neg h2]
      · simp only [if_neg h1]

theorem keys_dictSet {β : Type} (m : List (α × β)) (k : α) (v : β) :
    (dictSet m k v).map (·.1) = if k ∈ m.map (·.1) then m.map (·.1) else m.map (·.1) ++ [k] := by
  induction m with
  | nil => simp [dictSet]
  | cons p m ih =>
    obtain ⟨k0, v0⟩ := p
    simp only [dictSet]
    by_cases h0 : k0 = k
    · subst h0
      simp
    · have h0' : ¬ k = k0 := fun e => h0 e.symm
      simp only [h0, if_false, List.map_cons, ih, List.mem_cons, h0', false_or]
      split <;> simp

theorem keysNodup_dictSet {β : Type} {m : List (α × β)} (h : KeysNodup m) (k : α) (v : β) :
    KeysNodup (dictSet m k v) := by
  unfold KeysNodup at *
  rw [keys_dictSet]
  split
  · exact h
  · exact nodup_concat h ‹_›

theorem mem_dictSet {β : Type} {m : List (α × β)} (h : KeysNodup m) (k : α) (v : β) (k' : α) (v' : β) :
    (k', v') ∈ dictSet m k v ↔ (k' = k ∧ v' = v) ∨ (k' ≠ k ∧ (k', v') ∈ m) := by
  rw [← assocGet_eq_some_iff (keysNodup_dictSet h k v), assocGet_dictSet, ← assocGet_eq_some_iff h]
  by_cases hk : k = k'
  · subst hk
    simp [eq_comm]
  · simp [hk, Ne.symm hk]

theorem dictSet_mem_self {β : Type} (m : List (α × β)) (k : α) (v : β) : (k, v) ∈ dictSet m k v :=
  assocGet_mem (by rw [assocGet_dictSet, if_pos rfl])

/-- without `KeysNodup`: an old item under the key `k` may survive further back -/
theorem mem_dictSet_imp {α β : Type} [DecidableEq α] {m : List (α × β)} {k k' : α} {v v' : β}
    (h : (k', v') ∈ dictSet m k v) : (k', v') = (k, v) ∨ (k', v') ∈ m := by
  induction m with
  | nil => exact Or.inl (List.mem_singleton.mp h)
  | cons p m ih =>
    obtain ⟨k0, v0⟩ := p
    simp only [dictSet] at h
    split at h
    · exact (List.mem_cons.mp h).imp_right (List.mem_cons_of_mem _)
    · rcases List.mem_cons.mp h with h | h
      · exact Or.inr (h ▸ List.mem_cons_self)
      · exact (ih h).imp_right (List.mem_cons_of_mem _)

end Generic

section DropValue
variable {α κ : Type} [DecidableEq α]

theorem mem_dictDropValue (m : List (κ × α)) (x : α) (p : κ × α) :
    p ∈ dictDropValue m x ↔ p ∈ m ∧ p.2 ≠ x := by
  simp [dictDropValue]

theorem keysNodup_dictDropValue [DecidableEq κ] {m : List (κ × α)} (h : KeysNodup m) (x : α) :
    KeysNodup (dictDropValue m x) :=
  (List.filter_sublist.map _).nodup h

theorem assocGet_dictDropValue [DecidableEq κ] {m : List (κ × α)} (h : KeysNodup m) (x : α) (k : κ) :
    assocGet (dictDropValue m x) k = (assocGet m k).bind fun v => if v = x then none else some v := by
  apply Option.ext
  intro v
  rw [assocGet_eq_some_iff (keysNodup_dictDropValue h x), mem_dictDropValue, ← assocGet_eq_some_iff h]
  cases assocGet m k with
  | none => simp
  | some w =>
    by_cases hw : w = x
    · subst hw
      simp [eq_comm]
    · simp only [Option.some.injEq, Option.bind_some, if_neg hw]
      exact ⟨fun ⟨e, _⟩ => e, fun e => ⟨e, e ▸ hw⟩⟩

end DropValue

theorem keysNodup_map {γ κ β : Type} {l : List γ} (h : l.Nodup) (f : γ → κ) (g : γ → β)
    (hf : ∀ a b, f a = f b → a = b) : KeysNodup (l.map fun x => (f x, g x)) := by
  unfold KeysNodup
  rw [List.map_map]
  exact List.Pairwise.map _ (fun a b hab e => hab (hf a b e)) h

theorem mem_map_item {γ κ β : Type} (l : List γ) (f : γ → κ) (g : γ → β) (k : κ) (v : β) :
    (k, v) ∈ l.map (fun x => (f x, g x)) ↔ ∃ x, k = f x ∧ v = g x ∧ x ∈ l := by
  simp only [List.mem_map, Prod.mk.injEq]
  exact ⟨fun ⟨x, hx, e1, e2⟩ => ⟨x, e1.symm, e2.symm, hx⟩, fun ⟨x, e1, e2, hx⟩ => ⟨x, hx, e1.symm, e2.symm⟩⟩

end Mesa.Cells
