import MesaModel.Model.Signals
/-!
Helper lemmas about list indexing: integer indices, extended slices (`Slc`: open bounds, steps other than 1, negative
steps), the closed forms of what `extend` and `clear` signal, and `foldl_out`, the lemma about folds that thread a state
and append outputs (`mExtend` here, `notifyAll` / `notifyAllR` in the files that import this one).
-/
namespace Mesa.Signals

theorem normIdx_nat {len j : Nat} (h : j < len) : normIdx len (j : Int) = some j := by
  unfold normIdx
  dsimp only
  rw [if_neg (show ¬ (j : Int) < 0 by omega), if_pos (show 0 ≤ (j : Int) ∧ (j : Int) < len by omega)]
  rfl

theorem normIdx_lt {len : Nat} {i : Int} {j : Nat} (h : normIdx len i = some j) : j < len := by
  unfold normIdx at h
  generalize (if i < 0 then i + (len : Int) else i) = k at h
  dsimp only at h
  split at h
  · injection h with h
    omega
  · cases h

theorem normIdx_neg_one {len : Nat} (h : 0 < len) : normIdx len (-1) = some (len - 1) := by
  unfold normIdx
  dsimp only
  rw [if_pos (show (-1 : Int) < 0 by decide), if_pos (show 0 ≤ -1 + (len : Int) ∧ -1 + (len : Int) < len by omega)]
  congr 1
  omega

/-! ### extended slices -/

/-- clamping into `[0, L]` (positive step) or `[-1, L - 1]` (negative step) -/
theorem clamp_bounds {L : Nat} {lo hi : Int} (hlh : lo = 0 ∧ hi = L ∨ lo = -1 ∧ hi = L - 1) (y : Int) :
    lo ≤ (if y < 0 then lo else if y ≥ L then hi else y) ∧ (if y < 0 then lo else if y ≥ L then hi else y) ≤ hi := by
  have hle : lo ≤ hi := by omega
  by_cases h1 : y < 0
  · rw [if_pos h1]
    exact ⟨Int.le_refl lo, hle⟩
  · rw [if_neg h1]
    by_cases h2 : y ≥ L
    · rw [if_pos h2]
      exact ⟨hle, Int.le_refl hi⟩
    · rw [if_neg h2]
      omega

/-- the local function `adj` of `Slc.adjust`, with its two clamping targets as variables -/
theorem adj_bounds {L : Nat} {lo hi : Int} (hlh : lo = 0 ∧ hi = L ∨ lo = -1 ∧ hi = L - 1)
    (x : Option Int) (dflt : Int) (hd : lo ≤ dflt ∧ dflt ≤ hi) :
    lo ≤ (match x with
      | none => dflt
      | some x =>
        let x := if x < 0 then x + L else x
        if x < 0 then lo else if x ≥ L then hi else x) ∧
    (match x with
      | none => dflt
      | some x =>
        let x := if x < 0 then x + L else x
        if x < 0 then lo else if x ≥ L then hi else x) ≤ hi := by
  cases x with
  | none => exact hd
  | some x => exact clamp_bounds hlh _

theorem Slc.adjust_eq_none {s : Slc} {len : Nat} : s.adjust len = none ↔ s.c.getD 1 = 0 := by
  unfold Slc.adjust
  refine ⟨fun h => Decidable.by_contra fun h0 => ?_, fun h => if_pos h⟩
  rw [if_neg h0] at h
  cases h

theorem Slc.indices_eq_none {s : Slc} {len : Nat} : s.indices len = none ↔ s.c.getD 1 = 0 := by
  unfold Slc.indices
  rw [Option.map_eq_none_iff, Slc.adjust_eq_none]

theorem Slc.adjust_bounds {s : Slc} {len : Nat} {start stop step : Int} (h : s.adjust len = some (start, stop, step)) :
    step ≠ 0 ∧ step = s.c.getD 1 ∧
    (0 < step → (0 ≤ start ∧ start ≤ len) ∧ (0 ≤ stop ∧ stop ≤ len)) ∧
    (step < 0 → (-1 ≤ start ∧ start ≤ (len : Int) - 1) ∧ (-1 ≤ stop ∧ stop ≤ (len : Int) - 1)) := by
  have h0 : s.c.getD 1 ≠ 0 := fun e => by
    rw [Slc.adjust_eq_none.mpr e] at h
    cases h
  unfold Slc.adjust at h
  rw [if_neg h0] at h
  cases h
  refine ⟨h0, rfl, fun hp => ?_, fun hn => ?_⟩
  · simp only [Int.not_lt.mpr (Int.le_of_lt hp), if_false]
    exact ⟨adj_bounds (.inl ⟨rfl, rfl⟩) s.a 0 ⟨Int.le_refl 0, Int.natCast_nonneg len⟩,
      adj_bounds (.inl ⟨rfl, rfl⟩) s.b len ⟨Int.natCast_nonneg len, Int.le_refl _⟩⟩
  · simp only [hn, if_true]
    exact ⟨adj_bounds (L := len) (.inr ⟨rfl, rfl⟩) s.a (len - 1) ⟨by omega, Int.le_refl _⟩,
      adj_bounds (L := len) (.inr ⟨rfl, rfl⟩) s.b (-1) ⟨Int.le_refl _, by omega⟩⟩

theorem mul_le_of_le_ediv {j : Nat} {m c : Int} (hc : 0 < c) (hj : (j : Int) ≤ m / c) :
    0 ≤ (j : Int) * c ∧ (j : Int) * c ≤ m :=
  ⟨Int.mul_nonneg (Int.natCast_nonneg j) (Int.le_of_lt hc),
   Int.le_trans (Int.mul_le_mul_of_nonneg_right hj (Int.le_of_lt hc)) (Int.ediv_mul_le m (Int.ne_of_gt hc))⟩

theorem slicePos_in_range {start stop step : Int} {L : Int} {j : Nat}
    (hp : 0 < step → 0 ≤ start ∧ stop ≤ L) (hn : step < 0 → -1 ≤ stop ∧ start ≤ L - 1) (h0 : step ≠ 0)
    (hj : j < sliceLen start stop step) : 0 ≤ start + (j : Int) * step ∧ start + (j : Int) * step < L := by
  unfold sliceLen at hj
  split at hj
  · rename_i hs
    obtain ⟨h1, h2⟩ := hn hs
    split at hj
    · obtain ⟨g1, g2⟩ := mul_le_of_le_ediv (j := j) (m := start - stop - 1) (c := -step) (Int.neg_pos.mpr hs) (by omega)
      rw [Int.mul_neg] at g1 g2
      omega
    · exact absurd hj (Nat.not_lt_zero j)
  · rename_i hs
    have hs' : 0 < step := by omega
    obtain ⟨h1, h2⟩ := hp hs'
    split at hj
    · obtain ⟨g1, g2⟩ := mul_le_of_le_ediv (j := j) (m := stop - start - 1) hs' (by omega)
      omega
    · exact absurd hj (Nat.not_lt_zero j)

theorem Slc.indices_some {s : Slc} {len : Nat} {idx : List Nat} (h : s.indices len = some idx) :
    ∃ start stop step, s.adjust len = some (start, stop, step) ∧
      idx = (List.range (sliceLen start stop step)).map fun (j : Nat) => (start + (j : Int) * step).toNat := by
  unfold Slc.indices at h
  cases ha : s.adjust len with
  | none =>
    rw [ha] at h
    cases h
  | some t =>
    rw [ha] at h
    cases h
    exact ⟨t.1, t.2.1, t.2.2, rfl, rfl⟩

theorem Slc.pos_in_range {s : Slc} {len : Nat} {start stop step : Int} (ha : s.adjust len = some (start, stop, step))
    {j : Nat} (hj : j < sliceLen start stop step) :
    0 ≤ start + (j : Int) * step ∧ start + (j : Int) * step < len := by
  obtain ⟨h0, _, hp, hn⟩ := Slc.adjust_bounds ha
  exact slicePos_in_range (fun h => ⟨(hp h).1.1, (hp h).2.2⟩) (fun h => ⟨(hn h).2.1, (hn h).1.2⟩) h0 hj

theorem Slc.indices_in_range {s : Slc} {len : Nat} {idx : List Nat} (h : s.indices len = some idx) :
    ∀ k ∈ idx, k < len := by
  obtain ⟨start, stop, step, ha, rfl⟩ := Slc.indices_some h
  intro k hk
  obtain ⟨j, hj, rfl⟩ := List.mem_map.mp hk
  have := Slc.pos_in_range ha (List.mem_range.mp hj)
  omega

theorem foldl_set_length (ps : List (Nat × Int)) (d : List Int) :
    (ps.foldl (fun d (p : Nat × Int) => d.set p.1 p.2) d).length = d.length := by
  induction ps generalizing d with
  | nil => rfl
  | cons p ps ih => simp [List.foldl_cons, ih]

theorem foldl_set_other (ps : List (Nat × Int)) (d : List Int) (k : Nat) (hk : ∀ p ∈ ps, p.1 ≠ k) :
    (ps.foldl (fun d (p : Nat × Int) => d.set p.1 p.2) d).getD k 0 = d.getD k 0 := by
  induction ps generalizing d with
  | nil => rfl
  | cons p ps ih =>
    rw [List.foldl_cons, ih _ (fun q hq => hk q (by simp [hq]))]
    have : p.1 ≠ k := hk p (by simp)
    simp [List.getD, this]

theorem Slc.indices_nodup {s : Slc} {len : Nat} {idx : List Nat} (h : s.indices len = some idx) : idx.Nodup := by
  obtain ⟨start, stop, step, ha, rfl⟩ := Slc.indices_some h
  rw [List.Nodup, List.pairwise_map]
  refine List.Pairwise.imp_of_mem ?_ (List.nodup_range (n := sliceLen start stop step))
  intro a b ha' hb' hab e
  obtain ⟨g1, _⟩ := Slc.pos_in_range ha (List.mem_range.mp ha')
  obtain ⟨g2, _⟩ := Slc.pos_in_range ha (List.mem_range.mp hb')
  have e1 : (a : Int) * step = (b : Int) * step := by omega
  have e2 : (a : Int) = (b : Int) := Int.eq_of_mul_eq_mul_right (Slc.adjust_bounds ha).1 e1
  exact hab (Int.ofNat.inj e2)

theorem foldl_set_zip_get (idx : List Nat) (vs : List Int) (d : List Int) (hl : vs.length = idx.length)
    (hnd : idx.Nodup) (hr : ∀ k ∈ idx, k < d.length) :
    idx.map (fun k => ((idx.zip vs).foldl (fun d (p : Nat × Int) => d.set p.1 p.2) d).getD k 0) = vs := by
  induction idx generalizing vs d with
  | nil =>
    cases vs with
    | nil => rfl
    | cons _ _ => simp at hl
  | cons k idx ih =>
    cases vs with
    | nil => simp at hl
    | cons v vs =>
      have hk : k ∉ idx := (List.nodup_cons.mp hnd).1
      have hnd' := (List.nodup_cons.mp hnd).2
      have hkd : k < d.length := hr k (by simp)
      have e1 : ((idx.zip vs).foldl (fun d (p : Nat × Int) => d.set p.1 p.2) (d.set k v)).getD k 0 = v := by
        rw [foldl_set_other _ _ k (fun p hp hpk => hk (hpk ▸ (List.of_mem_zip hp).1))]
        simp [List.getD, hkd]
      have e2 := ih vs (d.set k v) (by simpa using hl) hnd'
        (fun j hj => by simpa using hr j (by simp [hj]))
      simp only [List.zip_cons_cons, List.foldl_cons, List.map_cons]
      rw [e1, e2]

theorem setSliceX_stepped {d d' : List Int} {sl : Slc} {vs : List Int} (hc : sl.c.getD 1 ≠ 1)
    (h : setSliceX d sl vs = some d') :
    ∃ idx, sl.indices d.length = some idx ∧ vs.length = idx.length ∧
      d' = (idx.zip vs).foldl (fun d (p : Nat × Int) => d.set p.1 p.2) d := by
  unfold setSliceX at h
  split at h
  · rename_i start stop step idx ha hi
    rw [if_neg ((Slc.adjust_bounds ha).2.1 ▸ hc)] at h
    split at h
    · cases h
    · rename_i hl
      cases h
      exact ⟨idx, hi, Decidable.not_not.mp hl, rfl⟩
  · cases h

theorem zipIdx_filter_map (p : Nat → Bool) (d : List Int) (n : Nat) :
    ((d.zipIdx n).filter (fun q => p q.2)).map (·.1) =
      ((List.range' n d.length).filter p).map (fun k => d.getD (k - n) 0) := by
  induction d generalizing n with
  | nil => rfl
  | cons x d ih =>
    have htail : ((List.range' (n + 1) d.length).filter p).map (fun k => (x :: d).getD (k - n) 0) =
        ((List.range' (n + 1) d.length).filter p).map (fun k => d.getD (k - (n + 1)) 0) := by
      apply List.map_congr_left
      intro k hk
      have hk' := (List.mem_range'_1.mp (List.mem_filter.mp hk).1).1
      have e : k - n = (k - (n + 1)) + 1 := by omega
      rw [e]
      rfl
    simp only [List.zipIdx_cons, List.length_cons, List.range'_succ, List.filter_cons]
    by_cases hpn : p n = true
    · simp only [hpn, if_true, List.map_cons, Nat.sub_self, ih (n + 1), htail]
      rfl
    · rw [if_neg hpn, if_neg hpn, ih (n + 1), htail]

theorem length_filter_not_contains {idx : List Nat} {len : Nat} (hnd : idx.Nodup) (hr : ∀ k ∈ idx, k < len) :
    ((List.range len).filter (fun k => !idx.contains k)).length + idx.length = len := by
  have hp := (List.filter_append_perm (fun k => idx.contains k) (List.range len)).length_eq
  have hq : ((List.range len).filter (fun k => idx.contains k)).Perm idx := by
    rw [List.perm_ext_iff_of_nodup (List.Nodup.sublist List.filter_sublist List.nodup_range) hnd]
    intro a
    simp only [List.mem_filter, List.mem_range, List.contains_iff_mem]
    exact ⟨fun h => h.2, fun h => ⟨hr a h, h⟩⟩
  rw [List.length_append, hq.length_eq, List.length_range] at hp
  omega

/-! ### the derived list methods, stated by their signals (independently of the state machine) -/

/-- what `extend(vs)` signals on a list of length `len`: one `append` per item, with the item and the index at which
    it arrives -/
def specAppends (n : Nat) : Nat → List Int → List Sig
  | _, [] => []
  | len, v :: vs => ⟨n, .append, .none, .int v, .int len⟩ :: specAppends n (len + 1) vs

/-- the step of a left fold that threads a state and appends what each step puts out -/
def accum {σ α β : Type} (g : σ → α → σ × List β) (p : σ × List β) (x : α) : σ × List β :=
  ((g p.1 x).1, p.2 ++ (g p.1 x).2)

/-- what was put out before such a fold started stays in front -/
theorem foldl_out {σ α β : Type} (g : σ → α → σ × List β) (l : List α) (s : σ) (acc : List β) :
    l.foldl (accum g) (s, acc) = ((l.foldl (accum g) (s, [])).1, acc ++ (l.foldl (accum g) (s, [])).2) := by
  have h := List.foldl_hom (fun p : σ × List β => (p.1, acc ++ p.2)) (l := l) (init := (s, []))
    (g₁ := accum g) (g₂ := accum g) fun p x => by rw [accum, accum, List.append_assoc]
  rwa [List.append_nil] at h

theorem mExtend_cons (n : Nat) (d : List Int) (v : Int) (vs : List Int) :
    mExtend n d (v :: vs) =
      ((mExtend n (d ++ [v]) vs).1, ⟨n, .append, .none, .int v, .int d.length⟩ :: (mExtend n (d ++ [v]) vs).2) :=
  foldl_out (fun d v => ((pAppend n d v).1, [(pAppend n d v).2])) vs (d ++ [v])
    [⟨n, .append, .none, .int v, .int d.length⟩]

theorem mExtend_eq (n : Nat) : ∀ d vs : List Int, mExtend n d vs = (d ++ vs, specAppends n d.length vs)
  | d, [] => by simp [mExtend, specAppends]
  | d, v :: vs => by
    rw [mExtend_cons, mExtend_eq n _ vs]
    simp [specAppends]

/-- what `clear()` signals: one `remove` per item, from the last item to the first, each with index `-1` -/
def specClears (n : Nat) (d : List Int) : List Sig :=
  d.reverse.map fun x => ⟨n, .remove, .int x, .none, .int (-1)⟩

theorem pDel_last (n : Nat) (d : List Int) (x : Int) :
    pDel n (d ++ [x]) (-1) = .ok (d, ⟨n, .remove, .int x, .none, .int (-1)⟩) := by
  have hn : normIdx (d ++ [x]).length (-1) = some d.length := by
    rw [normIdx_neg_one (by simp)]
    simp
  simp only [pDel, hn]
  congr 2
  · simp [List.eraseIdx_append_of_length_le]
  · simp [List.getD]

theorem mClear_rev (n : Nat) (r : List Int) (fuel : Nat) (acc : List Sig) (hf : r.length < fuel) :
    mClear n fuel r.reverse acc = ([], acc ++ r.map fun x => ⟨n, .remove, .int x, .none, .int (-1)⟩) := by
  induction r generalizing fuel acc with
  | nil =>
    cases fuel with
    | zero => omega
    | succ f => simp [mClear, pDel, normIdx]
  | cons x r ih =>
    cases fuel with
    | zero => omega
    | succ f =>
      simp only [List.reverse_cons, mClear, pDel_last]
      rw [ih f _ (Nat.lt_of_succ_lt_succ hf)]
      simp [List.append_assoc]

theorem mClear_spec (n : Nat) (d : List Int) : mClear n (d.length + 1) d [] = ([], specClears n d) := by
  have := mClear_rev n d.reverse (d.length + 1) [] (by simp)
  simpa [specClears] using this

end Mesa.Signals
