import MesaModel.Proofs.CellAssoc
/-!
Helper lemmas for C07: dict-as-list operations, the recursive neighbourhood = "within r hops",
transparency of the memo tables, and `nbhdTab`, an equal of `nbhd` that the kernel evaluates cheaply (what
`Props/C11Ball.lean` evaluates).
-/
namespace Mesa.Cells

section Generic
variable {α : Type} [DecidableEq α]

/-! ### dict-as-list -/

theorem mem_dictAdd {acc : List α} {x y : α} : y ∈ dictAdd acc x ↔ y ∈ acc ∨ y = x := by
  unfold dictAdd
  split
  · constructor
    · exact Or.inl
    · rintro (h | h)
      · exact h
      · exact h ▸ ‹x ∈ acc›
  · simp

theorem nodup_dictAdd {acc : List α} {x : α} (h : acc.Nodup) : (dictAdd acc x).Nodup := by
  unfold dictAdd
  split
  · exact h
  · exact nodup_concat h ‹_›

theorem mem_dictUpdate {acc v : List α} {y : α} : y ∈ dictUpdate acc v ↔ y ∈ acc ∨ y ∈ v := by
  unfold dictUpdate
  induction v generalizing acc with
  | nil => simp
  | cons x v ih => rw [List.foldl_cons, ih, mem_dictAdd, List.mem_cons, or_assoc]

theorem nodup_dictUpdate {acc v : List α} (h : acc.Nodup) : (dictUpdate acc v).Nodup := by
  unfold dictUpdate
  induction v generalizing acc with
  | nil => simpa
  | cons x v ih => exact ih (nodup_dictAdd h)

/-- the accumulation loop of `_neighborhood` for radius ≥ 2 -/
def unionOver (f : α → List α) (l : List α) (init : List α) : List α :=
  l.foldl (fun acc n => dictUpdate acc (f n)) init

theorem mem_unionOver {f : α → List α} {l init : List α} {y : α} :
    y ∈ unionOver f l init ↔ y ∈ init ∨ ∃ n ∈ l, y ∈ f n := by
  unfold unionOver
  induction l generalizing init with
  | nil => simp
  | cons x l ih =>
    simp only [List.foldl_cons, ih, mem_dictUpdate, List.mem_cons, or_and_right, exists_or, exists_eq_left, or_assoc]

theorem nodup_unionOver {f : α → List α} {l init : List α} (h : init.Nodup) :
    (unionOver f l init).Nodup := by
  unfold unionOver
  induction l generalizing init with
  | nil => simpa
  | cons x l ih => exact ih (nodup_dictUpdate h)

/-! ### neighbourhood = within r hops -/

/-- within `k` connection hops (0 hops = the cell itself) -/
def Reach (nb : α → List α) : Nat → α → α → Prop
  | 0, c, c' => c' = c
  | k+1, c, c' => c' = c ∨ ∃ n ∈ nb c, Reach nb k n c'

omit [DecidableEq α] in
theorem reach_self (nb : α → List α) (k : Nat) (c : α) : Reach nb k c c := by
  cases k <;> simp [Reach]

omit [DecidableEq α] in
theorem reach_mono (nb : α → List α) (k : Nat) (c c' : α) :
    Reach nb k c c' → Reach nb (k+1) c c' := by
  induction k generalizing c with
  | zero =>
    intro h
    exact Or.inl h
  | succ k ih =>
    intro h
    rcases h with h | ⟨n, hn, h⟩
    · exact Or.inl h
    · exact Or.inr ⟨n, hn, ih n h⟩

/-- what `_neighborhood` collects before the centre is added or taken out: the neighbours (radius 1), the
    union of their neighbourhoods of the radius below (radius ≥ 2) -/
def nbhdU (nb : α → List α) : Nat → α → List α
  | 0, c => dictUpdate [] (nb c)
  | r+1, c => unionOver (nbhd nb (r+1) true) (nb c) []

theorem nbhdU_zero (nb : α → List α) (c : α) : nbhdU nb 0 c = dictUpdate [] (nb c) := rfl

theorem nbhdU_succ (nb : α → List α) (r : Nat) (c : α) :
    nbhdU nb (r+1) c = unionOver (nbhd nb (r+1) true) (nb c) [] := rfl

theorem nbhd_succ (nb : α → List α) (r : Nat) (ic : Bool) (c : α) :
    nbhd nb (r+1) ic c = if ic then dictAdd (nbhdU nb r c) c else (nbhdU nb r c).erase c := by
  cases r <;> rfl

theorem nodup_nbhdU (nb : α → List α) (r : Nat) (c : α) : (nbhdU nb r c).Nodup := by
  cases r with
  | zero => exact nodup_dictUpdate List.nodup_nil
  | succ r => exact nodup_unionOver List.nodup_nil

theorem nbhd_nodup (nb : α → List α) (r : Nat) (ic : Bool) (c : α) : (nbhd nb r ic c).Nodup := by
  cases r with
  | zero => exact List.nodup_nil
  | succ r =>
    rw [nbhd_succ]
    split
    · exact nodup_dictAdd (nodup_nbhdU nb r c)
    · exact (nodup_nbhdU nb r c).erase _

theorem mem_nbhdU (nb : α → List α) (r : Nat) (c y : α) :
    y ∈ nbhdU nb r c ↔ ∃ n ∈ nb c, Reach nb r n y := by
  induction r generalizing c with
  | zero =>
    simp only [nbhdU_zero, mem_dictUpdate, List.not_mem_nil, false_or, Reach]
    exact ⟨fun h => ⟨y, h, rfl⟩, fun ⟨n, hn, e⟩ => e ▸ hn⟩
  | succ r ih =>
    simp only [nbhdU_succ, mem_unionOver, List.not_mem_nil, false_or, nbhd_succ, if_true, mem_dictAdd, ih, Reach]
    exact exists_congr fun n => and_congr_right fun _ => or_comm

theorem nbhd_true_spec (nb : α → List α) (r : Nat) (c c' : α) :
    c' ∈ nbhd nb (r+1) true c ↔ Reach nb (r+1) c c' := by
  rw [nbhd_succ, if_pos rfl, mem_dictAdd, mem_nbhdU, or_comm]
  rfl

theorem nbhd_false_spec (nb : α → List α) (r : Nat) (c c' : α) :
    c' ∈ nbhd nb (r+1) false c ↔ c' ≠ c ∧ Reach nb (r+1) c c' := by
  rw [nbhd_succ, if_neg Bool.false_ne_true, (nodup_nbhdU nb r c).mem_erase_iff, mem_nbhdU]
  exact and_congr_right fun hne => (or_iff_right hne).symm

/-! ### "within r hops" as paths -/

/-- `p` is a walk along connections from `c` to `c'` (listing the cells after `c`) -/
def IsPath (nb : α → List α) : α → List α → α → Prop
  | c, [], c' => c' = c
  | c, n :: p, c' => n ∈ nb c ∧ IsPath nb n p c'

omit [DecidableEq α] in
theorem reach_iff_path (nb : α → List α) (r : Nat) (c c' : α) :
    Reach nb r c c' ↔ ∃ p : List α, p.length ≤ r ∧ IsPath nb c p c' := by
  induction r generalizing c with
  | zero => simp only [Reach, Nat.le_zero, List.length_eq_zero_iff, exists_eq_left, IsPath]
  | succ r ih =>
    simp only [Reach, ih]
    constructor
    · rintro (h | ⟨n, hn, p, hp, hpath⟩)
      · exact ⟨[], Nat.zero_le _, h⟩
      · exact ⟨n :: p, Nat.succ_le_succ hp, hn, hpath⟩
    · rintro ⟨p, hp, h⟩
      cases p with
      | nil => exact Or.inl h
      | cons n p => exact Or.inr ⟨n, h.1, p, Nat.le_of_succ_le_succ hp, h.2⟩

/-! ### the memo tables are transparent -/

/-- every entry of a memo table is the uncached function at the entry's *full* key -/
def MemoOK (nb : α → List α) (m : Memo α) : Prop :=
  ∀ k v, assocGet m k = some v → v = nbhd nb k.2.1 k.2.2 k.1

theorem memoOK_nil (nb : α → List α) : MemoOK nb ([] : Memo α) := nofun

theorem memoSound_cons {κ β : Type} [DecidableEq κ] {f : κ → β} {m : List (κ × β)}
    (h : ∀ k v, assocGet m k = some v → v = f k) (k0 : κ) :
    ∀ k v, assocGet ((k0, f k0) :: m) k = some v → v = f k := by
  intro k v hk
  rw [assocGet_cons] at hk
  split at hk
  · rename_i heq
    cases hk
    rw [heq]
  · exact h k v hk

theorem memoOK_cons {nb : α → List α} {m : Memo α} (h : MemoOK nb m) (c : α) (r : Nat) (ic : Bool) :
    MemoOK nb (((c, r, ic), nbhd nb r ic c) :: m) :=
  memoSound_cons h (c, r, ic)

/-- the accumulation loop of the memoised `_neighborhood` -/
def foldC (nb : α → List α) (r : Nat) (l : List α) (init : List α × Memo α) : List α × Memo α :=
  l.foldl (fun (am : List α × Memo α) n =>
    let vm := nbhdC nb r true n am.2
    (dictUpdate am.1 vm.1, vm.2)) init

theorem foldC_spec (nb : α → List α) (r : Nat)
    (ih : ∀ (c : α) (m : Memo α), MemoOK nb m →
      (nbhdC nb r true c m).1 = nbhd nb r true c ∧ MemoOK nb (nbhdC nb r true c m).2)
    (l : List α) (acc : List α) (m : Memo α) (hm : MemoOK nb m) :
    (foldC nb r l (acc, m)).1 = unionOver (nbhd nb r true) l acc ∧ MemoOK nb (foldC nb r l (acc, m)).2 := by
  induction l generalizing acc m with
  | nil => exact ⟨rfl, hm⟩
  | cons x l ihl =>
    obtain ⟨h1, h2⟩ := ih x m hm
    have := ihl (dictUpdate acc (nbhdC nb r true x m).1) (nbhdC nb r true x m).2 h2
    simp only [foldC, List.foldl_cons, unionOver] at this ⊢
    rw [h1] at this ⊢
    exact this

/-- `nbhdU` as the memoised code collects it -/
def nbhdUC (nb : α → List α) : Nat → α → Memo α → List α × Memo α
  | 0, c, m => (dictUpdate [] (nb c), m)
  | r+1, c, m => foldC nb (r+1) (nb c) ([], m)

theorem nbhdC_succ (nb : α → List α) (r : Nat) (ic : Bool) (c : α) (m : Memo α) :
    nbhdC nb (r+1) ic c m =
      match assocGet m (c, r+1, ic) with
      | some v => (v, m)
      | none =>
        let um := nbhdUC nb r c m
        let res := if ic then dictAdd um.1 c else um.1.erase c
        (res, ((c, r+1, ic), res) :: um.2) := by
  cases r <;> rfl

theorem nbhdC_spec (nb : α → List α) (r : Nat) (ic : Bool) (c : α) (m : Memo α) (hm : MemoOK nb m) :
    (nbhdC nb r ic c m).1 = nbhd nb r ic c ∧ MemoOK nb (nbhdC nb r ic c m).2 := by
  induction r generalizing ic c m with
  | zero => exact ⟨rfl, hm⟩
  | succ r ih =>
    have hU : (nbhdUC nb r c m).1 = nbhdU nb r c ∧ MemoOK nb (nbhdUC nb r c m).2 := by
      cases r with
      | zero => exact ⟨rfl, hm⟩
      | succ r => exact foldC_spec nb (r+1) (ih true) (nb c) [] m hm
    rw [nbhdC_succ]
    split
    · rename_i v hv
      exact ⟨hm _ _ hv, hm⟩
    · simp only [hU.1, ← nbhd_succ]
      exact ⟨trivial, memoOK_cons hU.2 c (r+1) ic⟩

/-- all three memo tables only hold values of the uncached function -/
def CachesOK (nb : α → List α) (cs : Caches α) : Prop :=
  MemoOK nb cs.inner ∧ MemoOK nb cs.outer ∧ ∀ c v, assocGet cs.prop c = some v → v = nbhd nb 1 false c

theorem cachesOK_empty (nb : α → List α) : CachesOK nb ({} : Caches α) :=
  ⟨memoOK_nil nb, memoOK_nil nb, nofun⟩

theorem getNbhd_spec (nb : α → List α) (r : Nat) (ic : Bool) (c : α) (cs : Caches α) (h : CachesOK nb cs) :
    (getNbhd nb r ic c cs).1 = nbhd nb r ic c ∧ CachesOK nb (getNbhd nb r ic c cs).2 := by
  obtain ⟨hi, ho, hp⟩ := h
  unfold getNbhd
  split
  · rename_i v hv
    exact ⟨ho _ _ hv, hi, ho, hp⟩
  · obtain ⟨h1, h2⟩ := nbhdC_spec nb r ic c cs.inner hi
    refine ⟨h1, h2, ?_, hp⟩
    simp only [h1]
    exact memoOK_cons ho c r ic

theorem nbProp_spec (nb : α → List α) (c : α) (cs : Caches α) (h : CachesOK nb cs) :
    (nbProp nb c cs).1 = nbhd nb 1 false c ∧ CachesOK nb (nbProp nb c cs).2 := by
  unfold nbProp
  split
  · rename_i v hv
    exact ⟨h.2.2 _ _ hv, h⟩
  · obtain ⟨h1, hi, ho, hp⟩ := getNbhd_spec nb 1 false c cs h
    refine ⟨h1, hi, ho, ?_⟩
    simp only [h1]
    exact memoSound_cons hp c

/-- a neighbourhood query as the API offers it -/
inductive Query (α : Type) where
  | get (c : α) (r : Nat) (ic : Bool)    -- `c.get_neighborhood(r, ic)`, r ≥ 1
  | prop (c : α)                          -- `c.neighborhood`

/-- the answer without any memo table -/
def Query.answer (nb : α → List α) : Query α → List α
  | .get c r ic => nbhd nb r ic c
  | .prop c => nbhd nb 1 false c

/-- the answer as the code computes it, threading the memo tables -/
def Query.run (nb : α → List α) (cs : Caches α) : Query α → List α × Caches α
  | .get c r ic => getNbhd nb r ic c cs
  | .prop c => nbProp nb c cs

/-- answers to a sequence of queries, the memo tables persisting from one to the next -/
def runQueries (nb : α → List α) : Caches α → List (Query α) → List (List α)
  | _, [] => []
  | cs, q :: qs => (q.run nb cs).1 :: runQueries nb (q.run nb cs).2 qs

theorem Query.run_spec (nb : α → List α) (cs : Caches α) (h : CachesOK nb cs) (q : Query α) :
    (q.run nb cs).1 = q.answer nb ∧ CachesOK nb (q.run nb cs).2 := by
  cases q with
  | get c r ic => exact getNbhd_spec nb r ic c cs h
  | prop c => exact nbProp_spec nb c cs h

theorem runQueries_spec (nb : α → List α) (cs : Caches α) (h : CachesOK nb cs) (qs : List (Query α)) :
    runQueries nb cs qs = qs.map (Query.answer nb) := by
  induction qs generalizing cs with
  | nil => rfl
  | cons q qs ih =>
    have hq := q.run_spec nb cs h
    simp only [runQueries, List.map_cons]
    rw [hq.1, ih _ hq.2]

/-! ### a neighbour met twice -/

theorem dictUpdate_of_subset {acc v : List α} (h : ∀ y ∈ v, y ∈ acc) : dictUpdate acc v = acc := by
  induction v generalizing acc with
  | nil => rfl
  | cons x v ih =>
    have hx : dictAdd acc x = acc := if_pos (h x (List.mem_cons_self ..))
    show dictUpdate (dictAdd acc x) v = acc
    rw [hx]
    exact ih fun y hy => h y (List.mem_cons_of_mem _ hy)

/-- Folding `dictUpdate` of `f n` over a list of neighbours `n`: a neighbour met again contributes
    nothing, so the fold may run over the distinct neighbours (in order of first occurrence). -/
theorem foldl_dictUpdate_once (f : α → List α) (l : List α) :
    l.foldl (fun acc n => dictUpdate acc (f n)) [] =
      (dictUpdate [] l).foldl (fun acc n => dictUpdate acc (f n)) [] := by
  -- `seen`: neighbours already folded in; everything they contributed is in `acc`
  have key : ∀ (l seen acc : List α), (∀ m ∈ seen, ∀ y ∈ f m, y ∈ acc) →
      ∃ news, dictUpdate seen l = seen ++ news ∧
        l.foldl (fun acc n => dictUpdate acc (f n)) acc = news.foldl (fun acc n => dictUpdate acc (f n)) acc := by
    intro l
    induction l with
    | nil => exact fun seen acc _ => ⟨[], (List.append_nil _).symm, rfl⟩
    | cons x l ih =>
      intro seen acc h
      by_cases hx : x ∈ seen
      · obtain ⟨news, h1, h2⟩ := ih seen acc h
        refine ⟨news, ?_, ?_⟩
        · show dictUpdate (dictAdd seen x) l = _
          rw [show dictAdd seen x = seen from if_pos hx]
          exact h1
        · show l.foldl _ (dictUpdate acc (f x)) = _
          rw [dictUpdate_of_subset (h x hx)]
          exact h2
      · obtain ⟨news, h1, h2⟩ := ih (seen ++ [x]) (dictUpdate acc (f x)) (by
          intro m hm y hy
          rw [mem_dictUpdate]
          rcases List.mem_append.mp hm with hm | hm
          · exact Or.inl (h m hm y hy)
          · rw [List.mem_singleton.mp hm] at hy
            exact Or.inr hy)
        refine ⟨x :: news, ?_, h2⟩
        show dictUpdate (dictAdd seen x) l = _
        rw [show dictAdd seen x = seen ++ [x] from if_neg hx, h1, List.append_assoc]
        rfl
  obtain ⟨news, h1, h2⟩ := key l [] [] (fun _ hm => absurd hm List.not_mem_nil)
  rw [h2, h1, List.nil_append]

/-- a table of `f` over `keys`, asked for `n`, falling back on `f n` itself, answers `f n` -/
theorem assocGet_map_getD (f : α → List α) (keys : List α) (n : α) :
    (assocGet (keys.map fun k => (k, f k)) n).getD (f n) = f n := by
  induction keys with
  | nil => rfl
  | cons k ks ih =>
    simp only [List.map_cons, assocGet]
    split
    · next h =>
      rw [h]
      rfl
    · exact ih

/-- `nbhd` as the kernel evaluates it cheaply: for radius ≥ 2 each distinct neighbour of the centre is visited once
    (`foldl_dictUpdate_once`), and the neighbourhoods one radius down are taken from a table over `keys`, which all
    centres of one grid share (a cell the table lacks is computed directly, so `keys` is arbitrary) -/
def nbhdTab (nb : α → List α) (keys : List α) : Nat → Bool → α → List α
  | r+2, ic, c =>
      let tab := keys.map fun k => (k, nbhd nb (r+1) true k)
      let u := (dictUpdate [] (nb c)).foldl
        (fun acc n => dictUpdate acc ((assocGet tab n).getD (nbhd nb (r+1) true n))) []
      if ic then dictAdd u c else u.erase c
  | r, ic, c => nbhd nb r ic c

theorem nbhdTab_eq (nb : α → List α) (keys : List α) (r : Nat) (ic : Bool) (c : α) :
    nbhdTab nb keys r ic c = nbhd nb r ic c := by
  match r with
  | 0 | 1 => rfl
  | r+2 => simp only [nbhdTab, nbhd, assocGet_map_getD, ← foldl_dictUpdate_once]

end Generic
end Mesa.Cells
