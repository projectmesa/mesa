import MesaModel.Proofs.LegacySelect
import MesaModel.Proofs.LegacyHist
/-! `coord_iter` and `select_cells` see only the observable part of a grid: they answer the same after a history
and after the same history without its rejected calls (C18-legacy). -/
namespace Mesa.Legacy

open Grid

theorem allCells_obs {g g' : Grid} (h : ObsEq g g') : g'.allCells = g.allCells := by
  obtain ⟨h1, h2, _⟩ := h
  simp only [allCells, h1, h2]

theorem applyExtremes_obs {g g' : Grid} (h : ObsEq g g') (ls : Layers) (exts : List Extreme) (m : CMask) :
    g'.applyExtremes ls exts m = g.applyExtremes ls exts m := by
  induction exts generalizing m with
  | nil => rfl
  | cons e es ih => simp only [applyExtremes, allCells_obs h, ih]

theorem coordIter_select_obs {g g' : Grid} (h : ObsEq g g') :
    g'.coordIter = g.coordIter ∧
    ∀ ls masks oe conds exts, g'.selectCells ls masks oe conds exts = g.selectCells ls masks oe conds exts ∧
      g'.selectMask ls masks oe conds exts = g.selectMask ls masks oe conds exts := by
  have ha := allCells_obs h
  obtain ⟨_, _, _, _, _, hc, _, hm⟩ := h
  refine ⟨by simp only [coordIter, ha, hc], fun ls masks oe conds exts => ?_⟩
  have hmask : g'.selectMask ls masks oe conds exts = g.selectMask ls masks oe conds exts := by
    simp only [selectMask, hm, applyExtremes_obs ⟨‹_›, ‹_›, ‹_›, ‹_›, ‹_›, hc, ‹_›, hm⟩]
  exact ⟨by simp only [selectCells, hmask, ha], hmask⟩

end Mesa.Legacy
