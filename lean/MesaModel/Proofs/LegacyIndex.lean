import MesaModel.Proofs.Legacy
/-!
The read paths of the legacy grids that take arbitrary integers and slices (C08: "indexing shows the same
contents"): Python list indexing with negative-index aliasing (`is_cell_empty`, `grid[x]`,
`get_cell_list_contents`), slices (`grid[x, a:b]`, `grid[:, y]`, `grid[::2, ::-1]`), tuples of positions.  Defines `Grid.aliasCell` (C09's statement about `get_cell_list_contents`).
-/
namespace Mesa.Legacy

open Grid

/-! ### Python int indexing -/

theorem pyIndex_inRange (n i : Int) (h : 0 ≤ i ∧ i < n) : pyIndex n i = .ok i := by simp [pyIndex, h]

theorem pyIndex_negative (n i : Int) (h : -n ≤ i ∧ i < 0) : pyIndex n i = .ok (i + n) := by
  unfold pyIndex
  rw [if_neg (by omega), if_pos h]

theorem pyIndex_outside (n i : Int) (h : i < -n ∨ n ≤ i) (hn : 0 ≤ n) : pyIndex n i = .error .index := by
  unfold pyIndex
  rw [if_neg (by omega), if_neg (by omega)]

theorem pyIndex_ok (n i j : Int) (h : pyIndex n i = .ok j) : 0 ≤ j ∧ j < n ∧ (j = i ∨ j = i + n) := by
  unfold pyIndex at h
  split at h
  · cases h
    omega
  · split at h
    · cases h
      omega
    · cases h

theorem rawCell_ok (g : Grid) (p c : Coord) (h : g.rawCell p = .ok c) :
    g.inGrid c ∧ (c.1 = p.1 ∨ c.1 = p.1 + g.w) ∧ (c.2 = p.2 ∨ c.2 = p.2 + g.h) := by
  unfold rawCell at h
  cases hx : pyIndex g.w p.1 with
  | error e =>
    rw [hx] at h
    cases h
  | ok x =>
    cases hy : pyIndex g.h p.2 with
    | error e =>
      rw [hx, hy] at h
      cases h
    | ok y =>
      rw [hx, hy] at h
      cases h
      have h1 := pyIndex_ok _ _ _ hx
      have h2 := pyIndex_ok _ _ _ hy
      exact ⟨⟨h1.1, h1.2.1, h2.1, h2.2.1⟩, h1.2.2, h2.2.2⟩

theorem rawCell_inGrid (g : Grid) (p : Coord) (h : g.inGrid p) : g.rawCell p = .ok p := by
  unfold rawCell
  rw [pyIndex_inRange _ _ ⟨h.1, h.2.1⟩, pyIndex_inRange _ _ ⟨h.2.2.1, h.2.2.2⟩]

theorem pyIndex_error_iff (n i : Int) (hn : 0 ≤ n) : (∃ e, pyIndex n i = .error e) ↔ i < -n ∨ n ≤ i := by
  unfold pyIndex
  by_cases h1 : 0 ≤ i ∧ i < n
  · rw [if_pos h1]
    exact ⟨fun ⟨e, h⟩ => (by cases h), fun h => by omega⟩
  · by_cases h2 : -n ≤ i ∧ i < 0
    · rw [if_neg h1, if_pos h2]
      exact ⟨fun ⟨e, h⟩ => (by cases h), fun h => by omega⟩
    · rw [if_neg h1, if_neg h2]
      exact ⟨fun _ => by omega, fun _ => ⟨_, rfl⟩⟩

theorem rawCell_error (g : Grid) (hw : 0 < g.w) (hh : 0 < g.h) (p : Coord) :
    (∃ e, g.rawCell p = .error e) ↔ (p.1 < -g.w ∨ g.w ≤ p.1 ∨ p.2 < -g.h ∨ g.h ≤ p.2) := by
  rw [← or_assoc, ← pyIndex_error_iff g.w p.1 (by omega), ← pyIndex_error_iff g.h p.2 (by omega)]
  unfold rawCell
  cases pyIndex g.w p.1 with
  | error e => exact ⟨fun _ => Or.inl ⟨e, rfl⟩, fun _ => ⟨e, rfl⟩⟩
  | ok x =>
    cases pyIndex g.h p.2 with
    | error e => exact ⟨fun _ => Or.inr ⟨e, rfl⟩, fun _ => ⟨e, rfl⟩⟩
    | ok y => exact ⟨fun ⟨e, h⟩ => (by cases h), fun h => by rcases h with ⟨e, h⟩ | ⟨e, h⟩ <;> cases h⟩

theorem rawCells_cons_ok (g : Grid) (p : Coord) (ps cs : List Coord) :
    g.rawCells (p :: ps) = .ok cs ↔ ∃ c cs', g.rawCell p = .ok c ∧ g.rawCells ps = .ok cs' ∧ cs = c :: cs' := by
  rw [rawCells]
  cases g.rawCell p with
  | error e => simp
  | ok c => cases g.rawCells ps <;> simp [eq_comm]

theorem rawCells_ok (g : Grid) (ps cs : List Coord) (h : g.rawCells ps = .ok cs) :
    cs.length = ps.length ∧ ∀ c ∈ cs, g.inGrid c := by
  induction ps generalizing cs with
  | nil =>
    simp [rawCells] at h
    subst h
    simp
  | cons p ps ih =>
    obtain ⟨c, cs', hc, hr, rfl⟩ := (rawCells_cons_ok g p ps cs).mp h
    obtain ⟨h1, h2⟩ := ih cs' hr
    refine ⟨by simp [h1], fun c' hc' => ?_⟩
    rcases List.mem_cons.mp hc' with rfl | hm
    · exact (rawCell_ok g p _ hc).1
    · exact h2 c' hm

/-- the cell Python's list indexing denotes: an index in `-size .. -1` counts from the end -/
def Grid.aliasCell (g : Grid) (p : Coord) : Coord :=
  (if p.1 < 0 then p.1 + g.w else p.1, if p.2 < 0 then p.2 + g.h else p.2)

theorem rawCell_ok_alias (g : Grid) (p c : Coord) (h : g.rawCell p = .ok c) : c = g.aliasCell p := by
  obtain ⟨⟨h1, h2, h3, h4⟩, hx, hy⟩ := rawCell_ok g p c h
  unfold Grid.aliasCell
  apply Prod.ext <;> simp only <;> split <;> omega

theorem rawCells_ok_alias (g : Grid) (ps cs : List Coord) (h : g.rawCells ps = .ok cs) : cs = ps.map g.aliasCell := by
  induction ps generalizing cs with
  | nil =>
    simp [rawCells] at h
    subst h
    rfl
  | cons p ps ih =>
    obtain ⟨c, cs', hc, hr, rfl⟩ := (rawCells_cons_ok g p ps cs).mp h
    rw [List.map_cons, ← ih cs' hr, ← rawCell_ok_alias g p c hc]

theorem rawCells_inGrid (g : Grid) (ps : List Coord) (h : ∀ p ∈ ps, g.inGrid p) : g.rawCells ps = .ok ps := by
  induction ps with
  | nil => rfl
  | cons p ps ih =>
    unfold rawCells
    rw [rawCell_inGrid g p (h p (by simp)), ih (fun q hq => h q (by simp [hq]))]

theorem rawCells_error (g : Grid) (hw : 0 < g.w) (hh : 0 < g.h) (ps : List Coord)
    (h : ∃ p ∈ ps, p.1 < -g.w ∨ g.w ≤ p.1 ∨ p.2 < -g.h ∨ g.h ≤ p.2) : ∃ e, g.rawCells ps = .error e := by
  induction ps with
  | nil =>
    obtain ⟨p, hp, _⟩ := h
    cases hp
  | cons q qs ih =>
    obtain ⟨p, hp, hbad⟩ := h
    unfold rawCells
    cases hc : g.rawCell q with
    | error e => exact ⟨e, rfl⟩
    | ok c =>
      rcases List.mem_cons.mp hp with rfl | hm
      · obtain ⟨e, he⟩ := (rawCell_error g hw hh p).mpr hbad
        rw [he] at hc
        cases hc
      · obtain ⟨e, he⟩ := ih ⟨p, hm, hbad⟩
        rw [he]
        exact ⟨e, rfl⟩

/-! ### `range` and slices -/

theorem mem_pyRange_pos (a b s : Int) (hs : 0 < s) (i : Int) :
    i ∈ pyRange a b s ↔ ∃ k : Nat, i = a + (k : Int) * s ∧ i < b := by
  unfold pyRange
  rw [if_pos hs]
  simp only [List.mem_map, List.mem_range]
  have key : ∀ k : Nat, k < ((b - a + s - 1) / s).toNat ↔ a + (k : Int) * s < b := by
    intro k
    rw [Int.lt_toNat]
    have : (k : Int) < (b - a + s - 1) / s ↔ (k : Int) + 1 ≤ (b - a + s - 1) / s := by omega
    rw [this, Int.le_ediv_iff_mul_le hs, Int.add_mul]
    omega
  constructor
  · rintro ⟨k, hk, rfl⟩
    exact ⟨k, rfl, (key k).mp hk⟩
  · rintro ⟨k, rfl, hk⟩
    exact ⟨k, (key k).mpr hk, rfl⟩

theorem mem_pyRange_neg (a b s : Int) (hs : s < 0) (i : Int) :
    i ∈ pyRange a b s ↔ ∃ k : Nat, i = a + (k : Int) * s ∧ b < i := by
  unfold pyRange
  rw [if_neg (by omega)]
  simp only [List.mem_map, List.mem_range]
  have hs' : 0 < -s := by omega
  have key : ∀ k : Nat, k < ((a - b + -s - 1) / -s).toNat ↔ b < a + (k : Int) * s := by
    intro k
    rw [Int.lt_toNat]
    have : (k : Int) < (a - b + -s - 1) / -s ↔ (k : Int) + 1 ≤ (a - b + -s - 1) / -s := by omega
    rw [this, Int.le_ediv_iff_mul_le hs', Int.add_mul, Int.mul_neg]
    omega
  constructor
  · rintro ⟨k, hk, rfl⟩
    exact ⟨k, rfl, (key k).mp hk⟩
  · rintro ⟨k, rfl, hk⟩
    exact ⟨k, (key k).mpr hk, rfl⟩

theorem pyRange_sorted_pos (a b s : Int) (hs : 0 < s) : (pyRange a b s).Pairwise (· < ·) := by
  unfold pyRange
  rw [if_pos hs, List.pairwise_map]
  refine List.Pairwise.imp ?_ List.pairwise_lt_range
  intro x y hxy
  have : (x : Int) * s < (y : Int) * s := Int.mul_lt_mul_of_pos_right (by omega) hs
  omega

theorem pyRange_sorted_neg (a b s : Int) (hs : s < 0) : (pyRange a b s).Pairwise (· > ·) := by
  unfold pyRange
  rw [if_neg (by omega), List.pairwise_map]
  refine List.Pairwise.imp ?_ List.pairwise_lt_range
  intro x y hxy
  have : (x : Int) * (-s) < (y : Int) * (-s) := Int.mul_lt_mul_of_pos_right (by omega) (by omega)
  rw [Int.mul_neg, Int.mul_neg] at this
  show a + (y : Int) * s < a + (x : Int) * s
  omega

theorem adjBound_range (n lo hi v : Int) (hlo : lo ≤ hi) (h1 : lo ≤ 0) (h4 : n - 1 ≤ hi) :
    lo ≤ adjBound n lo hi v ∧ adjBound n lo hi v ≤ hi := by
  unfold adjBound
  simp only []
  split
  · split <;> omega
  · split <;> omega

theorem sliceIndices_ok (n : Int) (s : PySlice) (l : List Int) (h : sliceIndices n s = .ok l) :
    s.step.getD 1 ≠ 0 ∧
    ((0 < s.step.getD 1 ∧ ∃ a b, 0 ≤ a ∧ b ≤ n ∧ l = pyRange a b (s.step.getD 1)) ∨
     (s.step.getD 1 < 0 ∧ ∃ a b, a ≤ n - 1 ∧ -1 ≤ b ∧ l = pyRange a b (s.step.getD 1))) ∨ n < 0 := by
  by_cases hn : n < 0
  · exact Or.inr hn
  · left
    unfold sliceIndices at h
    simp only [] at h
    by_cases h0 : s.step.getD 1 = 0
    · rw [if_pos h0] at h
      cases h
    · rw [if_neg h0] at h
      refine ⟨h0, ?_⟩
      by_cases hp : s.step.getD 1 > 0
      · rw [if_pos hp] at h
        cases h
        left
        refine ⟨hp, _, _, ?_, ?_, rfl⟩
        · cases s.start with
          | none => simp
          | some v => exact (adjBound_range n 0 n v (by omega) (by omega) (by omega)).1
        · cases s.stop with
          | none => simp
          | some v => exact (adjBound_range n 0 n v (by omega) (by omega) (by omega)).2
      · rw [if_neg hp] at h
        cases h
        right
        refine ⟨by omega, _, _, ?_, ?_, rfl⟩
        · cases s.start with
          | none => simp
          | some v => exact (adjBound_range n (-1) (n - 1) v (by omega) (by omega) (by omega)).2
        · cases s.stop with
          | none => simp
          | some v => exact (adjBound_range n (-1) (n - 1) v (by omega) (by omega) (by omega)).1

/-- a slice never reaches outside the list and never repeats an index -/
theorem sliceIndices_spec (n : Int) (hn : 0 ≤ n) (s : PySlice) (l : List Int) (h : sliceIndices n s = .ok l) :
    (∀ i ∈ l, 0 ≤ i ∧ i < n) ∧ l.Nodup ∧
    (0 < s.step.getD 1 → l.Pairwise (· < ·)) ∧ (s.step.getD 1 < 0 → l.Pairwise (· > ·)) := by
  rcases sliceIndices_ok n s l h with ⟨_, hcase⟩ | hneg
  · rcases hcase with ⟨hs, a, b, ha, hb, rfl⟩ | ⟨hs, a, b, ha, hb, rfl⟩
    · have hsorted := pyRange_sorted_pos a b _ hs
      refine ⟨?_, ?_, fun _ => hsorted, fun h' => by omega⟩
      · intro i hi
        obtain ⟨k, rfl, hk⟩ := (mem_pyRange_pos a b _ hs i).mp hi
        have : 0 ≤ (k : Int) * s.step.getD 1 := Int.mul_nonneg (by omega) (by omega)
        omega
      · exact hsorted.imp (fun h => by omega)
    · have hsorted := pyRange_sorted_neg a b _ hs
      refine ⟨?_, ?_, fun h' => by omega, fun _ => hsorted⟩
      · intro i hi
        obtain ⟨k, rfl, hk⟩ := (mem_pyRange_neg a b _ hs i).mp hi
        have : 0 ≤ (k : Int) * (-(s.step.getD 1)) := Int.mul_nonneg (by omega) (by omega)
        rw [Int.mul_neg] at this
        omega
      · exact hsorted.imp (fun h => by omega)
  · omega

theorem pyRange_unit (a b : Int) : pyRange a b 1 = (List.range (b - a).toNat).map fun (k : Nat) => a + (k : Int) := by
  unfold pyRange
  simp

/-- `l[:]` selects every index, in order -/
theorem sliceIndices_full (n : Int) : sliceIndices n ⟨none, none, none⟩ = .ok ((List.range n.toNat).map fun (k : Nat) => (k : Int)) := by
  unfold sliceIndices
  simp [pyRange_unit]

theorem adjBound_id (n v : Int) (h0 : 0 ≤ v) (h1 : v ≤ n) : adjBound n 0 n v = v := by
  unfold adjBound
  simp only []
  rw [if_neg (by omega)]
  split <;> omega

/-- `l[a:b]` with `0 ≤ a ≤ b ≤ len(l)` selects `a, a+1, …, b-1` -/
theorem sliceIndices_simple (n a b : Int) (h : 0 ≤ a ∧ a ≤ b ∧ b ≤ n) :
    sliceIndices n ⟨some a, some b, none⟩ = .ok ((List.range (b - a).toNat).map fun (k : Nat) => a + (k : Int)) := by
  unfold sliceIndices
  simp [adjBound_id n a (by omega) (by omega), adjBound_id n b (by omega) (by omega), pyRange_unit]

/-- membership in a slice with a positive step and explicit in-range bounds: the arithmetic progression -/
theorem mem_sliceIndices_step (n a b st : Int) (h : 0 ≤ a ∧ a ≤ n ∧ 0 ≤ b ∧ b ≤ n) (hst : 0 < st) (i : Int) :
    (∃ l, sliceIndices n ⟨some a, some b, some st⟩ = .ok l ∧ (i ∈ l ↔ ∃ k : Nat, i = a + (k : Int) * st ∧ i < b)) := by
  refine ⟨pyRange a b st, ?_, mem_pyRange_pos a b st hst i⟩
  unfold sliceIndices
  simp only [Option.getD_some]
  rw [if_neg (by omega), if_pos hst, adjBound_id n a h.1 h.2.1, adjBound_id n b h.2.2.1 h.2.2.2]

/-! ### `__getitem__` -/

theorem adjAll_cons_ok (g : Grid) (p : Coord) (ps cs : List Coord) :
    g.adjAll (p :: ps) = .ok cs ↔ ∃ c cs', g.torusAdj p = .ok c ∧ g.adjAll ps = .ok cs' ∧ cs = c :: cs' := by
  rw [adjAll]
  cases g.torusAdj p with
  | error e => simp
  | ok c => cases g.adjAll ps <;> simp [eq_comm]

theorem adjAll_ok (g : Grid) (hw : 0 < g.w) (hh : 0 < g.h) (ps cs : List Coord) (h : g.adjAll ps = .ok cs) :
    cs.length = ps.length ∧ (∀ c ∈ cs, g.inGrid c) ∧ ∀ pc ∈ ps.zip cs, g.torusAdj pc.1 = .ok pc.2 := by
  induction ps generalizing cs with
  | nil =>
    simp [adjAll] at h
    subst h
    simp
  | cons p ps ih =>
    obtain ⟨c, cs', hc, hr, rfl⟩ := (adjAll_cons_ok g p ps cs).mp h
    obtain ⟨h1, h2, h3⟩ := ih cs' hr
    refine ⟨by simp [h1], fun c' hc' => ?_, fun pc hpc => ?_⟩
    · rcases List.mem_cons.mp hc' with rfl | hm
      · exact (torusAdj_ok g hw hh p _ hc).1
      · exact h2 c' hm
    · rw [List.zip_cons_cons] at hpc
      rcases List.mem_cons.mp hpc with rfl | hm
      · exact hc
      · exact h3 pc hm

theorem getColumn_spec (g : Grid) (hw : 0 < g.w) (i : Int) :
    (0 ≤ i ∧ i < g.w → g.getColumn i = .ok ((List.range g.h.toNat).map fun (y : Nat) => (i, (y : Int)))) ∧
    (-g.w ≤ i ∧ i < 0 → g.getColumn i = .ok ((List.range g.h.toNat).map fun (y : Nat) => (i + g.w, (y : Int)))) ∧
    (i < -g.w ∨ g.w ≤ i → g.getColumn i = .error .index) := by
  unfold getColumn
  refine ⟨fun h => by rw [pyIndex_inRange _ _ h], fun h => by rw [pyIndex_negative _ _ h], fun h => by rw [pyIndex_outside _ _ h (by omega)]⟩

theorem getItem2_inGrid (g : Grid) (hw : 0 < g.w) (hh : 0 < g.h) (ix iy : Ix) (cs : List Coord) (h : g.getItem2 ix iy = .ok cs) :
    ∀ c ∈ cs, g.inGrid c := by
  -- every coordinate comes from `torus_adj` or from a slice of the axis
  have hadj : ∀ p c, g.torusAdj p = .ok c → g.inGrid c := fun p c h => (torusAdj_ok g hw hh p c h).1
  have hsw : ∀ s l, sliceIndices g.w s = .ok l → ∀ i ∈ l, 0 ≤ i ∧ i < g.w := fun s l h =>
    (sliceIndices_spec g.w (by omega) s l h).1
  have hsh : ∀ s l, sliceIndices g.h s = .ok l → ∀ i ∈ l, 0 ≤ i ∧ i < g.h := fun s l h =>
    (sliceIndices_spec g.h (by omega) s l h).1
  intro c' hc'
  unfold getItem2 at h
  split at h
  · split at h
    · cases h
    · rename_i c ht
      cases h
      rw [List.mem_singleton] at hc'
      subst hc'
      exact hadj _ _ ht
  · split at h
    · cases h
    · rename_i c ht
      split at h
      · cases h
      · rename_i ys hs
        cases h
        obtain ⟨y, hy, rfl⟩ := List.mem_map.mp hc'
        exact ⟨(hadj _ _ ht).1, (hadj _ _ ht).2.1, hsh _ _ hs y hy⟩
  · split at h
    · cases h
    · rename_i c ht
      split at h
      · cases h
      · rename_i xs hs
        cases h
        obtain ⟨x, hx, rfl⟩ := List.mem_map.mp hc'
        exact ⟨(hsw _ _ hs x hx).1, (hsw _ _ hs x hx).2, (hadj _ _ ht).2.2⟩
  · split at h
    · cases h
    · rename_i xs hsx
      split at h
      · cases h
        cases hc'
      · split at h
        · cases h
        · rename_i ys hsy
          cases h
          simp only [List.mem_flatMap, List.mem_map] at hc'
          obtain ⟨x, hx, y, hy, rfl⟩ := hc'
          exact ⟨(hsw _ _ hsx x hx).1, (hsw _ _ hsx x hx).2, hsh _ _ hsy y hy⟩

/-- `grid[:, :]` lists the cells in iteration order -/
theorem getItem2_full (g : Grid) (hw : 0 < g.w) :
    g.getItem2 (.slice ⟨none, none, none⟩) (.slice ⟨none, none, none⟩) = .ok g.allCells := by
  simp only [getItem2, sliceIndices_full]
  have : ((List.range g.w.toNat).map fun (k : Nat) => (k : Int)).isEmpty = false := by
    have : g.w.toNat ≠ 0 := by omega
    cases hn : g.w.toNat with
    | zero => exact absurd hn this
    | succ m => simp [List.range_succ_eq_map]
  rw [this]
  simp only [Bool.false_eq_true, if_false]
  unfold allCells
  simp [List.flatMap_map, List.map_map, Function.comp_def]

/-- `grid[x, :]` is column `x` (the one `grid[x]` returns) for an in-grid `x` -/
theorem getItem2_column (g : Grid) (hh : 0 < g.h) (x : Int) (hx : 0 ≤ x ∧ x < g.w) :
    g.getItem2 (.int x) (.slice ⟨none, none, none⟩) = g.getColumn x := by
  simp only [getItem2, getColumn]
  rw [torusAdj_inGrid g (x, 0) ⟨hx.1, hx.2, by simp, by simpa using hh⟩, sliceIndices_full, pyIndex_inRange _ _ hx]
  simp [List.map_map, Function.comp_def]

theorem getItem2_int_int (g : Grid) (x y : Int) :
    g.getItem2 (.int x) (.int y) = (g.torusAdj (x, y)).map fun c => [c] := by
  simp only [getItem2]
  cases g.torusAdj (x, y) <;> rfl

theorem getMany_ok (g : Grid) (hw : 0 < g.w) (hh : 0 < g.h) (ps cs : List Coord) (h : g.getMany ps = .ok cs) :
    cs.length = ps.length ∧ (∀ c ∈ cs, g.inGrid c) ∧ ∀ pc ∈ ps.zip cs, g.torusAdj pc.1 = .ok pc.2 := by
  unfold getMany at h
  split at h
  · cases h
  · exact adjAll_ok g hw hh ps cs h

theorem sliceIndices_error (n : Int) (s : PySlice) : sliceIndices n s = .error .value ↔ s.step = some 0 := by
  unfold sliceIndices
  simp only []
  constructor
  · intro h
    by_cases h0 : s.step.getD 1 = 0
    · cases hs : s.step with
      | none =>
        rw [hs] at h0
        simp at h0
      | some v =>
        rw [hs] at h0
        simp at h0
        rw [h0]
    · rw [if_neg h0] at h
      split at h <;> cases h
  · intro h
    rw [h]
    simp

end Mesa.Legacy
