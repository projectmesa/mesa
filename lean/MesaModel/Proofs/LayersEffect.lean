import MesaModel.Proofs.LayersOps
/-!
What one op does to a state, said once (`step_outcome`): an op that answers with an error returns the state it was
given; any other op either leaves the tables alone and writes at most the arrays it targets (`Writes`), or is one of
the few changes of the tables (`Effect`).  Preservation of `WF` and the frame lemmas of the other `Layers*` files are
read off this classification.
-/
namespace Mesa.Layers

/-! ### the result of a call -/

def Out.isErr : Out → Bool
  | .err _ => true
  | _ => false

/-- The result of a call: an error together with the unchanged state — a call that raises changes nothing — or an
    answer that is no error together with a state of which `P` holds. -/
inductive Outcome (s : State) (P : State → Prop) : State × Out → Prop
  | err (e : Err) : Outcome s P (s, .err e)
  | ok {s' : State} {o : Out} (ho : o.isErr = false) (h : P s') : Outcome s P (s', o)

namespace Outcome
variable {s : State} {P Q : State → Prop} {k : State × Out}

theorem same (hs : P s) (o : Out) : Outcome s P (s, o) := by
  cases o with
  | err e => exact .err e
  | _ => exact .ok rfl hs

theorem mono (h : Outcome s P k) (hPQ : ∀ t, P t → Q t) : Outcome s Q k := by
  cases h with
  | err e => exact .err e
  | ok ho h => exact .ok ho (hPQ _ h)

theorem fst (h : Outcome s P k) (hs : P s) : P k.1 := by
  cases h with
  | err e => exact hs
  | ok _ h => exact h

theorem reject (h : Outcome s P k) (he : k.2.isErr = true) : k.1 = s := by
  cases h with
  | err e => rfl
  | ok ho _ =>
    rw [ho] at he
    cases he

theorem of_ok {s' : State} {o : Out} (h : Outcome s P (s', o)) (ho : o.isErr = false) : P s' := by
  cases h with
  | err e => cases ho
  | ok _ h => exact h

theorem guard (h : Outcome s P k) (l : Nat) (b : Bool) : Outcome s P (vecGuard s l b k) := by
  unfold vecGuard
  split
  · exact .err _
  · exact h

end Outcome

/-! ### ops that leave the tables alone -/

/-- `T`: the arrays that may have been written; `A`: the agents may have changed -/
structure Writes (T : Nat → Prop) (A : Prop) (s s' : State) : Prop where
  shape : SameShape s s'
  gattrs : s'.gattrs = s.gattrs
  agents : ¬ A → s'.agents = s.agents
  heap : ∀ a, ¬ T a → s'.heap a = s.heap a

namespace Writes
variable {T : Nat → Prop} {A : Prop} {s t u : State}

theorem refl : Writes T A s s := ⟨.refl s, rfl, fun _ => rfl, fun _ _ => rfl⟩

theorem trans (h1 : Writes T A s t) (h2 : Writes T A t u) : Writes T A s u :=
  ⟨h1.shape.trans h2.shape, h2.gattrs.trans h1.gattrs, fun hA => (h2.agents hA).trans (h1.agents hA),
   fun a ha => (h2.heap a ha).trans (h1.heap a ha)⟩

theorem write {a : Nat} (ha : T a) (x : Arr) : Writes T A s (s.write a x) :=
  ⟨.rest s .., rfl, fun _ => rfl,
   fun _ hb => upd_other _ _ _ _ (fun e => hb (e ▸ ha))⟩

theorem side (ag : List (Nat × Coord)) (i : List ((String × Coord) × Int)) (m : List (Nat × (Coord → Bool)))
    (hA : A ∨ ag = s.agents) : Writes T A s { s with agents := ag, inst := i, masks := m } :=
  ⟨.rest s .., rfl, fun h => hA.elim (fun a => absurd a h) id, fun _ _ => rfl⟩

end Writes

/-- the targets of a write: the array of layer `l` … -/
def State.owns (s : State) (l a : Nat) : Prop := l < s.nLayers ∧ a = (s.layers l).data

/-- … and the array the cell attribute `n` goes to (its descriptor's layer; legacy: the layer attached under `n`) -/
def State.cellArr (s : State) (n : String) (a : Nat) : Prop := ∃ l, s.cellLayer? n = some l ∧ a = (s.layers l).data

/-- `a` is the array the grid's own emptiness writes go to: through the cell attribute `empty` (new), array 0 (legacy) -/
def State.emptyTarget (s : State) (a : Nat) : Prop := if s.impl = .new then s.cellArr "empty" a else a = 0

theorem emptyTarget_congr {s t : State} (h : SameShape s t) : t.emptyTarget = s.emptyTarget := by
  unfold State.emptyTarget State.cellArr State.cellLayer?
  rw [h.impl, h.descr, h.attached, h.layers]

theorem emptyTarget_new {s : State} (hi : s.impl = .new) : s.emptyTarget = s.cellArr "empty" := by
  funext a
  unfold State.emptyTarget
  rw [if_pos hi]

theorem emptyTarget_legacy {s : State} (hi : s.impl ≠ .new) (a : Nat) : s.emptyTarget a ↔ a = 0 := by
  unfold State.emptyTarget
  rw [if_neg hi]

section
variable {A : Prop}

theorem writes_cellAttrWrite {s : State} (hi : s.impl = .new) (n : String) (c : Coord) (v : Int) :
    Writes (s.cellArr n) A s (cellAttrWrite s n c v) := by
  unfold cellAttrWrite
  split
  · next l hl => exact .write ⟨l, (if_pos hi).trans hl, rfl⟩ _
  · exact .side _ _ _ (.inr rfl)

theorem writes_writeEmpty (s : State) (c : Coord) (v : Int) : Writes s.emptyTarget A s (writeEmpty s c v) := by
  unfold writeEmpty
  split
  · next hi =>
      rw [emptyTarget_new hi]
      exact writes_cellAttrWrite hi ..
  · next hi => exact .write ((emptyTarget_legacy hi 0).mpr rfl) _

theorem writes_afterLeave (s : State) (c : Coord) : Writes s.emptyTarget A s (afterLeave s c) := by
  unfold afterLeave
  split
  · exact writes_writeEmpty ..
  · exact writes_writeEmpty ..
  · split
    · exact writes_writeEmpty ..
    · exact .refl

theorem layerSet_outcome (s : State) (l : Nat) (c : Coord) (v : Int) :
    Outcome s (fun t => l < s.nLayers ∧ inBounds (s.layers l).dims c = true ∧
      t = s.write (s.layers l).data ((s.heap (s.layers l).data).set c v)) (layerSet s l c v) := by
  unfold layerSet
  split
  · exact .err _
  · next L hL =>
    obtain ⟨hl, rfl⟩ := layer?_some hL
    split
    · exact .err _
    · next hb => exact .ok rfl ⟨hl, by simpa using hb, rfl⟩

theorem writes_layerSet (s : State) (l : Nat) (c : Coord) (v : Int) :
    Outcome s (Writes (s.owns l) A s) (layerSet s l c v) :=
  (layerSet_outcome s l c v).mono fun _ ⟨hl, _, e⟩ => e ▸ .write ⟨hl, rfl⟩ _

theorem writes_cellSet (s : State) (n : String) (c : Coord) (v : Int) :
    Outcome s (Writes (s.cellArr n) A s) (cellSet s n c v) := by
  unfold cellSet
  split
  · next hi =>
    split
    · exact .err _
    · split
      · exact .err _
      · exact .ok rfl (writes_cellAttrWrite hi ..)
  · next hi =>
    split
    · exact .err _
    · next l hl =>
      dsimp only
      split
      · exact .err _
      · exact .ok rfl (.write ⟨l, (if_neg hi).trans hl, rfl⟩ _)

theorem writes_cellSet2 (s : State) (l : Nat) (c : Coord) (w : WVal) :
    Outcome s (Writes (s.owns l) A s) (cellSet2 s l c w) := by
  unfold cellSet2
  split
  · exact .err _
  · exact writes_layerSet ..

theorem writes_setCells (s : State) (l : Nat) (v : Int) (cond : Option (Int → Bool)) :
    Outcome s (Writes (s.owns l) A s) (setCells s l v cond) := by
  unfold setCells
  split
  · exact .err _
  · next L hL =>
    obtain ⟨hl, rfl⟩ := layer?_some hL
    exact .ok rfl (.write ⟨hl, rfl⟩ _)

theorem writes_setCellsV (s : State) (l : Nat) (x : Val) (cond : Option (Int → Bool)) :
    Outcome s (Writes (s.owns l) A s) (setCellsV s l x cond) := by
  unfold setCellsV
  split
  · exact .err _
  · split
    · exact .err _
    · exact writes_setCells ..

theorem writes_setFrom (s : State) (l : Nat) (hd : Nat) (cond : Option (Int → Bool)) :
    Outcome s (Writes (s.owns l) A s) (setFrom s l hd cond) := by
  unfold setFrom
  split
  · exact .err _
  · next L hL =>
    obtain ⟨hl, rfl⟩ := layer?_some hL
    split
    · exact .err _
    · split
      · exact .err _
      · split
        · exact .err _
        · split
          · exact .err _
          · exact .ok rfl (.write ⟨hl, rfl⟩ _)

theorem modifyCell_outcome (s : State) (l : Nat) (c : Coord) (f : Option (Int → Int)) :
    Outcome s (fun t => ∃ g, f = some g ∧ l < s.nLayers ∧ inBounds (s.layers l).dims c = true ∧
      t = s.write (s.layers l).data ((s.heap (s.layers l).data).set c (g (s.heap (s.layers l).data c))))
      (modifyCell s l c f) := by
  unfold modifyCell
  split
  · exact .err _
  · split
    · exact .err _
    · next L hL =>
      obtain ⟨hl, rfl⟩ := layer?_some hL
      split
      · exact .err _
      · next hb =>
        split
        · exact .err _
        · next g => exact .ok rfl ⟨g, rfl, hl, by simpa using hb, rfl⟩

theorem modifyCellU_outcome (s : State) (l : Nat) (c : Coord) (op : UOp) (x : Val) :
    Outcome s (fun t => ∃ rd, op.result (s.dtypeOf l) x.ty = some rd ∧ l < s.nLayers ∧
      inBounds (s.layers l).dims c = true ∧ t = s.write (s.layers l).data ((s.heap (s.layers l).data).set c
        (castTo (s.dtypeOf l) ⟨rd, op.apply (s.dtypeOf l) x (s.heap (s.layers l).data c)⟩)))
      (modifyCellU s l c op x) := by
  unfold modifyCellU
  split
  · exact .err _
  · split
    · exact .err _
    · next L hL =>
      obtain ⟨_, rfl⟩ := layer?_some hL
      split
      · exact .err _
      · split
        · exact .err _
        · next rd hrd =>
          refine (modifyCell_outcome ..).mono fun t ⟨g, hg, hl, hb, e⟩ => ⟨rd, hrd, hl, hb, ?_⟩
          cases hg
          exact e

theorem hset_outcome (s : State) (h : Nat) (c : Coord) (v : Int) :
    Outcome s (fun t => ∃ a d, s.handles.lookup h = some (a, d) ∧ inBounds d c = true ∧
      t = s.write a ((s.heap a).set c v)) (hset s h c v) := by
  unfold hset
  split
  · exact .err _
  · next a d hlk =>
    split
    · exact .err _
    · next hb => exact .ok rfl ⟨a, d, hlk, by simpa using hb, rfl⟩

theorem writes_enter (s : State) (a : Nat) (c : Coord) :
    Writes s.emptyTarget True s (writeEmpty { s with agents := s.agents ++ [(a, c)] } c 0) :=
  .trans (.side _ _ _ (.inl trivial)) (writes_writeEmpty { s with agents := s.agents ++ [(a, c)] } c 0)

theorem writes_leave (s : State) (a : Nat) (c0 : Coord) :
    Writes s.emptyTarget True s (afterLeave { s with agents := s.agents.filter (·.1 ≠ a) } c0) :=
  .trans (.side _ _ _ (.inl trivial)) (writes_afterLeave { s with agents := s.agents.filter (·.1 ≠ a) } c0)

theorem writes_place (s : State) (a : Nat) (c : Coord) : Outcome s (Writes s.emptyTarget True s) (place s a c) := by
  unfold place
  split
  · exact .err _
  · split
    · exact .err _
    · split
      · exact .err _
      · exact .ok rfl (writes_enter ..)

theorem writes_remove (s : State) (a : Nat) : Outcome s (Writes s.emptyTarget True s) (remove s a) := by
  unfold remove
  split
  · exact .err _
  · exact .ok rfl (writes_leave ..)

theorem writes_move (s : State) (a : Nat) (c : Coord) : Outcome s (Writes s.emptyTarget True s) (move s a c) := by
  unfold move
  split
  · exact .err _
  · next c0 _ =>
    split
    · exact .err _
    · split
      · exact .err _
      · have h1 := writes_leave s a c0
        have h2 := writes_enter (afterLeave { s with agents := s.agents.filter (·.1 ≠ a) } c0) a c
        rw [emptyTarget_congr h1.shape] at h2
        exact .ok rfl (h1.trans h2)

theorem writes_nbhdMask (s : State) (k : Nat) (geom : Option Bool) (torus : Bool) (c : Coord) (ic : Bool)
    (r : Nat) : Outcome s (Writes (fun _ => False) A s) (nbhdMask s k geom torus c ic r) := by
  unfold nbhdMask
  split
  · exact .err _
  · split
    · exact .err _
    · split
      · exact .err _
      · exact .ok rfl (.side _ _ _ (.inr rfl))

end

/-! ### what one op does to the state -/

@[simp] theorem DType.join_self (d : DType) : d.join d = d := by cases d <;> rfl

@[simp] theorem recode_self (d : DType) (v : Int) : recode d d v = v := by simp [recode]

theorem modifyCells_eq (s : State) (l : Nat) (f : Option (Int → Int)) (cond : Option (Int → Bool)) :
    modifyCells s l f cond = modifyCellsT s l f cond (s.dtypeOf l) := by
  unfold modifyCells modifyCellsT
  split
  · rfl
  · next L hL =>
    obtain ⟨_, rfl⟩ := layer?_some hL
    split
    · rfl
    · simp [State.dtypeOf]

/-- the arrays `op` may write in place, judged in the state it is issued in -/
def Op.targets (s : State) : Op → Nat → Prop
  | .layerSet l _ _ | .cellSet2 l _ _ | .setCells l _ _ | .setFrom l _ _ | .modifyCell l _ _
  | .modifyCellU l _ _ _ => s.owns l
  | .cellSet n _ _ => s.cellArr n
  | .hset h _ _ => fun a => ∃ d, s.handles.lookup h = some (a, d)
  | .place _ _ | .move _ _ | .remove _ => s.emptyTarget
  | _ => fun _ => False

def Op.movesAgents : Op → Prop
  | .place _ _ | .move _ _ | .remove _ => True
  | _ => False

/-- What an accepted `op` makes of `s`.  `repoint` carries what the three frame theorems need of a `modify_cells`:
    it may write layer `l` (`hmw`), a safe one does not re-point the built-in layer 0 (`hsafe`), and the new dtype
    is the old one or, for the typed forms, a join with it (`hdt`). -/
inductive Effect (s : State) (op : Op) : State → Prop
  | inPlace {s' : State} (w : Writes (op.targets s) op.movesAgents s s') : Effect s op s'
  | alloc (L : Layer) (x : Arr) (dt : DType) (hL : L.data = s.next) : Effect s op (s.alloc L x dt)
  | create (n : String) (x : Arr) (dt : DType) (hc : attachCheck s ⟨n, s.dims, s.next⟩ = none) :
      Effect s op ((s.alloc ⟨n, s.dims, s.next⟩ x dt).bind n s.nLayers)
  | attach (l : Nat) (hl : l < s.nLayers) (hc : attachCheck s (s.layers l) = none) :
      Effect s op (s.bind (s.layers l).name l)
  | detach (n : String) (hop : op = .detach n) : Effect s op (s.unbind n)
  | repoint (l : Nat) (x : Arr) (dt : DType) (hmw : op.mayWrite s l)
      (hsafe : op.safeAt s = true → s.impl = .new → l ≠ 0)
      (hdt : dt = s.dtypeOf l ∨ (op.mayRetype l ∧ ∃ rd, dt = (s.dtypeOf l).join rd)) :
      Effect s op (s.repoint l x dt)
  | handle (h a : Nat) (d : List Nat) (ha : a = 0 ∨ ∃ l, s.owns l a) :
      Effect s op { s with handles := (h, (a, d)) :: s.handles }
  | gattr (n : String) (hop : op = .gridSet n) (hn : s.named? n = none) :
      Effect s op { s with gattrs := n :: s.gattrs }

theorem Effect.none {s : State} {op : Op} : Effect s op s := .inPlace .refl

theorem Outcome.inPlace {s : State} {op : Op} {k : State × Out}
    (h : Outcome s (Writes (op.targets s) op.movesAgents s) k) : Outcome s (Effect s op) k :=
  h.mono fun _ => .inPlace

theorem attach_outcome (s : State) (l : Nat) :
    Outcome s (fun t => l < s.nLayers ∧ attachCheck s (s.layers l) = none ∧ t = s.bind (s.layers l).name l)
      (attach s l) := by
  unfold attach
  split
  · exact .err _
  · next L hL =>
    obtain ⟨hl, rfl⟩ := layer?_some hL
    split
    · exact .err _
    · next hc => exact .ok rfl ⟨hl, hc, rfl⟩

theorem effect_modifyCellsT {s : State} {op : Op} (l : Nat) (f : Option (Int → Int)) (cond : Option (Int → Bool))
    (rd : DType) (hmw : op.mayWrite s l) (hsafe : op.safeAt s = (s.impl != .new || l != 0))
    (hrd : op.mayRetype l ∨ rd = s.dtypeOf l) :
    Outcome s (Effect s op) (modifyCellsT s l f cond rd) := by
  unfold modifyCellsT
  split
  · exact .err _
  · next L hL =>
    obtain ⟨_, rfl⟩ := layer?_some hL
    split
    · exact .err _
    · refine .ok rfl (.repoint l _ _ hmw (fun hs hi => ?_) ?_)
      · rw [hsafe, hi] at hs
        simpa using hs
      rcases hrd with h | h
      · exact .inr ⟨h, rd, rfl⟩
      · refine .inl ?_
        rw [h]
        exact DType.join_self _

theorem step_outcome (s : State) (op : Op) : Outcome s (Effect s op) (step s op) := by
  cases op with
  | create n dt d =>
    simp only [step]
    unfold create
    split
    · exact .err _
    · next hc => exact .ok rfl (.create n _ dt hc)
  | newLayer n dims dt d =>
    simp only [step]
    unfold newLayer
    split
    · exact .err _
    · exact .ok rfl (.alloc ⟨n, dims, s.next⟩ _ dt rfl)
  | fromData n hd =>
    simp only [step]
    unfold fromData
    split
    · exact .err _
    · split
      · exact .err _
      · next a dims _ =>
        split
        · exact .err _
        · exact .ok rfl (.alloc ⟨n, dims, s.next⟩ _ _ rfl)
  | attach l => exact (attach_outcome s l).mono fun _ ⟨hl, hc, e⟩ => e ▸ .attach l hl hc
  | detach n =>
    simp only [step]
    unfold detach
    split
    · exact .err _
    · exact .ok rfl (.detach n rfl)
  | modifyCells l vec f cond =>
    simp only [step]
    rw [modifyCells_eq]
    exact (effect_modifyCellsT (op := .modifyCells l vec f cond) l f cond _ rfl rfl (.inr rfl)).guard ..
  | modifyT l f cond rd =>
    exact (effect_modifyCellsT (op := .modifyT l f cond rd) l f cond rd rfl rfl (.inl rfl)).guard ..
  | modifyU l vec o x cond =>
    simp only [step]
    refine Outcome.guard ?_ ..
    unfold modifyU
    split
    · exact .err _
    · split
      · exact .err _
      · exact effect_modifyCellsT (op := .modifyU l vec o x cond) l _ cond _ rfl rfl (.inl rfl)
  | grab hd l =>
    simp only [step]
    unfold grab
    split
    · exact .err _
    · next L hL =>
      obtain ⟨hl, rfl⟩ := layer?_some hL
      exact .ok rfl (.handle hd _ _ (.inr ⟨l, hl, rfl⟩))
  | grabMask hd =>
    simp only [step]
    unfold grabMask
    split
    · exact .err _
    · exact .ok rfl (.handle hd 0 _ (.inl rfl))
  | gridSet n =>
    simp only [step]
    unfold gridSet
    split
    · exact .err _
    · split
      · exact .err _
      · next hn =>
        refine .ok rfl (.gattr n rfl ?_)
        cases hx : s.named? n with
        | none => rfl
        | some l =>
          rw [hx] at hn
          exact absurd rfl hn
  | layerSet l c w => exact (writes_layerSet ..).inPlace
  | cellSet n c w => exact (writes_cellSet ..).inPlace
  | cellSet2 l c w => exact (writes_cellSet2 ..).inPlace
  | setCells l w cond =>
    cases w with
    | raw v => exact ((writes_setCells ..).guard ..).inPlace
    | py x => exact ((writes_setCellsV ..).guard ..).inPlace
  | setFrom l hd cond => exact (writes_setFrom ..).inPlace
  | modifyCell l c f =>
    exact ((modifyCell_outcome ..).mono fun _ ⟨_, _, hl, _, e⟩ => e ▸ .write ⟨hl, rfl⟩ _).inPlace
  | modifyCellU l c o x =>
    exact ((modifyCellU_outcome ..).mono fun _ ⟨_, _, hl, _, e⟩ => e ▸ .write ⟨hl, rfl⟩ _).inPlace
  | hset hd c w =>
    exact ((hset_outcome ..).mono fun _ ⟨_, d, hlk, _, e⟩ => e ▸ .write ⟨d, hlk⟩ _).inPlace
  | place a c => exact (writes_place ..).inPlace
  | move a c => exact (writes_move ..).inPlace
  | remove a => exact (writes_remove ..).inPlace
  | nbhdMask k geom torus c ic r => exact (writes_nbhdMask ..).inPlace
  | select ms oe conds exts save =>
    simp only [step]
    split
    · exact .err _
    · split
      · exact .err _
      · split
        · exact .ok rfl .none
        · exact .ok rfl (.inPlace (.side _ _ _ (.inr rfl)))
  | _ => exact .same .none _

theorem step_effect (s : State) (op : Op) : Effect s op (step s op).1 := (step_outcome s op).fst .none

theorem WF.effect {s s' : State} {op : Op} (h : WF s) (e : Effect s op s') : WF s' := by
  cases e with
  | inPlace w => exact h.of_sameShape w.shape
  | alloc L x dt hL => exact h.alloc hL x dt
  | create n x dt hc =>
    obtain ⟨hnone, _, hfree⟩ := attachCheck_none hc
    exact (h.alloc rfl x dt).bind (Nat.lt_succ_self _) (congrArg Layer.name (upd_same ..))
      (congrArg Layer.dims (upd_same ..)) hnone hfree
  | attach l hl hc =>
    obtain ⟨hnone, hdims, hfree⟩ := attachCheck_none hc
    exact h.bind hl rfl hdims hnone hfree
  | detach n _ => exact h.unbind n
  | repoint l x dt _ _ _ => exact h.repoint l x dt
  | handle hd a d ha =>
    refine h.handle hd ?_ d
    rcases ha with rfl | ⟨l, hl, rfl⟩
    · exact h.next_pos
    · exact h.data_lt l hl
  | gattr n _ _ => exact h.of_sameShape (.rest s ..)

theorem WF_step {s : State} (h : WF s) (op : Op) : WF (step s op).1 := h.effect (step_effect s op)

theorem Effect.keeps {s s' : State} {op : Op} (e : Effect s op s') :
    s'.impl = s.impl ∧ s'.dims = s.dims ∧ s.nLayers ≤ s'.nLayers ∧
    ∀ k, k < s.nLayers → (s'.layers k).dims = (s.layers k).dims := by
  cases e with
  | inPlace w =>
    exact ⟨w.shape.impl, w.shape.dims, Nat.le_of_eq w.shape.nLayers.symm, fun k _ => by rw [w.shape.layers]⟩
  | alloc L x dt _ =>
    exact ⟨rfl, rfl, Nat.le_succ _, fun k hk => congrArg Layer.dims (upd_other _ _ _ _ (Nat.ne_of_lt hk))⟩
  | create n x dt _ =>
    exact ⟨rfl, rfl, Nat.le_succ _, fun k hk => congrArg Layer.dims (upd_other _ _ _ _ (Nat.ne_of_lt hk))⟩
  | repoint l x dt _ _ _ => exact ⟨rfl, rfl, Nat.le_refl _, fun k _ => by rw [repoint_layers]⟩
  | _ => exact ⟨rfl, rfl, Nat.le_refl _, fun _ _ => rfl⟩

theorem step_impl (s : State) (op : Op) : (step s op).1.impl = s.impl := (step_effect s op).keeps.1

theorem nLayers_step (s : State) (op : Op) : s.nLayers ≤ (step s op).1.nLayers := (step_effect s op).keeps.2.2.1

theorem WF_run {s : State} (h : WF s) (ops : List Op) : WF (run s ops).1 := by
  induction ops generalizing s with
  | nil => exact h
  | cons op ops ih =>
    simp only [run]
    exact ih (WF_step h op)

end Mesa.Layers
