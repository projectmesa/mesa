import MesaModel.Base.Rng
/-! How many draws a shuffle consumes and which draws it looks at (used by `Props/C01Agents.lean`). -/
namespace Mesa.Rng

theorem below_script (r : Rng) (n : Nat) : (r.below n).2.script = r.script.drop 1 := by
  unfold below next
  cases h : r.script <;> simp [h]

theorem shuffleAux_script {α} (i : Nat) (a : Array α) (r : Rng) : (shuffleAux i a r).2.script = r.script.drop i := by
  induction i generalizing a r with
  | zero => simp [shuffleAux]
  | succ i ih =>
    simp only [shuffleAux]
    rw [ih, below_script, List.drop_drop]
    congr 1
    omega

theorem shuffle_script {α} (l : List α) (r : Rng) : (shuffle l r).2.script = r.script.drop (l.length - 1) := by
  simp only [shuffle, List.size_toArray]
  exact shuffleAux_script _ _ _

theorem below_fst_of_take (r r' : Rng) (n : Nat) (h : r.script.take 1 = r'.script.take 1) :
    (r.below n).1 = (r'.below n).1 := by
  unfold below next
  cases h1 : r.script <;> cases h2 : r'.script <;> simp_all

theorem shuffleAux_of_take {α} (i : Nat) (a : Array α) (r r' : Rng) (h : r.script.take i = r'.script.take i) :
    (shuffleAux i a r).1 = (shuffleAux i a r').1 := by
  induction i generalizing a r r' with
  | zero => simp [shuffleAux]
  | succ i ih =>
    simp only [shuffleAux]
    have h1 : r.script.take 1 = r'.script.take 1 := by
      have := congrArg (List.take 1) h
      simpa [List.take_take] using this
    rw [below_fst_of_take r r' (i + 2) h1]
    apply ih
    rw [below_script, below_script]
    have := congrArg (List.drop 1) h
    simpa [List.drop_take] using this

theorem shuffle_of_take {α} (l : List α) (r r' : Rng)
    (h : r.script.take (l.length - 1) = r'.script.take (l.length - 1)) : (shuffle l r).1 = (shuffle l r').1 := by
  simp only [shuffle, List.size_toArray]
  rw [shuffleAux_of_take _ _ r r' h]

end Mesa.Rng
