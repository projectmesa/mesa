import MesaModel.Proofs.CopySetWF
import MesaModel.Proofs.CopySetFrame
/-! The frame theorem over operation sequences (`WritesOnly`, in which `Props/C19Sets.lean` states the frame and detachment
theorems) and the copy lemmas of `Model/CopySet.lean`. -/
namespace Mesa.CopySet

variable {w : World} {s : Nat}

/-- along the run every operation writes only identities satisfying `P` -/
def WritesOnly (P : Nat → Prop) : World → List Op → Prop
  | _, [] => True
  | w, op :: ops => (∀ x ∈ writes w op, P x) ∧ WritesOnly P (step w op) ops

theorem frame_run (hw : WF w) {r : SetRec} (hr : w.sets s = some r) (ops : List Op)
    (hav : WritesOnly (fun x => x ∉ deps w s) w ops) : view (run w ops) s = view w s := by
  induction ops generalizing w r with
  | nil => rfl
  | cons op ops ih =>
    obtain ⟨h1, h2⟩ := hav
    have hag := agree_step hw (hw.setsLt s r hr).1 op h1
    rw [← hag.view_eq]
    exact ih (hw.step op) (hag.set.trans hr) (hag.deps_eq ▸ h2)

theorem WritesOnly.mono {P Q : Nat → Prop} (h : ∀ x, P x → Q x) : ∀ {w : World} {ops : List Op},
    WritesOnly P w ops → WritesOnly Q w ops
  | _, [], _ => trivial
  | _, _ :: _, ⟨h1, h2⟩ => ⟨fun x hx => h x (h1 x hx), WritesOnly.mono h h2⟩

/-! ### the copy -/

theorem member_model {r : SetRec} {a : Nat} (ha : a ∈ aliveMembers w r) :
    ∃ ar mr, w.agents a = some ar ∧ w.models ar.model = some mr ∧ modelAlive w ar.model = true ∧ a ∈ mr.reg ∧
      ar.model ∈ copiedM w r := by
  obtain ⟨ar, mr, har, hmr, hma, hreg⟩ := agentAlive_some (mem_aliveMembers.mp ha).2
  exact ⟨ar, mr, har, hmr, hma, hreg, mem_copiedM.mpr ⟨a, ha, ar, har, rfl⟩⟩

theorem copiedA_of_alive {r : SetRec} {a : Nat} (ha : a ∈ aliveMembers w r) : copiedA w r a = true := by
  obtain ⟨ar, mr, har, hmr, _, hreg, hm⟩ := member_model ha
  simp only [copiedA, har, hmr, Bool.and_eq_true, List.contains_iff_mem]
  exact ⟨hm, hreg⟩

section
variable (t : Nat) {r : SetRec} {m : Nat} {mr : ModelRec} (hm : m ∈ copiedM w r) (hmr : w.models m = some mr)
include hm hmr

theorem copyWorld_models_copied (k : Bool) : (copyWorld w t r k).models (m + w.next) =
    some { reg := mr.reg.map (· + w.next), gen := mr.gen + w.next } := by
  rw [copyWorld_models_shift, List.contains_iff_mem.mpr hm, if_pos rfl, hmr, Option.map_some]

/-- with the repair S24 the copied set keeps every reconstructed model alive -/
theorem modelAlive_copied : modelAlive (copyWorld w t r true) (m + w.next) = true := by
  have ho : owned (copyWorld w t r true) (m + w.next) = true := by
    refine List.any_eq_true.mpr ⟨t + w.next, by simp [copyWorld_setIds], ?_⟩
    simp only [ownersOf, copyWorld_sets_new, if_true, List.contains_iff_mem, List.mem_map]
    exact ⟨m, hm, rfl⟩
  simp only [modelAlive, copyWorld_models_copied t hm hmr, ho, Option.isSome_some, Bool.or_true, Bool.and_self]

/-- the registry of a reconstructed model is the shifted registry of the original — every registered agent, members of the set
    or not, in registration order (`regView` is `some` only for a model that is alive) -/
theorem copy_registry : regView (copyWorld w t r true) (m + w.next) = some (mr.reg.map (· + w.next)) := by
  simp only [regView, modelAlive_copied t hm hmr, if_true, copyWorld_models_copied t hm hmr, Option.map_some]
end

/-- with the repair S24 the twin of every alive member is alive in the new world -/
theorem alive_shift (t : Nat) {r : SetRec} {a : Nat} (ha : a ∈ aliveMembers w r) :
    agentAlive (copyWorld w t r true) (a + w.next) = true := by
  obtain ⟨ar, mr, har, hmr, _, hreg, hm⟩ := member_model ha
  unfold agentAlive
  rw [copyWorld_agents_shift, copiedA_of_alive ha]
  simp only [if_true, har, Option.map_some, copyWorld_models_copied t hm hmr, modelAlive_copied t hm hmr, Bool.true_and,
    List.contains_iff_mem, List.mem_map]
  exact ⟨a, hreg, rfl⟩

theorem copy_view (t : Nat) (r : SetRec) : view (copyWorld w t r true) (t + w.next) =
    some ((itemsOf w (aliveMembers w r)).map (fun (a, u, x, m) => (a + w.next, u, x, m + w.next)), scriptOf w r.gen) := by
  simp only [view, copyWorld_sets_new]
  have hal : ∀ o, aliveMembers (copyWorld w t r true)
      { members := (aliveMembers w r).map (· + w.next), gen := r.gen + w.next, owners := o } =
      (aliveMembers w r).map (· + w.next) := by
    intro o
    unfold aliveMembers
    simp only
    rw [List.filter_eq_self]
    intro x hx
    obtain ⟨a, ha, rfl⟩ := List.mem_map.mp hx
    exact alive_shift t ha
  rw [hal]
  congr 2
  · simp only [itemsOf, List.filterMap_map, List.map_filterMap]
    apply filterMap_congr'
    intro a ha
    obtain ⟨ar, _, har, _⟩ := member_model ha
    simp only [Function.comp, copyWorld_agents_shift, copiedA_of_alive ha, if_true, har, Option.map_some]
  · unfold scriptOf
    rw [copyWorld_gens_shift]
    have : copiedG w r r.gen = true := by simp [copiedG]
    simp only [this, if_true]

theorem copy_deps_fresh (t : Nat) (r : SetRec) (k : Bool) : ∀ x ∈ deps (copyWorld w t r k) (t + w.next), w.next ≤ x := by
  intro x hx
  simp only [mem_deps (copyWorld_sets_new t r k), List.mem_map] at hx
  rcases hx with rfl | rfl | ⟨a, _, rfl⟩ | ⟨b, ⟨a, _, rfl⟩, ar', hb, rfl⟩
  · omega
  · omega
  · omega
  · rcases copyWorld_agents_cases hb with ⟨h, _⟩ | ⟨_, ar, _, _, _, rfl⟩
    · omega
    · exact Nat.le_add_left _ _

end Mesa.CopySet
