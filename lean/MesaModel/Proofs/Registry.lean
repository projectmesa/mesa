import MesaModel.Proofs.Activation
/-! Helper lemmas for C02: the registry invariant and its preservation by every operation. -/
namespace Mesa.Agents

/-- how a view may differ from its reference list: `Eq` (creation order) or `List.Perm` (after an
    explicit in-place reordering) — everything the preservation proofs need from either -/
structure OrdRel (R : List Aid → List Aid → Prop) : Prop where
  refl : ∀ l, R l l
  append : ∀ {l l'} (a : Aid), R l l' → R (l ++ [a]) (l' ++ [a])
  erase : ∀ {l l'} (a : Aid), R l l' → R (l.erase a) (l'.erase a)
  perm : ∀ {l l'}, R l l' → l.Perm l'

theorem OrdRel.eq : OrdRel Eq :=
  ⟨fun _ => rfl, fun _ h => by rw [h], fun _ h => by rw [h], fun h => by rw [h]⟩

theorem OrdRel.ofPerm : OrdRel List.Perm :=
  ⟨List.Perm.refl, fun _ h => h.append_right _, fun a h => h.erase a, id⟩

def modelOfI (info : List Info) (a : Aid) : Option Nat := (info[a]?).map (·.model)
def tyOfI (info : List Info) (a : Aid) : Ty := match info[a]? with | some i => i.ty | none => 0

theorem tyOf_eq (w : World) (a : Aid) : tyOf w a = tyOfI w.info a := rfl

/-- the agents created for model `m`, in creation order -/
def createdFor (info : List Info) (m : Nat) : List Aid :=
  (List.range info.length).filter (fun a => modelOfI info a == some m)

/-- … of which those no `remove()` call has named yet -/
def expectedHard (info : List Info) (rl : List Aid) (m : Nat) : List Aid :=
  (createdFor info m).filter (fun a => !rl.contains a)

theorem mem_createdFor {info : List Info} {m : Nat} {a : Aid} :
    a ∈ createdFor info m ↔ ∃ i, info[a]? = some i ∧ i.model = m := by
  simp only [createdFor, List.mem_filter, List.mem_range, modelOfI, beq_iff_eq, Option.map_eq_some_iff]
  constructor
  · rintro ⟨_, i, h1, h2⟩
    exact ⟨i, h1, h2⟩
  · rintro ⟨i, h1, h2⟩
    exact ⟨(List.getElem?_eq_some_iff.mp h1).1, i, h1, h2⟩

theorem createdFor_nodup (info : List Info) (m : Nat) : (createdFor info m).Nodup :=
  (List.nodup_range).sublist List.filter_sublist

theorem expectedHard_nodup (info : List Info) (rl : List Aid) (m : Nat) : (expectedHard info rl m).Nodup :=
  (createdFor_nodup info m).sublist List.filter_sublist

theorem mem_expectedHard {info : List Info} {rl : List Aid} {m : Nat} {a : Aid} :
    a ∈ expectedHard info rl m ↔ (∃ i, info[a]? = some i ∧ i.model = m) ∧ a ∉ rl := by
  simp [expectedHard, mem_createdFor]

theorem modelOfI_append (info : List Info) (i : Info) (a : Nat) :
    modelOfI (info ++ [i]) a = if a = info.length then some i.model else modelOfI info a := by
  unfold modelOfI
  rw [List.getElem?_append]
  split
  · rename_i h
    rw [if_neg (Nat.ne_of_lt h)]
  · rename_i h
    rw [List.getElem?_eq_none (Nat.le_of_not_lt h)]
    split
    · rename_i e
      simp [e]
    · rename_i e
      obtain ⟨k, hk⟩ : ∃ k, a - info.length = k + 1 := ⟨a - info.length - 1, by omega⟩
      rw [hk]
      rfl

theorem modelOfI_append_lt (info : List Info) (i : Info) {a : Aid} (h : a < info.length) :
    modelOfI (info ++ [i]) a = modelOfI info a := by
  rw [modelOfI_append, if_neg (Nat.ne_of_lt h)]

theorem tyOfI_append_lt (info : List Info) (i : Info) {a : Aid} (h : a < info.length) :
    tyOfI (info ++ [i]) a = tyOfI info a := by
  simp [tyOfI, List.getElem?_append_left h]

theorem createdFor_append (info : List Info) (i : Info) (m : Nat) :
    createdFor (info ++ [i]) m = createdFor info m ++ (if i.model = m then [info.length] else []) := by
  simp only [createdFor, List.length_append, List.length_singleton, List.range_succ, List.filter_append]
  congr 1
  · apply List.filter_congr
    intro a ha
    rw [modelOfI_append_lt info i (List.mem_range.mp ha)]
  · simp only [List.filter_cons, List.filter_nil, modelOfI]
    by_cases h : i.model = m <;> simp [h]

theorem expectedHard_append (info : List Info) (i : Info) (rl : List Aid) (m : Nat)
    (hrl : ∀ a ∈ rl, a < info.length) :
    expectedHard (info ++ [i]) rl m = expectedHard info rl m ++ (if i.model = m then [info.length] else []) := by
  simp only [expectedHard, createdFor_append, List.filter_append]
  congr 1
  by_cases h : i.model = m
  · have : info.length ∉ rl := fun hm => Nat.lt_irrefl _ (hrl _ hm)
    simp [h, this]
  · simp [h]

theorem expectedHard_removed (info : List Info) (rl : List Aid) (m : Nat) (b : Aid) :
    expectedHard info (rl ++ [b]) m = (expectedHard info rl m).filter (· != b) := by
  simp only [expectedHard, List.filter_filter]
  apply List.filter_congr
  intro a _
  by_cases h1 : a ∈ rl <;> by_cases h2 : a = b <;> simp [h1, h2]

theorem filter_ne_of_not_mem {l : List Aid} {b : Aid} (h : b ∉ l) : l.filter (· != b) = l := by
  rw [List.filter_eq_self]
  intro a ha
  simp only [bne_iff_ne, ne_eq]
  intro hab
  subst hab
  exact h ha

theorem erase_filter_comm {l : List Aid} (hn : l.Nodup) (p : Aid → Bool) (b : Aid) :
    (l.erase b).filter p = (l.filter p).erase b := by
  rw [hn.erase_eq_filter, (hn.sublist List.filter_sublist).erase_eq_filter, List.filter_filter, List.filter_filter]
  apply List.filter_congr
  intro a _
  exact Bool.and_comm _ _

/-! ### the by-type dictionary -/

/-- the dictionary with the set of class `ty` (its first entry; the only one, keys being distinct) replaced by `f` of it:
    what `byTypeErase`, `byTypeSet` and, for a class that has an entry, `byTypeAdd` do -/
def byTypeMod (f : List Aid → List Aid) : List (Ty × List Aid) → Ty → List (Ty × List Aid)
  | [], _ => []
  | (t, s) :: rest, ty => if t = ty then (t, f s) :: rest else (t, s) :: byTypeMod f rest ty

theorem byTypeErase_eq (bt : List (Ty × List Aid)) (ty : Ty) (b : Aid) :
    byTypeErase bt ty b = byTypeMod (·.erase b) bt ty := by
  induction bt with
  | nil => rfl
  | cons p bt ih => simp only [byTypeErase, byTypeMod, ih]

theorem byTypeSet_eq (bt : List (Ty × List Aid)) (ty : Ty) (l : List Aid) :
    byTypeSet bt ty l = byTypeMod (fun _ => l) bt ty := by
  induction bt with
  | nil => rfl
  | cons p bt ih => simp only [byTypeSet, byTypeMod, ih]

theorem byTypeAdd_eq (bt : List (Ty × List Aid)) (ty : Ty) (a : Aid) :
    byTypeAdd bt ty a = if ty ∈ bt.map (·.1) then byTypeMod (addKey · a) bt ty else bt ++ [(ty, [a])] := by
  induction bt with
  | nil => rfl
  | cons p bt ih =>
    obtain ⟨t, s⟩ := p
    by_cases h : t = ty
    · simp [byTypeAdd, byTypeMod, h]
    · have hne : ¬ ty = t := fun e => h e.symm
      simp only [byTypeAdd, byTypeMod, if_neg h, ih, List.map_cons, List.mem_cons, hne, false_or]
      split <;> rfl

theorem byTypeMod_keys (f : List Aid → List Aid) (bt : List (Ty × List Aid)) (ty : Ty) :
    (byTypeMod f bt ty).map (·.1) = bt.map (·.1) := by
  induction bt with
  | nil => rfl
  | cons p bt ih =>
    unfold byTypeMod
    split <;> simp [ih]

theorem byTypeAdd_keys (bt : List (Ty × List Aid)) (ty : Ty) (a : Aid) :
    (byTypeAdd bt ty a).map (·.1) = addKey (bt.map (·.1)) ty := by
  rw [byTypeAdd_eq]
  split
  · rename_i h
    rw [byTypeMod_keys, addKey_of_mem h]
  · rename_i h
    rw [addKey_of_not_mem h]
    simp

theorem byTypeMod_groups {R : List Aid → List Aid → Prop} {f : List Aid → List Aid} (F F' : Ty → List Aid) (ty : Ty)
    (hF : ∀ t, t ≠ ty → F' t = F t) (bt : List (Ty × List Aid)) (hk : (bt.map (·.1)).Nodup)
    (hg : ∀ ts ∈ bt, R ts.2 (F ts.1)) (hf : ∀ s, (ty, s) ∈ bt → R (f s) (F' ty)) :
    ∀ ts ∈ byTypeMod f bt ty, R ts.2 (F' ts.1) := by
  induction bt with
  | nil =>
    intro ts hts
    cases hts
  | cons p bt ih =>
    obtain ⟨t, s⟩ := p
    have hk' := List.nodup_cons.mp hk
    intro ts hts
    unfold byTypeMod at hts
    by_cases h : t = ty
    · subst h
      simp only [if_true, List.mem_cons] at hts
      rcases hts with rfl | hts
      · exact hf s List.mem_cons_self
      · have : ts.1 ≠ t := fun e => hk'.1 (e ▸ List.mem_map.mpr ⟨ts, hts, rfl⟩)
        rw [hF _ this]
        exact hg ts (List.mem_cons_of_mem _ hts)
    · simp only [h, if_false, List.mem_cons] at hts
      rcases hts with rfl | hts
      · rw [hF _ h]
        exact hg (t, s) List.mem_cons_self
      · exact ih hk'.2 (fun ts h => hg ts (List.mem_cons_of_mem _ h)) (fun s hs => hf s (List.mem_cons_of_mem _ hs)) ts hts

theorem byTypeAdd_groups {R : List Aid → List Aid → Prop} (hR : OrdRel R) (F F' : Ty → List Aid) (ty : Ty) (a : Aid)
    (hF1 : F' ty = F ty ++ [a]) (hF2 : ∀ t, t ≠ ty → F' t = F t)
    (bt : List (Ty × List Aid)) (hk : (bt.map (·.1)).Nodup) (hg : ∀ ts ∈ bt, R ts.2 (F ts.1))
    (hfresh : ∀ ts ∈ bt, a ∉ ts.2) (hnew : ty ∉ bt.map (·.1) → F ty = []) :
    ∀ ts ∈ byTypeAdd bt ty a, R ts.2 (F' ts.1) := by
  rw [byTypeAdd_eq]
  split
  · refine byTypeMod_groups F F' ty hF2 bt hk hg fun s hs => ?_
    rw [hF1, addKey_of_not_mem (hfresh _ hs)]
    exact hR.append a (hg _ hs)
  · rename_i hn
    intro ts hts
    rcases List.mem_append.mp hts with hts | hts
    · rw [hF2 _ fun e => hn (e ▸ List.mem_map.mpr ⟨ts, hts, rfl⟩)]
      exact hg ts hts
    · rw [List.mem_singleton.mp hts, hF1, hnew hn]
      exact hR.refl _

theorem lookup_none_of_not_key {bt : List (Ty × List Aid)} {ty : Ty} (h : bt.lookup ty = none) : ty ∉ bt.map (·.1) := by
  intro hm
  obtain ⟨p, hp, rfl⟩ := List.mem_map.mp hm
  simpa using List.lookup_eq_none_iff.mp h p hp

theorem lookup_of_mem_keys {bt : List (Ty × List Aid)} {ty : Ty} (h : ty ∈ bt.map (·.1)) :
    ∃ s, bt.lookup ty = some s ∧ (ty, s) ∈ bt := by
  cases h' : bt.lookup ty with
  | none => exact absurd h (lookup_none_of_not_key h')
  | some s => exact ⟨s, rfl, mem_of_lookup h'⟩

/-- the by-type dictionary agrees with the hard references -/
structure ByTypeOK (R : List Aid → List Aid → Prop) (info : List Info) (hard : List Aid)
    (bt : List (Ty × List Aid)) : Prop where
  keys : (bt.map (·.1)).Nodup
  groups : ∀ ts ∈ bt, R ts.2 (hard.filter (fun a => tyOfI info a == ts.1))
  cover : ∀ a ∈ hard, tyOfI info a ∈ bt.map (·.1)

/-- the registry of model `m` agrees with the history (`info`: all agents created, `rl`: all removal calls) -/
structure RegInv (R : List Aid → List Aid → Prop) (info : List Info) (rl : List Aid) (m : Nat) (r : Reg) : Prop where
  hard : r.hard = expectedHard info rl m
  all : R r.all r.hard
  bt : ByTypeOK R info r.hard r.byType
  uid : (info.filter (fun i => i.model == m)).map (·.uid) = List.range' 1 (r.nextId - 1) ∧ 1 ≤ r.nextId

theorem RegInv.mem_hard {R info rl m r} (h : RegInv R info rl m r) {a : Aid} :
    a ∈ r.hard ↔ (∃ i, info[a]? = some i ∧ i.model = m) ∧ a ∉ rl := by
  rw [h.hard, mem_expectedHard]

theorem RegInv.hard_lt {R info rl m r} (h : RegInv R info rl m r) : ∀ a ∈ r.hard, a < info.length := by
  intro a ha
  obtain ⟨⟨i, hi, _⟩, _⟩ := h.mem_hard.mp ha
  exact (List.getElem?_eq_some_iff.mp hi).1

theorem RegInv.hard_nodup {R info rl m r} (h : RegInv R info rl m r) : r.hard.Nodup := by
  rw [h.hard]
  exact expectedHard_nodup _ _ _

theorem RegInv.mem_all {R info rl m r} (hR : OrdRel R) (h : RegInv R info rl m r) {a : Aid} : a ∈ r.all ↔ a ∈ r.hard :=
  (hR.perm h.all).mem_iff

theorem RegInv.mem_group {R info rl m r} (hR : OrdRel R) (h : RegInv R info rl m r) {ts : Ty × List Aid}
    (hts : ts ∈ r.byType) {a : Aid} : a ∈ ts.2 ↔ a ∈ r.hard ∧ tyOfI info a = ts.1 := by
  rw [(hR.perm (h.bt.groups ts hts)).mem_iff, List.mem_filter, beq_iff_eq]

theorem RegInv.not_mem {R info rl m r} (hR : OrdRel R) (h : RegInv R info rl m r) {a : Aid} (ha : a ∉ r.hard) :
    a ∉ r.all ∧ ∀ ts ∈ r.byType, a ∉ ts.2 :=
  ⟨fun h' => ha ((h.mem_all hR).mp h'), fun _ hts h' => ha ((h.mem_group hR hts).mp h').1⟩

/-! ### one registry under creation and removal -/

theorem tyOfI_new (info : List Info) (i : Info) : tyOfI (info ++ [i]) info.length = i.ty := by
  simp [tyOfI]

theorem filter_ty_append_lt (info : List Info) (i : Info) (l : List Aid) (hl : ∀ a ∈ l, a < info.length) (t : Ty) :
    l.filter (fun a => tyOfI (info ++ [i]) a == t) = l.filter (fun a => tyOfI info a == t) := by
  apply List.filter_congr
  intro a ha
  rw [tyOfI_append_lt info i (hl a ha)]

theorem filter_ty_snoc (info : List Info) (i : Info) (l : List Aid) (hl : ∀ a ∈ l, a < info.length) (t : Ty) :
    (l ++ [info.length]).filter (fun a => tyOfI (info ++ [i]) a == t)
      = l.filter (fun a => tyOfI info a == t) ++ if i.ty = t then [info.length] else [] := by
  rw [List.filter_append, filter_ty_append_lt info i l hl]
  by_cases h : i.ty = t <;> simp [tyOfI_new, h]

theorem RegInv.register {R : List Aid → List Aid → Prop} (hR : OrdRel R) {info : List Info} {rl : List Aid}
    {m : Nat} {r : Reg} (h : RegInv R info rl m r) (hrl : ∀ a ∈ rl, a < info.length)
    (i : Info) (him : i.model = m) (hiu : i.uid = r.nextId) :
    RegInv R (info ++ [i]) rl m { r.register info.length i.ty with nextId := r.nextId + 1 } := by
  have hlt := h.hard_lt
  have hn : info.length ∉ r.hard := fun hm => Nat.lt_irrefl _ (hlt _ hm)
  have hna : info.length ∉ r.all := fun hm => hn ((h.mem_all hR).mp hm)
  refine ⟨?_, ?_, ⟨?_, ?_, ?_⟩, ?_, ?_⟩
  · show addKey r.hard info.length = _
    rw [addKey_of_not_mem hn, expectedHard_append _ _ _ _ hrl, if_pos him, h.hard]
  · simp only [Reg.register, addKey_of_not_mem hn, addKey_of_not_mem hna]
    exact hR.append _ h.all
  · simp only [Reg.register, byTypeAdd_keys]
    exact nodup_addKey h.bt.keys
  · show ∀ ts ∈ byTypeAdd r.byType i.ty info.length,
      R ts.2 ((addKey r.hard info.length).filter (fun a => tyOfI (info ++ [i]) a == ts.1))
    rw [addKey_of_not_mem hn]
    refine byTypeAdd_groups hR (fun t => r.hard.filter (fun a => tyOfI info a == t))
      (fun t => (r.hard ++ [info.length]).filter (fun a => tyOfI (info ++ [i]) a == t)) i.ty info.length
      ?_ ?_ r.byType h.bt.keys h.bt.groups ?_ ?_
    · simp only [filter_ty_snoc info i r.hard hlt, if_true]
    · intro t ht
      simp only [filter_ty_snoc info i r.hard hlt, if_neg (Ne.symm ht), List.append_nil]
    · exact fun ts hts hm => hn ((h.mem_group hR hts).mp hm).1
    · intro hnk
      rw [List.filter_eq_nil_iff]
      intro a ha hty
      apply hnk
      have := h.bt.cover a ha
      simp only [beq_iff_eq] at hty
      rw [hty] at this
      exact this
  · intro a ha
    simp only [Reg.register, addKey_of_not_mem hn, byTypeAdd_keys] at ha ⊢
    rcases List.mem_append.mp ha with ha | ha
    · rw [tyOfI_append_lt info i (hlt a ha)]
      exact mem_addKey.mpr (Or.inl (h.bt.cover a ha))
    · simp only [List.mem_cons, List.not_mem_nil, or_false] at ha
      subst ha
      rw [tyOfI_new]
      exact mem_addKey.mpr (Or.inr rfl)
  · have h1 : 1 ≤ r.nextId := h.uid.2
    simp only [List.filter_append, List.map_append, h.uid.1]
    have : (i.model == m) = true := by simpa using him
    simp only [List.filter_cons, this, if_true, List.filter_nil, List.map_cons, List.map_nil, hiu]
    have e : r.nextId + 1 - 1 = (r.nextId - 1) + 1 := by omega
    rw [e, List.range'_1_concat]
    congr 2
    omega
  · exact Nat.le_add_left 1 _

theorem RegInv.info_append_other {R : List Aid → List Aid → Prop} {info : List Info} {rl : List Aid}
    {m : Nat} {r : Reg} (h : RegInv R info rl m r) (hrl : ∀ a ∈ rl, a < info.length)
    (i : Info) (him : i.model ≠ m) : RegInv R (info ++ [i]) rl m r := by
  have hlt := h.hard_lt
  refine ⟨?_, h.all, ⟨h.bt.keys, ?_, ?_⟩, ?_, h.uid.2⟩
  · rw [expectedHard_append _ _ _ _ hrl, if_neg him, List.append_nil, h.hard]
  · intro ts hts
    rw [filter_ty_append_lt info i r.hard hlt]
    exact h.bt.groups ts hts
  · intro a ha
    rw [tyOfI_append_lt info i (hlt a ha)]
    exact h.bt.cover a ha
  · have : (i.model == m) = false := by simpa using him
    simp [List.filter_append, this, h.uid.1]

theorem Reg.deregister_full {r : Reg} {b : Aid} {ty : Ty} {s : List Aid} (hb : b ∈ r.hard)
    (hl : r.byType.lookup ty = some s) (hs : b ∈ s) (ha : b ∈ r.all) :
    r.deregister b ty = { r with hard := r.hard.erase b, byType := byTypeErase r.byType ty b, all := r.all.erase b } := by
  simp [Reg.deregister, hb, hl, hs, ha]

theorem RegInv.deregister {R : List Aid → List Aid → Prop} (hR : OrdRel R) {info : List Info} {rl : List Aid}
    {m : Nat} {r : Reg} (h : RegInv R info rl m r) (b : Aid) (ib : Info) (hib : info[b]? = some ib) :
    RegInv R info (rl ++ [b]) m (r.deregister b ib.ty) := by
  have hnd := h.hard_nodup
  by_cases hb : b ∈ r.hard
  · have hty : tyOfI info b = ib.ty := by simp [tyOfI, hib]
    have hk : ib.ty ∈ r.byType.map (·.1) := by
      rw [← hty]
      exact h.bt.cover b hb
    obtain ⟨s, hl, hmem⟩ := lookup_of_mem_keys hk
    have hbs : b ∈ s := (h.mem_group hR hmem).mpr ⟨hb, hty⟩
    have hba : b ∈ r.all := (h.mem_all hR).mpr hb
    rw [Reg.deregister_full hb hl hbs hba]
    refine ⟨?_, hR.erase b h.all, ⟨?_, ?_, ?_⟩, h.uid⟩
    · simp only [expectedHard_removed, ← h.hard, hnd.erase_eq_filter]
    · simp only [byTypeErase_eq, byTypeMod_keys]
      exact h.bt.keys
    · rw [byTypeErase_eq]
      refine byTypeMod_groups (fun t => r.hard.filter (fun a => tyOfI info a == t))
        (fun t => (r.hard.erase b).filter (fun a => tyOfI info a == t)) ib.ty ?_ r.byType h.bt.keys h.bt.groups ?_
      rotate_left
      · intro s hs
        simp only [erase_filter_comm hnd _ b]
        exact hR.erase b (h.bt.groups _ hs)
      · intro t ht
        simp only [erase_filter_comm hnd _ b]
        apply List.erase_eq_self_iff.mpr
        intro hm
        have := (List.mem_filter.mp hm).2
        simp [hty] at this
        exact ht this.symm
    · intro a ha
      simp only [byTypeErase_eq, byTypeMod_keys]
      exact h.bt.cover a (List.mem_of_mem_erase ha)
  · have : r.deregister b ib.ty = r := by simp [Reg.deregister, hb]
    rw [this]
    refine ⟨?_, h.all, h.bt, h.uid⟩
    rw [expectedHard_removed, ← h.hard, filter_ne_of_not_mem hb]

theorem RegInv.removed_other {R : List Aid → List Aid → Prop} {info : List Info} {rl : List Aid}
    {m : Nat} {r : Reg} (h : RegInv R info rl m r) (b : Aid) (ib : Info) (hib : info[b]? = some ib)
    (hm : ib.model ≠ m) : RegInv R info (rl ++ [b]) m r := by
  refine ⟨?_, h.all, h.bt, h.uid⟩
  have hb : b ∉ r.hard := by
    intro hb
    obtain ⟨⟨i, hi, him⟩, _⟩ := h.mem_hard.mp hb
    rw [hib] at hi
    simp at hi
    subst hi
    exact hm him
  rw [expectedHard_removed, ← h.hard, filter_ne_of_not_mem hb]

/-! ### the world invariant -/

structure WInv (R : List Aid → List Aid → Prop) (w : World) : Prop where
  regs : ∀ m r, w.regs[m]? = some r → RegInv R w.info w.removedLog m r
  rl : ∀ a ∈ w.removedLog, a < w.info.length
  models : ∀ i ∈ w.info, i.model < w.regs.length
  sets : ∀ p ∈ w.sets, p.2.Nodup

theorem winv_empty (R : List Aid → List Aid → Prop) : WInv R World.empty :=
  ⟨by simp [World.empty], by simp [World.empty], by simp [World.empty], by simp [World.empty]⟩

theorem RegInv.congr {R info rl m} {r r' : Reg} (h : RegInv R info rl m r) (h1 : r'.hard = r.hard)
    (h2 : r'.all = r.all) (h3 : r'.byType = r.byType) (h4 : r'.nextId = r.nextId) : RegInv R info rl m r' :=
  ⟨by rw [h1]; exact h.hard, by rw [h1, h2]; exact h.all, by rw [h1, h3]; exact h.bt, by rw [h4]; exact h.uid⟩

theorem winv_newModel {R} (hR : OrdRel R) {w : World} (h : WInv R w) (g : Rng) : WInv R (newModel w g) := by
  refine ⟨?_, h.rl, ?_, h.sets⟩
  · intro m r hr
    simp only [newModel] at hr ⊢
    by_cases hm : m < w.regs.length
    · rw [List.getElem?_append_left hm] at hr
      exact h.regs m r hr
    · have hm' : m = w.regs.length := by
        have := (List.getElem?_eq_some_iff.mp hr).1
        simp at this
        omega
      subst hm'
      simp at hr
      subst hr
      have hnone : ∀ i ∈ w.info, (i.model == w.regs.length) = false := by
        intro i hi
        have := h.models i hi
        simp
        omega
      refine ⟨?_, hR.refl _, ⟨by simp [Reg.new], by simp [Reg.new], by simp [Reg.new]⟩, ?_, by simp [Reg.new]⟩
      · simp only [Reg.new]
        symm
        rw [expectedHard, List.filter_eq_nil_iff]
        intro a ha
        obtain ⟨i, hi, him⟩ := mem_createdFor.mp ha
        have := hnone i (List.mem_of_getElem? hi)
        simp [him] at this
      · simp only [Reg.new]
        have : w.info.filter (fun i => i.model == w.regs.length) = [] := by
          rw [List.filter_eq_nil_iff]
          intro i hi
          simp [hnone i hi]
        simp [this]
  · intro i hi
    simp only [newModel, List.length_append, List.length_singleton]
    exact Nat.lt_succ_of_lt (h.models i hi)

theorem WInv.congr {R} {w w' : World} (h : WInv R w) (h1 : w'.regs = w.regs) (h2 : w'.info = w.info)
    (h3 : w'.removedLog = w.removedLog) (h4 : w'.sets = w.sets) : WInv R w' :=
  ⟨by rw [h1, h2, h3]; exact h.regs, by rw [h2, h3]; exact h.rl, by rw [h1, h2]; exact h.models, by rw [h4]; exact h.sets⟩

theorem winv_set {R} {w : World} (h : WInv R w) {m : Nat} {r r' : Reg} (hr : w.regs[m]? = some r)
    {info' : List Info} {rl' held' : List Aid} (hm : RegInv R info' rl' m r')
    (ho : ∀ j rj, j ≠ m → RegInv R w.info w.removedLog j rj → RegInv R info' rl' j rj)
    (hrl : ∀ a ∈ rl', a < info'.length) (hmod : ∀ i ∈ info', i.model < w.regs.length) :
    WInv R { w with regs := w.regs.set m r', info := info', held := held', removedLog := rl' } := by
  refine ⟨fun j rj hj => ?_, hrl, fun i hi => by simp only [List.length_set]; exact hmod i hi, h.sets⟩
  rcases getElem?_set_cases hj with ⟨rfl, rfl⟩ | ⟨hne, hj⟩
  · exact hm
  · exact ho j rj hne (h.regs j rj hj)

theorem winv_createAgent {R} (hR : OrdRel R) {w : World} (h : WInv R w) (m : Nat) (ty : Ty) (hold : Bool) (x : Payload) :
    WInv R (createAgent w m ty hold x) := by
  unfold createAgent
  cases hr : w.regs[m]? with
  | none => exact h
  | some r =>
    refine winv_set h hr ((h.regs m r hr).register hR h.rl ⟨m, ty, r.nextId, x⟩ rfl rfl)
      (fun j rj hj hi => hi.info_append_other h.rl _ (Ne.symm hj)) (fun a ha => ?_) (fun i hi => ?_)
    · simp only [List.length_append, List.length_singleton]
      exact Nat.lt_succ_of_lt (h.rl a ha)
    · rcases List.mem_append.mp hi with hi | hi
      · exact h.models i hi
      · simp at hi
        subst hi
        exact (List.getElem?_eq_some_iff.mp hr).1

theorem winv_createN {R} (hR : OrdRel R) {w : World} (h : WInv R w) (m : Nat) (ty : Ty) (hold : Bool) (xs : List Payload) :
    WInv R (createN w m ty hold xs) :=
  foldl_inv h fun _ h x _ => winv_createAgent hR h m ty hold x

theorem winv_removeAgent {R} (hR : OrdRel R) {w : World} (h : WInv R w) (b : Aid) : WInv R (removeAgent w b) := by
  cases hi : w.info[b]? with
  | none =>
    rw [removeAgent_none hi]
    exact h
  | some ib =>
    cases hr : w.regs[ib.model]? with
    | none =>
      rw [removeAgent_noreg hi hr]
      exact h
    | some r =>
      rw [removeAgent_some hi hr]
      refine winv_set h hr ((h.regs _ r hr).deregister hR b ib hi)
        (fun j rj hj hi' => hi'.removed_other b ib hi (Ne.symm hj)) (fun a ha => ?_) h.models
      rcases List.mem_append.mp ha with ha | ha
      · exact h.rl a ha
      · simp at ha
        subst ha
        exact (List.getElem?_eq_some_iff.mp hi).1

theorem winv_removeAll {R} (hR : OrdRel R) {w : World} (h : WInv R w) (m : Nat) : WInv R (removeAll w m) := by
  unfold removeAll
  split
  · exact h
  · exact foldl_inv h fun _ h a _ => winv_removeAgent hR h a

theorem winv_unhold {R} {w : World} (h : WInv R w) (b : Aid) : WInv R (unhold w b) := h.congr rfl rfl rfl rfl

theorem winv_setRng {R} {w : World} (h : WInv R w) (m : Nat) (g : Rng) : WInv R (setRng w m g) := by
  unfold setRng
  split
  · exact h
  · rename_i r hr
    exact winv_set h hr ((h.regs m r hr).congr rfl rfl rfl rfl) (fun _ _ _ hi => hi) h.rl h.models

theorem winv_withSets {R} {w : World} (h : WInv R w) {s : List (Nat × List Aid)} (hs : SetsEdit w.sets s) :
    WInv R (withSets w s) := ⟨h.regs, h.rl, h.models, hs.nodup h.sets⟩

theorem winv_walk {R} (hR : OrdRel R) {w : World} (h : WInv R w) (script : Aid → List Action) (arg : Nat)
    (refs : List Aid) : WInv R (walk script arg w refs) :=
  walk_inv (P := WInv R) (fun _ _ h => h.congr rfl rfl rfl rfl)
    (fun a _ h x _ => runAction_inv (P := WInv R) (fun _ b h => winv_removeAgent hR h b)
      (fun _ m ty hold x h => winv_createAgent hR h m ty hold x) (fun _ b h => winv_unhold h b)
      (fun _ _ hs h => winv_withSets h hs) a h x) arg refs h

/-! ### the registry's sets show exactly their keys; reorderings; program-made sets -/

theorem alive_of_mem_hard {R} {w : World} (h : WInv R w) {m : Nat} {r : Reg} {a : Aid}
    (hr : w.regs[m]? = some r) (ha : a ∈ r.hard) : alive w a = true := by
  obtain ⟨⟨i, hi, him⟩, _⟩ := (h.regs m r hr).mem_hard.mp ha
  rw [alive_iff]
  refine ⟨(List.getElem?_eq_some_iff.mp hi).1, Or.inl ?_⟩
  rw [registered_iff]
  exact ⟨i, r, hi, by rw [him]; exact hr, ha⟩

theorem members_all_eq {R} (hR : OrdRel R) {w : World} (h : WInv R w) {m : Nat} {r : Reg}
    (hr : w.regs[m]? = some r) : members w (.all m) = r.all := by
  simp only [members, rawMembers, hr]
  rw [List.filter_eq_self]
  intro a ha
  exact alive_of_mem_hard h hr (((h.regs m r hr).mem_all hR).mp ha)

theorem members_byType_eq {R} (hR : OrdRel R) {w : World} (h : WInv R w) {m : Nat} {r : Reg}
    (hr : w.regs[m]? = some r) (ty : Ty) : members w (.byType m ty) = (r.byType.lookup ty).getD [] := by
  simp only [members, rawMembers, hr]
  rw [List.filter_eq_self]
  intro a ha
  cases hl : r.byType.lookup ty with
  | none => simp [hl] at ha
  | some s =>
    simp only [hl, Option.getD_some] at ha
    exact alive_of_mem_hard h hr (((h.regs m r hr).mem_group hR (mem_of_lookup hl)).mp ha).1

theorem WInv.rawMembers_nodup {R} (hR : OrdRel R) {w : World} (h : WInv R w) (t : Target) : (rawMembers w t).Nodup := by
  cases t with
  | all m =>
    simp only [rawMembers]
    cases hr : w.regs[m]? with
    | none => exact List.nodup_nil
    | some r => exact (hR.perm (h.regs m r hr).all).nodup_iff.mpr (h.regs m r hr).hard_nodup
  | byType m ty =>
    simp only [rawMembers]
    cases hr : w.regs[m]? with
    | none => exact List.nodup_nil
    | some r =>
      show ((r.byType.lookup ty).getD []).Nodup
      cases hl : r.byType.lookup ty with
      | none => exact List.nodup_nil
      | some s =>
        exact (hR.perm ((h.regs m r hr).bt.groups (ty, s) (mem_of_lookup hl))).nodup_iff.mpr
          ((h.regs m r hr).hard_nodup.sublist List.filter_sublist)
  | set k =>
    simp only [rawMembers]
    cases hs : w.sets[k]? with
    | none => exact List.nodup_nil
    | some p => exact h.sets p (List.mem_of_getElem? hs)

theorem byTypeMod_of_not_key (f : List Aid → List Aid) (bt : List (Ty × List Aid)) (ty : Ty) (h : ty ∉ bt.map (·.1)) :
    byTypeMod f bt ty = bt := by
  induction bt with
  | nil => rfl
  | cons p bt ih =>
    obtain ⟨t, s⟩ := p
    simp only [List.map_cons, List.mem_cons, not_or] at h
    unfold byTypeMod
    rw [if_neg (fun e => h.1 e.symm), ih h.2]

theorem winv_setRaw_set {R} {w : World} (h : WInv R w) (k : Nat) (l : List Aid) (hl : l.Perm (members w (.set k))) :
    WInv R (setRaw w (.set k) l) := by
  simp only [setRaw]
  cases hs : w.sets[k]? with
  | none => exact h
  | some p =>
    refine winv_withSets h (.set hs fun hn => hl.nodup_iff.mpr (hn.sublist ?_))
    simp only [members, rawMembers, hs]
    exact List.filter_sublist

theorem winv_setRaw_perm {w : World} (h : WInv List.Perm w) (t : Target) (l : List Aid)
    (hl : l.Perm (members w t)) : WInv List.Perm (setRaw w t l) := by
  cases t with
  | all m =>
    simp only [setRaw]
    cases hr : w.regs[m]? with
    | none => exact h
    | some r =>
      rw [members_all_eq OrdRel.ofPerm h hr] at hl
      have hi := h.regs m r hr
      exact winv_set h hr ⟨hi.hard, hl.trans hi.all, hi.bt, hi.uid⟩ (fun _ _ _ hj => hj) h.rl h.models
  | byType m ty =>
    simp only [setRaw]
    cases hr : w.regs[m]? with
    | none => exact h
    | some r =>
      rw [members_byType_eq OrdRel.ofPerm h hr] at hl
      have hi := h.regs m r hr
      refine winv_set h hr ?_ (fun _ _ _ hj => hj) h.rl h.models
      rw [byTypeSet_eq]
      cases hlk : r.byType.lookup ty with
      | none =>
        rw [byTypeMod_of_not_key _ _ _ (lookup_none_of_not_key hlk)]
        exact hi
      | some s =>
        rw [hlk] at hl
        refine ⟨hi.hard, hi.all, ⟨?_, ?_, ?_⟩, hi.uid⟩
        · simp only [byTypeMod_keys]
          exact hi.bt.keys
        · refine byTypeMod_groups (fun t => r.hard.filter (fun a => tyOfI w.info a == t)) _ ty (fun _ _ => rfl) r.byType
            hi.bt.keys hi.bt.groups fun _ _ => hl.trans (hi.bt.groups (ty, s) (mem_of_lookup hlk))
        · intro a ha
          simp only [byTypeMod_keys]
          exact hi.bt.cover a ha
  | set k => exact winv_setRaw_set h k l hl

theorem winv_mkSet {R} {w : World} (h : WInv R w) (m : Nat) (l : List Aid) : WInv R (mkSet w m l) := by
  refine ⟨h.regs, h.rl, h.models, ?_⟩
  intro p hp
  simp only [mkSet, List.mem_append, List.mem_singleton] at hp
  rcases hp with hp | rfl
  · exact h.sets p hp
  · exact nodup_dedup _

theorem winv_shuffled {R} {w : World} (h : WInv R w) : ∀ t?, WInv R (shuffled w t?)
  | none => h
  | some _ => winv_setRng h _ _

theorem winv_step {R} (hR : OrdRel R) {w : World} (h : WInv R w) (op : Op) (hop : op.reordersRegistry = false) :
    WInv R (step w op) := by
  cases ha : op.act? with
  | some a =>
    obtain ⟨arg, refs, e⟩ := step_act (w := w) ha
    rw [e]
    exact winv_walk hR (winv_shuffled h a.2) a.1 arg refs
  | none =>
    cases op with
    | newModel g => exact winv_newModel hR h g
    | create m ty hold x => exact winv_createAgent hR h m ty hold x
    | createN m ty hold xs => exact winv_createN hR h m ty hold xs
    | createAgents m ty hold n args => exact winv_createN hR h m ty hold _
    | remove a => exact winv_removeAgent hR h a
    | removeAll m => exact winv_removeAll hR h m
    | unhold a => exact winv_unhold h a
    | shuffle t =>
      cases t with
      | set k =>
        simp only [step, shuffleInPlace]
        exact winv_setRng (winv_setRaw_set h k _ (Rng.shuffle_perm _ _)) _ _
      | _ => cases hop
    | sort t asc =>
      cases t with
      | set k => exact winv_setRaw_set h k _ (List.mergeSort_perm _ _)
      | _ => cases hop
    | mkSet m l => exact winv_mkSet h m l
    | _ => cases ha

theorem winv_step_perm {w : World} (h : WInv List.Perm w) (op : Op) : WInv List.Perm (step w op) := by
  by_cases hop : op.reordersRegistry = false
  · exact winv_step OrdRel.ofPerm h op hop
  · cases op with
    | shuffle t => exact winv_setRng (winv_setRaw_perm h t _ (Rng.shuffle_perm _ _)) _ _
    | sort t asc => exact winv_setRaw_perm h t _ (List.mergeSort_perm _ _)
    | _ => simp [Op.reordersRegistry] at hop

theorem winv_run_perm {w : World} (h : WInv List.Perm w) (ops : List Op) : WInv List.Perm (run w ops) :=
  foldl_inv h fun _ h op _ => winv_step_perm h op

theorem winv_run_eq {w : World} (h : WInv Eq w) (ops : List Op) (hops : ∀ op ∈ ops, op.reordersRegistry = false) :
    WInv Eq (run w ops) :=
  foldl_inv h fun _ h op hop => winv_step OrdRel.eq h op (hops op hop)

/-! ### frames: what an operation leaves alone; `info` only grows -/

theorem createAgent_regs_other (w : World) (m m' : Nat) (hne : m' ≠ m) (ty : Ty) (hold : Bool) (x : Payload) :
    (createAgent w m ty hold x).regs[m']? = w.regs[m']? := by
  unfold createAgent
  cases w.regs[m]? with
  | none => rfl
  | some r => simp [Ne.symm hne]

theorem createN_regs_other (w : World) (m m' : Nat) (hne : m' ≠ m) (ty : Ty) (hold : Bool) (xs : List Payload) :
    (createN w m ty hold xs).regs[m']? = w.regs[m']? :=
  foldl_inv (P := fun w' : World => w'.regs[m']? = w.regs[m']?) rfl fun w' h x _ =>
    (createAgent_regs_other w' m m' hne ty hold x).trans h

theorem removeAgent_regs_other (w : World) (a : Aid) (i : Info) (hi : w.info[a]? = some i) (m' : Nat)
    (hne : m' ≠ i.model) : (removeAgent w a).regs[m']? = w.regs[m']? := by
  cases hr : w.regs[i.model]? with
  | none => rw [removeAgent_noreg hi hr]
  | some r =>
    rw [removeAgent_some hi hr]
    simp [Ne.symm hne]

theorem foldl_removeAgent_regs_other (w : World) (m m' : Nat) (hne : m' ≠ m) (l : List Aid)
    (hl : ∀ a ∈ l, ∃ i, w.info[a]? = some i ∧ i.model = m) :
    (l.foldl removeAgent w).regs[m']? = w.regs[m']? := by
  refine (foldl_inv (P := fun w' : World => w'.info = w.info ∧ w'.regs[m']? = w.regs[m']?) ⟨rfl, rfl⟩ fun w' h a ha => ?_).2
  obtain ⟨i, hi, him⟩ := hl a ha
  exact ⟨(removeAgent_info w' a).trans h.1,
    (removeAgent_regs_other w' a i (by rw [h.1]; exact hi) m' (by rw [him]; exact hne)).trans h.2⟩

theorem setRaw_info (w : World) (t : Target) (l : List Aid) : (setRaw w t l).info = w.info := by
  cases t <;> simp only [setRaw] <;> split <;> rfl

theorem setRaw_regs_other (w : World) (t : Target) (l : List Aid) (m' : Nat) (ht : (∀ k, t ≠ .set k) → t.model w ≠ m') :
    (setRaw w t l).regs[m']? = w.regs[m']? := by
  cases t with
  | all j | byType j ty =>
    have hj : j ≠ m' := ht (fun k => by simp)
    simp only [setRaw]
    split <;> simp [hj]
  | set k =>
    simp only [setRaw]
    split <;> rfl

theorem step_info_ext (w : World) (op : Op) : ∃ e, (step w op).info = w.info ++ e := by
  have same : ∀ {w' : World}, w'.info = w.info → ∃ e, w'.info = w.info ++ e := fun h => ⟨[], by simp [h]⟩
  cases ha : op.act? with
  | some a =>
    obtain ⟨arg, refs, e⟩ := step_act (w := w) ha
    rw [e]
    exact ((le_shuffled w a.2).trans (le_walk a.1 arg _ refs)).ext
  | none =>
    cases op with
    | newModel g => exact same rfl
    | create m ty hold x => exact (le_createAgent w m ty hold x).ext
    | createN m ty hold xs => exact (le_createN w m ty hold xs).ext
    | createAgents m ty hold n args => exact (le_createN w m ty hold _).ext
    | remove a => exact (le_removeAgent w a).ext
    | removeAll m =>
      simp only [step, removeAll]
      split
      · exact same rfl
      · exact same (foldl_inv (P := fun w' : World => w'.info = w.info) rfl fun w' h a _ => (removeAgent_info w' a).trans h)
    | unhold a => exact same rfl
    | shuffle t => exact same ((setRng_info _ _ _).trans (setRaw_info w t _))
    | sort t asc => exact same (setRaw_info w t _)
    | mkSet m l => exact same rfl
    | _ => cases ha

theorem run_info_ext (w : World) (ops : List Op) : ∃ e, (run w ops).info = w.info ++ e :=
  foldl_inv (P := fun w' : World => ∃ e, w'.info = w.info ++ e) ⟨[], by simp⟩ fun w' ⟨e1, h1⟩ op _ =>
    let ⟨e2, h2⟩ := step_info_ext w' op
    ⟨e1 ++ e2, by rw [h2, h1, List.append_assoc]⟩

/-! ### what `create_agents` records about the agents it creates -/

theorem createAgent_spec (w : World) (m : Nat) (ty : Ty) (hold : Bool) (x : Payload) (r : Reg) (hr : w.regs[m]? = some r) :
    (createAgent w m ty hold x).info = w.info ++ [{ model := m, ty := ty, uid := r.nextId, x := x }] ∧
    ∃ r', (createAgent w m ty hold x).regs[m]? = some r' ∧ r'.nextId = r.nextId + 1 := by
  unfold createAgent
  simp only [hr]
  refine ⟨trivial, { r.register w.info.length ty with nextId := r.nextId + 1 }, ?_, rfl⟩
  simp [(List.getElem?_eq_some_iff.mp hr).1]

theorem createN_info (m : Nat) (ty : Ty) (hold : Bool) (xs : List Payload) (w : World) (r : Reg) (hr : w.regs[m]? = some r) :
    (createN w m ty hold xs).info
      = w.info ++ xs.mapIdx (fun i x => ({ model := m, ty := ty, uid := r.nextId + i, x := x } : Info)) ∧
    ∃ r', (createN w m ty hold xs).regs[m]? = some r' ∧ r'.nextId = r.nextId + xs.length := by
  induction xs generalizing w r with
  | nil => exact ⟨by simp [createN], r, hr, rfl⟩
  | cons x0 rest ih =>
    obtain ⟨hinfo, r1, hr1, hn1⟩ := createAgent_spec w m ty hold x0 r hr
    obtain ⟨h1, r', hr', hn'⟩ := ih (createAgent w m ty hold x0) r1 hr1
    refine ⟨?_, r', hr', by rw [hn', hn1, List.length_cons]; omega⟩
    show (createN (createAgent w m ty hold x0) m ty hold rest).info = _
    rw [h1, hinfo, List.mapIdx_cons, List.append_assoc, hn1]
    simp [Nat.add_assoc, Nat.add_comm 1]

theorem splitArgs_length (n : Nat) (args : List Arg) : (splitArgs n args).length = n := by simp [splitArgs]

theorem splitArgs_getElem? (n : Nat) (args : List Arg) (i : Nat) (hi : i < n) :
    (splitArgs n args)[i]? = some (args.map (Arg.at n i)) := by
  simp [splitArgs, hi]

/-! ### calls that change nothing: `remove()` of an unregistered agent, `register_agent` of a registered one -/

theorem removeAgent_of_not_hard (w : World) (a : Aid)
    (h : ∀ i r, w.info[a]? = some i → w.regs[i.model]? = some r → a ∉ r.hard) :
    ∃ rl, removeAgent w a = { w with removedLog := rl } := by
  cases hi : w.info[a]? with
  | none => exact ⟨_, removeAgent_none hi⟩
  | some i =>
    cases hr : w.regs[i.model]? with
    | none => exact ⟨_, removeAgent_noreg hi hr⟩
    | some r =>
      refine ⟨w.removedLog ++ [a], (removeAgent_some hi hr).trans ?_⟩
      have : r.deregister a i.ty = r := by simp [Reg.deregister, h i r hi hr]
      rw [this, set_getElem?_self hr]

theorem byTypeAdd_noop (bt : List (Ty × List Aid)) (ty : Ty) (a : Aid) (s : List Aid) (h : bt.lookup ty = some s)
    (ha : a ∈ s) : byTypeAdd bt ty a = bt := by
  induction bt with
  | nil => simp [List.lookup] at h
  | cons p bt ih =>
    obtain ⟨t, s0⟩ := p
    unfold byTypeAdd
    by_cases hts : t = ty
    · subst hts
      simp only [List.lookup, beq_self_eq_true] at h
      simp only [if_true]
      have : s0 = s := by simpa using h
      subst this
      rw [addKey_of_mem ha]
    · have hne : (ty == t) = false := by
        simp
        exact fun e => hts e.symm
      simp only [hts, if_false]
      rw [ih (by simpa [List.lookup, hne] using h)]

theorem registerAgain_noop {R} (hR : OrdRel R) {w : World} (h : WInv R w) (a : Aid) (hreg : registered w a = true) :
    registerAgain w a = w := by
  rw [registered_iff] at hreg
  obtain ⟨i, r, hi, hr, ha⟩ := hreg
  have hinv := h.regs i.model r hr
  have hall : a ∈ r.all := (hinv.mem_all hR).mpr ha
  have hty : tyOfI w.info a = i.ty := by simp [tyOfI, hi]
  obtain ⟨s, hs, hmem⟩ := lookup_of_mem_keys (hinv.bt.cover a ha)
  have has : a ∈ s := (hinv.mem_group hR hmem).mpr ⟨ha, rfl⟩
  rw [hty] at hs
  have hreg' : r.register a i.ty = r := by
    simp only [Reg.register, addKey_of_mem ha, addKey_of_mem hall, byTypeAdd_noop _ _ _ _ hs has]
  simp only [registerAgain, hi, hr, hreg', set_getElem?_self hr]

end Mesa.Agents
