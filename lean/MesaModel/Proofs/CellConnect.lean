import MesaModel.Proofs.CellOffsets
/-!
Helper lemmas for C07: `connectNd` / `connect2d` = "add the offset, wrap on a torus, keep iff in
bounds"; totality on a torus; symmetry (torus wrap-back); the cells of a grid.
-/
namespace Mesa.Cells

/-- `c` is a coordinate of the grid with dimensions `dims` (same number of axes, every component in range) -/
def InB : List Int → List Nat → Prop
  | [], [] => True
  | x :: c, w :: ds => (0 ≤ x ∧ x < (w : Int)) ∧ InB c ds
  | _, _ => False

theorem inb_cons (x : Int) (c : List Int) (w : Nat) (ds : List Nat) :
    inb (x :: c) (w :: ds) = (decide (0 ≤ x ∧ x < (w : Int)) && inb c ds) := rfl

/-- the code's bounds test decides `InB` for vectors with as many components as the grid has axes (`zip`
    would silently drop the rest) -/
theorem InB_iff_inb {c : List Int} {dims : List Nat} :
    InB c dims ↔ c.length = dims.length ∧ inb c dims = true := by
  induction c generalizing dims with
  | nil => cases dims <;> simp [InB, inb]
  | cons x c ih =>
    cases dims with
    | nil => simp [InB]
    | cons w ds =>
      rw [InB, ih, inb_cons, Bool.and_eq_true, decide_eq_true_eq, List.length_cons, List.length_cons,
        Nat.add_right_cancel_iff]
      exact ⟨fun ⟨a, l, b⟩ => ⟨l, a, b⟩, fun ⟨l, a, b⟩ => ⟨a, l, b⟩⟩

theorem InB.length_eq {c : List Int} {dims : List Nat} (h : InB c dims) : c.length = dims.length :=
  (InB_iff_inb.mp h).1

theorem mem_allCoords (dims : List Nat) (c : List Int) : c ∈ allCoords dims ↔ InB c dims := by
  induction dims generalizing c with
  | nil => cases c <;> simp [allCoords, InB]
  | cons w ds ih =>
    simp only [allCoords, List.mem_flatMap, List.mem_range, List.mem_map]
    constructor
    · rintro ⟨x, hx, t, ht, rfl⟩
      exact ⟨⟨by omega, by omega⟩, (ih t).mp ht⟩
    · intro h
      cases c with
      | nil => simp [InB] at h
      | cons x t =>
        simp only [InB] at h
        refine ⟨x.toNat, by omega, t, (ih t).mpr h.2, ?_⟩
        congr 1
        omega

/-- symmetry of a torus connection in one axis: going d then -d returns (DESIGN A.2) -/
theorem wrap_back (x d w : Int) (hw : 0 < w) (hx : 0 ≤ x) (hx' : x < w) :
    ((x + d) % w + -d) % w = x := by
  rw [Int.add_emod, Int.emod_emod_of_dvd _ (Int.dvd_refl w), ← Int.add_emod]
  have : x + d + -d = x := by omega
  rw [this]
  exact Int.emod_eq_of_lt hx hx'

theorem InB_wrapv : ∀ {v : List Int} {dims : List Nat}, (∀ w ∈ dims, 0 < w) → v.length = dims.length →
    InB (wrapv v dims) dims
  | [], [], _, _ => trivial
  | x :: v, w :: ds, hpos, hl =>
    have hw : 0 < w := hpos w (by simp)
    ⟨⟨Int.emod_nonneg _ (by omega), Int.emod_lt_of_pos _ (by omega)⟩,
      InB_wrapv (fun w' hw' => hpos w' (by simp [hw'])) (by simpa using hl)⟩

theorem addv_length {c d : List Int} (h : d.length = c.length) : (addv c d).length = c.length := by
  simp [addv, h]

theorem wrapv_addv_back {c d : List Int} {dims : List Nat} (hpos : ∀ w ∈ dims, 0 < w) (hc : InB c dims)
    (hd : d.length = dims.length) : wrapv (addv (wrapv (addv c d) dims) (negv d)) dims = c := by
  induction c generalizing d dims with
  | nil => cases dims <;> simp_all [InB, wrapv, addv]
  | cons x c ih =>
    cases dims with
    | nil => simp [InB] at hc
    | cons w ds =>
      cases d with
      | nil => simp at hd
      | cons y d =>
        simp only [InB] at hc
        have hw : 0 < w := hpos w (by simp)
        simp only [addv, wrapv, negv, List.zipWith_cons_cons, List.map_cons, List.cons.injEq]
        refine ⟨wrap_back x y w (by omega) hc.1.1 hc.1.2, ?_⟩
        exact ih (fun w' hw' => hpos w' (by simp [hw'])) hc.2 (by simpa using hd)

theorem addv_negv_back {c d : List Int} (hd : d.length = c.length) : addv (addv c d) (negv d) = c := by
  induction c generalizing d with
  | nil => simp [addv]
  | cons x c ih =>
    cases d with
    | nil => simp at hd
    | cons y d =>
      simp only [addv, negv, List.zipWith_cons_cons, List.map_cons, List.cons.injEq]
      exact ⟨by omega, ih (by simpa using hd)⟩

/-- what `connectNd` computes before the bounds test -/
def target (dims : List Nat) (torus : Bool) (c d : List Int) : List Int :=
  if torus then wrapv (addv c d) dims else addv c d

theorem target_length {dims : List Nat} {torus : Bool} {c d : List Int} (hc : c.length = dims.length)
    (hd : d.length = dims.length) : (target dims torus c d).length = dims.length := by
  have ha : (addv c d).length = dims.length := (addv_length (hd.trans hc.symm)).trans hc
  unfold target
  split
  · simp [wrapv, ha]
  · exact ha

theorem connectNd_spec {dims : List Nat} {torus : Bool} {c d c' : List Int} (hc : c.length = dims.length)
    (hd : d.length = dims.length) :
    connectNd dims torus c d = some c' ↔ c' = target dims torus c d ∧ InB c' dims := by
  have hl := target_length (torus := torus) hc hd
  change (if inb (target dims torus c d) dims = true then some (target dims torus c d) else none) = some c' ↔ _
  constructor
  · intro h
    split at h
    · rename_i hb
      cases h
      exact ⟨rfl, InB_iff_inb.mpr ⟨hl, hb⟩⟩
    · cases h
  · rintro ⟨rfl, hb⟩
    rw [if_pos (InB_iff_inb.mp hb).2]

theorem connectNd_torus_total {dims : List Nat} {c d : List Int} (hpos : ∀ w ∈ dims, 0 < w)
    (hc : c.length = dims.length) (hd : d.length = dims.length) :
    connectNd dims true c d = some (wrapv (addv c d) dims) := by
  rw [connectNd_spec hc hd]
  exact ⟨rfl, InB_wrapv hpos ((addv_length (hd.trans hc.symm)).trans hc)⟩

theorem connectNd_plain_none {dims : List Nat} {c d : List Int} (hc : c.length = dims.length)
    (hd : d.length = dims.length) : connectNd dims false c d = none ↔ ¬ InB (addv c d) dims := by
  rw [Option.eq_none_iff_forall_ne_some]
  simp only [ne_eq, connectNd_spec hc hd, target, Bool.false_eq_true, if_false]
  exact ⟨fun h hb => h _ ⟨rfl, hb⟩, fun h a ⟨e, hb⟩ => h (e ▸ hb)⟩

theorem connectNd_symm {dims : List Nat} {torus : Bool} {c d c' : List Int} (hpos : ∀ w ∈ dims, 0 < w)
    (hc : InB c dims) (hd : d.length = dims.length) (h : connectNd dims torus c d = some c') :
    connectNd dims torus c' (negv d) = some c := by
  obtain ⟨rfl, hb⟩ := (connectNd_spec hc.length_eq hd).mp h
  rw [connectNd_spec hb.length_eq (by rw [negv_length]; exact hd)]
  refine ⟨?_, hc⟩
  unfold target
  cases torus with
  | true =>
    simp only [if_true]
    exact (wrapv_addv_back hpos hc hd).symm
  | false =>
    simp only [Bool.false_eq_true, if_false]
    exact (addv_negv_back (by rw [hd, hc.length_eq])).symm

theorem inb_pair (x y : Int) (h w : Nat) :
    inb [x, y] [h, w] = true ↔ 0 ≤ x ∧ x < (h : Int) ∧ 0 ≤ y ∧ y < (w : Int) := by
  simp [inb, and_assoc]

/-- the 2-D code path computes the same as the n-D one: both put the same bounds test on the same pair -/
theorem connect2d_eq_nd (h w : Nat) (torus : Bool) (i j di dj : Int) :
    (connect2d h w torus i j di dj).map (fun p => [p.1, p.2]) = connectNd [h, w] torus [i, j] [di, dj] := by
  have key : ∀ x y : Int,
      (if 0 ≤ x ∧ x < (h : Int) ∧ 0 ≤ y ∧ y < (w : Int) then some (x, y) else none).map (fun p => [p.1, p.2])
        = if inb [x, y] [h, w] then some [x, y] else none := by
    intro x y
    by_cases hb : 0 ≤ x ∧ x < (h : Int) ∧ 0 ≤ y ∧ y < (w : Int)
    · rw [if_pos hb, if_pos ((inb_pair x y h w).mpr hb)]
      rfl
    · rw [if_neg hb, if_neg (mt (inb_pair x y h w).mp hb)]
      rfl
  cases torus
  · exact key _ _
  · exact key _ _

end Mesa.Cells
