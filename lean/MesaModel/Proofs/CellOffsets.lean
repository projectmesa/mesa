import MesaModel.Model.CellGeometry
/-!
Helper lemmas for C07: the n-dimensional offset tables are exactly the vectors of Chebyshev /
Manhattan norm 1.
-/
namespace Mesa.Cells

/-- Chebyshev norm `max |x_i|` -/
def chebNorm (d : List Int) : Nat := (d.map Int.natAbs).foldr max 0

/-- Manhattan norm `Σ |x_i|` -/
def manhNorm (d : List Int) : Nat := (d.map Int.natAbs).sum

theorem mem_prod3 (n : Nat) (d : List Int) :
    d ∈ prod3 n ↔ d.length = n ∧ ∀ x ∈ d, x = -1 ∨ x = 0 ∨ x = 1 := by
  induction n generalizing d with
  | zero =>
    simp [prod3]
    rintro rfl
    simp
  | succ n ih =>
    simp only [prod3, List.mem_flatMap, List.mem_map]
    constructor
    · rintro ⟨x, hx, t, ht, rfl⟩
      obtain ⟨hl, hall⟩ := (ih t).mp ht
      refine ⟨by simp [hl], ?_⟩
      intro y hy
      simp at hy hx
      rcases hy with rfl | hy
      · exact hx
      · exact hall y hy
    · rintro ⟨hl, hall⟩
      cases d with
      | nil => simp at hl
      | cons x t =>
        refine ⟨x, ?_, t, (ih t).mpr ⟨by simpa using hl, fun y hy => hall y (by simp [hy])⟩, rfl⟩
        have := hall x (by simp)
        simpa using this

theorem prod3_nodup (n : Nat) : (prod3 n).Nodup := by
  induction n with
  | zero => simp [prod3]
  | succ n ih =>
    simp only [prod3]
    have hm : ∀ x : Int, ((prod3 n).map (x :: ·)).Nodup := by
      intro x
      unfold List.Nodup
      rw [List.pairwise_map]
      exact List.Pairwise.imp (fun h => by simpa using h) ih
    simp only [List.flatMap_cons, List.flatMap_nil, List.append_nil]
    rw [List.nodup_append, List.nodup_append]
    refine ⟨hm _, ⟨hm _, hm _, ?_⟩, ?_⟩
    · intro a ha b hb
      simp only [List.mem_map] at ha hb
      obtain ⟨_, _, rfl⟩ := ha
      obtain ⟨_, _, rfl⟩ := hb
      simp
    · intro a ha b hb
      simp only [List.mem_map, List.mem_append] at ha hb
      obtain ⟨_, _, rfl⟩ := ha
      rcases hb with ⟨_, _, rfl⟩ | ⟨_, _, rfl⟩ <;> simp

theorem zeroVec_length (n : Nat) : (zeroVec n).length = n := by simp [zeroVec]

theorem mem_zeroVec {n : Nat} {x : Int} (h : x ∈ zeroVec n) : x = 0 := by
  simp [zeroVec] at h
  exact h.2

theorem zeroVec_mem_prod3 (n : Nat) : zeroVec n ∈ prod3 n := by
  rw [mem_prod3]
  exact ⟨zeroVec_length n, fun x hx => Or.inr (Or.inl (mem_zeroVec hx))⟩

theorem eq_zeroVec_iff (d : List Int) : d = zeroVec d.length ↔ ∀ x ∈ d, x = 0 := by
  induction d with
  | nil => simp [zeroVec]
  | cons x t ih =>
    simp only [zeroVec, List.length_cons, List.replicate_succ, List.cons.injEq, List.mem_cons, forall_eq_or_imp]
    simp only [zeroVec] at ih
    rw [ih]

theorem chebNorm_cons (x : Int) (t : List Int) : chebNorm (x :: t) = max x.natAbs (chebNorm t) := rfl

theorem chebNorm_le (d : List Int) (k : Nat) : chebNorm d ≤ k ↔ ∀ x ∈ d, x.natAbs ≤ k := by
  induction d with
  | nil => simp [chebNorm]
  | cons x t ih => rw [chebNorm_cons, Nat.max_le, ih, List.forall_mem_cons]

theorem chebNorm_le_one (d : List Int) : chebNorm d ≤ 1 ↔ ∀ x ∈ d, -1 ≤ x ∧ x ≤ 1 := by
  rw [chebNorm_le]
  exact forall_congr' fun x => imp_congr_right fun _ => by omega

theorem chebNorm_eq_zero (d : List Int) : chebNorm d = 0 ↔ ∀ x ∈ d, x = 0 := by
  rw [← Nat.le_zero, chebNorm_le]
  exact forall_congr' fun x => imp_congr_right fun _ => by omega

theorem mem_mooreOffsets (n : Nat) (d : List Int) :
    d ∈ mooreOffsets n ↔ d.length = n ∧ (∀ x ∈ d, -1 ≤ x ∧ x ≤ 1) ∧ d ≠ zeroVec n := by
  unfold mooreOffsets
  rw [(prod3_nodup n).mem_erase_iff, mem_prod3]
  constructor
  · rintro ⟨hne, hl, hall⟩
    exact ⟨hl, fun x hx => by have := hall x hx; omega, hne⟩
  · rintro ⟨hl, hall, hne⟩
    exact ⟨hne, hl, fun x hx => by have := hall x hx; omega⟩

theorem mem_mooreOffsets_norm (n : Nat) (d : List Int) :
    d ∈ mooreOffsets n ↔ d.length = n ∧ chebNorm d = 1 := by
  rw [mem_mooreOffsets, ← chebNorm_le_one]
  refine and_congr_right fun hl => ?_
  subst hl
  rw [ne_eq, eq_zeroVec_iff, ← chebNorm_eq_zero]
  omega

theorem mooreOffsets_nodup (n : Nat) : (mooreOffsets n).Nodup := (prod3_nodup n).erase _

/-! ### von Neumann -/

theorem unitVec_length (n i : Nat) (δ : Int) : (unitVec n i δ).length = n := by simp [unitVec, zeroVec]

theorem mem_vnOffsets (n : Nat) (d : List Int) :
    d ∈ vnOffsets n ↔ ∃ i, i < n ∧ (d = unitVec n i (-1) ∨ d = unitVec n i 1) := by
  simp [vnOffsets]

theorem unitVec_zero (n : Nat) (δ : Int) : unitVec (n+1) 0 δ = δ :: zeroVec n := by
  simp [unitVec, zeroVec, List.replicate_succ]

theorem unitVec_succ (n i : Nat) (δ : Int) : unitVec (n+1) (i+1) δ = 0 :: unitVec n i δ := by
  simp [unitVec, zeroVec, List.replicate_succ]

theorem unitVec_getElem? (n i : Nat) (δ : Int) {j : Nat} (hj : j < n) :
    (unitVec n i δ)[j]? = some (if i = j then δ else 0) := by
  simp only [unitVec, zeroVec, List.getElem?_set, List.length_replicate, List.getElem?_replicate, hj, if_true]
  split
  · rename_i e
    rw [if_pos (e ▸ hj)]
  · rfl

theorem manhNorm_cons (x : Int) (t : List Int) : manhNorm (x :: t) = x.natAbs + manhNorm t := by
  simp [manhNorm]

theorem manhNorm_zeroVec (n : Nat) : manhNorm (zeroVec n) = 0 := by
  induction n with
  | zero => simp [manhNorm, zeroVec]
  | succ n ih =>
    simp only [zeroVec, List.replicate_succ] at ih ⊢
    rw [manhNorm_cons, ih]
    simp

theorem manhNorm_unitVec (n i : Nat) (δ : Int) (h : i < n) : manhNorm (unitVec n i δ) = δ.natAbs := by
  induction n generalizing i with
  | zero => omega
  | succ n ih =>
    cases i with
    | zero =>
      rw [unitVec_zero, manhNorm_cons, manhNorm_zeroVec]
      simp
    | succ i =>
      rw [unitVec_succ, manhNorm_cons, ih i (by omega)]
      simp

theorem manhNorm_eq_zero (d : List Int) : manhNorm d = 0 ↔ d = zeroVec d.length := by
  induction d with
  | nil => simp [manhNorm, zeroVec]
  | cons x t ih =>
    rw [manhNorm_cons]
    simp only [zeroVec, List.length_cons, List.replicate_succ, List.cons.injEq]
    simp only [zeroVec] at ih
    rw [← ih]
    omega

theorem mem_vnOffsets_norm (n : Nat) (d : List Int) :
    d ∈ vnOffsets n ↔ d.length = n ∧ manhNorm d = 1 := by
  rw [mem_vnOffsets]
  constructor
  · rintro ⟨i, hi, rfl | rfl⟩
    · exact ⟨unitVec_length _ _ _, manhNorm_unitVec _ _ _ hi⟩
    · exact ⟨unitVec_length _ _ _, manhNorm_unitVec _ _ _ hi⟩
  · rintro ⟨rfl, h1⟩
    -- the one non-zero component is either the head (then the tail is zero) or in the tail
    induction d with
    | nil => exact absurd h1 (by decide)
    | cons x t ih =>
      rw [manhNorm_cons] at h1
      rw [List.length_cons]
      by_cases hx : x = 0
      · subst hx
        obtain ⟨i, hi, h⟩ := ih (by simpa using h1)
        refine ⟨i+1, Nat.succ_lt_succ hi, ?_⟩
        rw [unitVec_succ, unitVec_succ]
        exact h.imp (congrArg (0 :: ·)) (congrArg (0 :: ·))
      · have ht := (manhNorm_eq_zero t).mp (by omega)
        refine ⟨0, Nat.succ_pos _, ?_⟩
        rw [unitVec_zero, unitVec_zero, ← ht]
        have : x = -1 ∨ x = 1 := by omega
        exact this.imp (congrArg (· :: t)) (congrArg (· :: t))

def negv (d : List Int) : List Int := d.map (- ·)

theorem negv_length (d : List Int) : (negv d).length = d.length := by simp [negv]

theorem chebNorm_negv (d : List Int) : chebNorm (negv d) = chebNorm d := by
  induction d with
  | nil => rfl
  | cons x t ih =>
    simp only [negv, List.map_cons] at ih ⊢
    rw [chebNorm_cons, chebNorm_cons, ih, Int.natAbs_neg]

theorem manhNorm_negv (d : List Int) : manhNorm (negv d) = manhNorm d := by
  induction d with
  | nil => rfl
  | cons x t ih =>
    simp only [negv, List.map_cons] at ih ⊢
    rw [manhNorm_cons, manhNorm_cons, ih]
    simp

end Mesa.Cells
