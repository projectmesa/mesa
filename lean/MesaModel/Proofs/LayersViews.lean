import MesaModel.Proofs.LayersEmpty
import MesaModel.Proofs.LayersSelect
/-!
Helper lemmas for C11: reachable states, the value of a layer, and what each write does to the
values of *all* layers (effect on the written layer, frame on the others).
-/
namespace Mesa.Layers

/-- the states reachable by any history of ops on any grid of either implementation -/
inductive Reach : State → Prop where
  | init (impl : Impl) (dims : List Nat) (cap : Option Nat) : Reach (init impl dims cap)
  | step {s : State} (op : Op) : Reach s → Reach (step s op).1

theorem Reach.wf {s : State} (h : Reach s) : WF s := by
  induction h with
  | init impl dims cap => exact WF_init impl dims cap
  | step op _ ih => exact WF_step ih op

theorem Reach.of_step {s s' : State} {o : Out} (h : Reach s) (op : Op) (e : Mesa.Layers.step s op = (s', o)) :
    Reach s' := by
  have := Reach.step op h
  rwa [e] at this

theorem reach_run {s : State} (h : Reach s) (ops : List Op) : Reach (run s ops).1 := by
  induction ops generalizing s with
  | nil => exact h
  | cons op ops ih =>
    simp only [run]
    exact ih (Reach.step op h)

theorem reach_iff (s : State) :
    Reach s ↔ ∃ impl dims cap ops, s = (run (init impl dims cap) ops).1 := by
  constructor
  · intro h
    induction h with
    | init impl dims cap => exact ⟨impl, dims, cap, [], rfl⟩
    | @step s op _ ih =>
      obtain ⟨impl, dims, cap, ops, rfl⟩ := ih
      refine ⟨impl, dims, cap, ops ++ [op], ?_⟩
      have : ∀ (t : State) (l : List Op), (run t (l ++ [op])).1 = (step (run t l).1 op).1 := by
        intro t l
        induction l generalizing t with
        | nil => simp [run]
        | cons x xs ih =>
          simp only [List.cons_append, run]
          exact ih _
      rw [this]
  · rintro ⟨impl, dims, cap, ops, rfl⟩
    exact reach_run (Reach.init impl dims cap) ops

/-- the value of layer `l` at `c`: the entry of the array the layer currently points to -/
def State.value (s : State) (l : Nat) (c : Coord) : Int := s.heap (s.layers l).data c

theorem value_upd {s : State} (hw : WF s) {l l' : Nat} (hl : l < s.nLayers) (hl' : l' < s.nLayers)
    (x : Arr) (c : Coord) :
    (s.write (s.layers l).data x).value l' c = if l' = l then x c else s.value l' c := by
  unfold State.value
  show upd s.heap (s.layers l).data x (s.layers l').data c = _
  by_cases h : l' = l
  · subst h
    simp
  · rw [if_neg h, upd_other]
    intro he
    exact h (hw.data_inj l' l hl' hl he)

theorem layerGet_eq_value {s : State} {l : Nat} {c : Coord} (hl : l < s.nLayers)
    (hc : inBounds (s.layers l).dims c = true) : layerGet s l c = .val (s.value l c) := by
  unfold layerGet State.layer?
  simp [hl, hc, State.value]

theorem cellGet_eq_value {s : State} (hw : WF s) {n : String} {l : Nat} (hn : s.named? n = some l)
    {c : Coord} (hc : inBounds s.dims c = true) : cellGet s n c = .val (s.value l c) := by
  have hd := hw.att_dims n l hn
  unfold cellGet
  split
  · next hi =>
    have := hw.att_free hi n l hn
    have hdn : s.descr.lookup n = some l := (hw.descr_eq hi n).trans hn
    simp [hc, this, hdn, State.value]
  · simp [hn, hd, hc, State.value]

theorem write_views {s s' : State} (hw : WF s) {l : Nat} (hl : l < s.nLayers) {x : Arr}
    (e : s' = s.write (s.layers l).data x) :
    (∀ l' c, l' < s.nLayers → s'.value l' c = if l' = l then x c else s.value l' c) ∧
    (∀ n c, s.named? n = some l → inBounds s.dims c = true → cellGet s' n c = .val (x c)) ∧
    (∀ c, inBounds (s.layers l).dims c = true → layerGet s' l c = .val (x c)) := by
  subst e
  have hw' := hw.write (s.layers l).data x
  have hv : ∀ l' c, l' < s.nLayers → (s.write (s.layers l).data x).value l' c = if l' = l then x c else s.value l' c :=
    fun l' c hl' => value_upd hw hl hl' x c
  refine ⟨hv, fun n c hn hc => ?_, fun c hc => ?_⟩
  · rw [cellGet_eq_value hw' hn hc, hv l c hl, if_pos rfl]
  · rw [layerGet_eq_value (s := s.write (s.layers l).data x) hl hc, hv l c hl, if_pos rfl]

theorem set_views {s s' : State} (hw : WF s) {l : Nat} (hl : l < s.nLayers) {c : Coord} {v : Int}
    (e : s' = s.write (s.layers l).data ((s.heap (s.layers l).data).set c v)) :
    s'.value l c = v ∧
    (∀ l' c', l' < s.nLayers → (l' ≠ l ∨ c' ≠ c) → s'.value l' c' = s.value l' c') ∧
    (∀ n, s.named? n = some l → inBounds s.dims c = true → cellGet s' n c = .val v) ∧
    (inBounds (s.layers l).dims c = true → layerGet s' l c = .val v) := by
  obtain ⟨hv, hcell, hlayer⟩ := write_views hw hl e
  have hc : (s.heap (s.layers l).data).set c v c = v := if_pos rfl
  refine ⟨by rw [hv l c hl, if_pos rfl, hc], fun l' c' hl' hne => ?_, fun n hn hb => by rw [hcell n c hn hb, hc],
    fun hb => by rw [hlayer c hb, hc]⟩
  rw [hv l' c' hl']
  split
  · next e =>
    subst e
    exact if_neg (hne.resolve_left (fun h => h rfl))
  · rfl

theorem repoint_views {s s' : State} (hw : WF s) {l : Nat} (hl : l < s.nLayers) {x : Arr} {dt : DType}
    (e : s' = s.repoint l x dt) :
    (s'.layers l).data ≠ (s.layers l).data ∧ s'.dtypeOf l = dt ∧
    (∀ l' c, l' < s.nLayers → s'.value l' c = if l' = l then x c else s.value l' c) ∧
    (∀ l', l' < s.nLayers → l' ≠ l → s'.dtypeOf l' = s.dtypeOf l') ∧
    (∀ n c, s.named? n = some l → inBounds s.dims c = true → cellGet s' n c = .val (x c)) := by
  subst e
  have hw' := hw.repoint l x dt
  have old : ∀ l', l' < s.nLayers → (s.layers l').data ≠ s.next := fun l' hl' => Nat.ne_of_lt (hw.data_lt l' hl')
  have hv : ∀ l' c, l' < s.nLayers → (s.repoint l x dt).value l' c = if l' = l then x c else s.value l' c := by
    intro l' c hl'
    by_cases e : l' = l
    · subst e
      simp [State.value, State.repoint, upd]
    · simp [State.value, State.repoint, upd, e, old l' hl']
  refine ⟨?_, by simp [State.dtypeOf, State.repoint, upd], hv, fun l' hl' hne => ?_, fun n c hn hc => ?_⟩
  · show (upd s.layers l { s.layers l with data := s.next } l).data ≠ _
    rw [upd_same]
    exact (old l hl).symm
  · simp [State.dtypeOf, State.repoint, upd, hne, old l' hl']
  · rw [cellGet_eq_value hw' hn hc, hv l c hl, if_pos rfl]

theorem value_alloc {s : State} (hw : WF s) {l : Nat} (hl : l < s.nLayers) (L : Layer) (x : Arr) (dt : DType)
    (c : Coord) : (s.alloc L x dt).value l c = s.value l c := by
  have h1 : l ≠ s.nLayers := Nat.ne_of_lt hl
  have h2 : (s.layers l).data ≠ s.next := Nat.ne_of_lt (hw.data_lt l hl)
  simp [State.value, State.alloc, upd, h1, h2]

theorem alloc_views {s : State} (hw : WF s) {L : Layer} (hL : L.data = s.next) (x : Arr) (dt : DType) :
    (s.alloc L x dt).layers s.nLayers = L ∧ (∀ c, (s.alloc L x dt).value s.nLayers c = x c) ∧
    (s.alloc L x dt).dtypeOf s.nLayers = dt ∧
    ∀ l c, l < s.nLayers → (s.alloc L x dt).value l c = s.value l c := by
  refine ⟨upd_same .., fun c => ?_, ?_, fun l c hl => value_alloc hw hl L x dt c⟩
  · simp [State.value, State.alloc, upd, hL]
  · simp [State.dtypeOf, State.alloc, upd, hL]

theorem bind_named {s : State} {n : String} (hnone : s.named? n = none) (l : Nat) :
    (s.bind n l).named? n = some l ∧ ∀ n', n' ≠ n → (s.bind n l).named? n' = s.named? n' := by
  refine ⟨?_, fun n' hn' => ?_⟩
  · show (s.attached ++ [(n, l)]).lookup n = some l
    rw [lookup_concat, show s.attached.lookup n = none from hnone, if_pos rfl]
    rfl
  · show (s.attached ++ [(n, l)]).lookup n' = s.attached.lookup n'
    rw [lookup_concat, if_neg hn', Option.or_none]

theorem cellSet_eq_layerSet {s : State} (hw : WF s) {n : String} {l : Nat} (hn : s.named? n = some l)
    (c : Coord) (v : Int) : cellSet s n c v = layerSet s l c v := by
  have hL : s.layer? l = some (s.layers l) := if_pos (hw.att_lt n l hn)
  unfold cellSet layerSet
  rw [hL]
  simp only [hw.att_dims n l hn]
  split
  · next hi =>
    have hd : s.descr.lookup n = some l := (hw.descr_eq hi n).trans hn
    simp only [hw.att_free hi n l hn, if_false, cellAttrWrite, hd]
  · rw [hn]
    simp only [hw.att_dims n l hn]

/-! ### successful writes, normalised -/

theorem layerSet_ok {s s' : State} {l : Nat} {c : Coord} {v : Int} (h : layerSet s l c v = (s', .ok)) :
    l < s.nLayers ∧ inBounds (s.layers l).dims c = true ∧
    s' = s.write (s.layers l).data ((s.heap (s.layers l).data).set c v) :=
  (h ▸ layerSet_outcome s l c v).of_ok rfl

theorem create_ok {s s' : State} {n : String} {dt : DType} {d : Int} {k : Nat}
    (h : create s n dt d = (s', .id k)) :
    s.named? n = none ∧ k = s.nLayers ∧
    s' = (s.alloc ⟨n, s.dims, s.next⟩ (fun _ => d) dt).bind n s.nLayers := by
  unfold create at h
  split at h
  · simp at h
  · next hc =>
    simp only [Prod.mk.injEq, Out.id.injEq] at h
    exact ⟨(attachCheck_none hc).1, h.2.symm, h.1.symm⟩

theorem fromData_ok {s s' : State} {n : String} {hd k : Nat} (h : fromData s n hd = (s', .id k)) :
    ∃ a dims, s.handles.lookup hd = some (a, dims) ∧ k = s.nLayers ∧
      s' = s.alloc ⟨n, dims, s.next⟩ (s.heap a) (s.adt a) := by
  unfold fromData at h
  split at h
  · simp at h
  · split at h
    · simp at h
    · next a dims hlk =>
      split at h
      · simp at h
      · simp only [Prod.mk.injEq, Out.id.injEq] at h
        exact ⟨a, dims, hlk, h.2.symm, h.1.symm⟩

theorem setCells_ok {s s' : State} {l : Nat} {v : Int} {cond : Option (Int → Bool)} {o : Out}
    (hl : l < s.nLayers) (h : setCells s l v cond = (s', o)) :
    o = .ok ∧ s' = s.write (s.layers l).data
      (fun c => if condHolds cond (s.heap (s.layers l).data c) then v else s.heap (s.layers l).data c) := by
  unfold setCells State.layer? at h
  simp only [hl, if_true, Prod.mk.injEq] at h
  exact ⟨h.2.symm, h.1.symm⟩

theorem modifyCells_ok {s s' : State} {l : Nat} {f : Int → Int} {cond : Option (Int → Bool)} {o : Out}
    (hl : l < s.nLayers) (h : modifyCells s l (some f) cond = (s', o)) :
    o = .ok ∧ s' = s.repoint l
      (fun c => if condHolds cond (s.heap (s.layers l).data c) then f (s.heap (s.layers l).data c)
                else s.heap (s.layers l).data c) (s.dtypeOf l) := by
  unfold modifyCells State.layer? at h
  simp only [hl, if_true, Prod.mk.injEq] at h
  exact ⟨h.2.symm, h.1.symm⟩

theorem modifyCellsT_ok {s s' : State} {l : Nat} {f : Int → Int} {cond : Option (Int → Bool)} {rd : DType}
    {o : Out} (hl : l < s.nLayers) (h : modifyCellsT s l (some f) cond rd = (s', o)) :
    o = .ok ∧ s' = s.repoint l
      (fun c => if condHolds cond (s.heap (s.layers l).data c)
                then recode rd ((s.dtypeOf l).join rd) (f (s.heap (s.layers l).data c))
                else recode (s.dtypeOf l) ((s.dtypeOf l).join rd) (s.heap (s.layers l).data c))
      ((s.dtypeOf l).join rd) := by
  unfold modifyCellsT State.layer? at h
  simp only [hl, if_true, Prod.mk.injEq] at h
  exact ⟨h.2.symm, h.1.symm⟩

theorem setCellsV_eq {s : State} {l : Nat} (hl : l < s.nLayers) (x : Val) (cond : Option (Int → Bool)) :
    setCellsV s l x cond = if sameKind x.ty (s.dtypeOf l) then setCells s l (castTo (s.dtypeOf l) x) cond
                           else (s, .err .type) := by
  unfold setCellsV State.layer? State.dtypeOf
  simp only [hl, if_true]
  cases sameKind x.ty (s.adt (s.layers l).data) <;> simp

theorem hset_ok {s s' : State} {hd : Nat} {c : Coord} {v : Int} (h : hset s hd c v = (s', .ok)) :
    ∃ a d, s.handles.lookup hd = some (a, d) ∧ inBounds d c = true ∧
    s' = s.write a ((s.heap a).set c v) :=
  (h ▸ hset_outcome s hd c v).of_ok rfl

theorem rebind_outcome (s : State) (l h : Nat) :
    Outcome s (fun t => ∃ a d, s.handles.lookup h = some (a, d) ∧ l < s.nLayers ∧
      t = { s with layers := upd s.layers l { s.layers l with data := a } }) (rebind s l h) := by
  unfold rebind
  split
  · exact .err _
  · split
    · exact .err _
    · next L hL =>
      obtain ⟨hl, rfl⟩ := layer?_some hL
      split
      · exact .err _
      · next a d hlk =>
        split
        · exact .err _
        · split
          · exact .err _
          · exact .ok rfl ⟨a, d, hlk, hl, rfl⟩

end Mesa.Layers
