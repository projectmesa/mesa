import MesaModel.Proofs.Devs
/-!
Shared callables: many events may be scheduled with the SAME callable object (`Ev.fn`).  Once the program has dropped its
last strong reference to the callable `c` (`dropFn`), `Collected c` holds and keeps holding through every further history:
the program cannot schedule `c` again, no fresh callable gets the identity `c`, and every pending event that was scheduled
with `c` has a dead weak reference — so none of them ever executes.
-/
namespace Mesa.Devs

structure Collected (c : Nat) (s : Sim) : Prop where
  unheld : s.fns.lookup c = none
  old : c < s.nextTag
  dead : ∀ e ∈ s.pending, e.isStep = false → e.fn = c → e.dead = true

theorem lookup_filter_ne_none {l : List (Nat × Nat)} {c : Nat} (k : Nat) (h : l.lookup c = none) :
    (l.filter fun x => x.1 != k).lookup c = none := by
  by_cases hc : c = k
  · rw [hc]
    exact lookup_filter_of_neg (by simp) l
  · exact (lookup_filter_of_pos (by simp [hc]) l).trans h

theorem dropFn_collects (s : Sim) {c : Nat} (hc : c < s.nextTag) : Collected c (dropFn s c) := by
  refine ⟨lookup_filter_of_neg (by simp) _, hc, ?_⟩
  intro e he hu hf
  obtain ⟨e₀, _, rfl⟩ := List.mem_map.mp he
  by_cases hcond : (!e₀.isStep && e₀.fn == c) = true
  · simp only [hcond, if_true]
  · simp only [hcond] at hu hf
    simp at hu hf
    simp [hu, hf] at hcond

theorem collected_sub {c : Nat} {s s' : Sim} (h : Collected c s) (hf : s'.fns = s.fns) (hn : s'.nextTag = s.nextTag)
    (hp : ∀ e ∈ s'.pending, e ∈ s.pending) : Collected c s' :=
  ⟨hf ▸ h.unheld, hn ▸ h.old, fun e he => h.dead e (hp e he)⟩

theorem pushUser_collected {c : Nat} {s : Sim} (h : Collected c s) (t : Int) (p a : Nat) (c' : Option Nat)
    (hc' : c' ≠ some c) : Collected c (pushUser s t p a c') := by
  have hlt := h.old
  refine ⟨?_, Nat.lt_succ_of_lt hlt, ?_⟩
  · cases c' with
    | none =>
      have : (c == s.nextTag) = false := by
        simp only [beq_eq_false_iff_ne, ne_eq]
        omega
      simp only [pushUser, List.lookup_cons, this]
      exact h.unheld
    | some k => exact h.unheld
  · intro e he hu hf
    rcases mem_insert.mp he with rfl | he
    · exfalso
      cases c' with
      | none =>
        simp only [Option.getD_none] at hf
        omega
      | some k =>
        simp only [Option.getD_some] at hf
        exact hc' (by rw [hf])
    · exact h.dead e he hu hf

theorem pushStep_collected {c : Nat} {s : Sim} (h : Collected c s) : Collected c (pushStep s) := by
  refine ⟨h.unheld, h.old, ?_⟩
  intro e he hu hf
  rcases mem_insert.mp he with rfl | he
  · simp at hu
  · exact h.dead e he hu hf

theorem mapFlags_collected {c : Nat} {s s' : Sim} (h : Collected c s) (g : Ev → Ev)
    (hg : ∀ e, (g e).isStep = e.isStep ∧ (g e).fn = e.fn ∧ (e.dead = true → (g e).dead = true))
    (hp : s'.pending = s.pending.map g) (hf : s'.fns.lookup c = none) (hn : s'.nextTag = s.nextTag) : Collected c s' := by
  refine ⟨hf, hn ▸ h.old, ?_⟩
  intro e he hu hfn
  rw [hp] at he
  obtain ⟨e₀, he₀, rfl⟩ := List.mem_map.mp he
  exact (hg e₀).2.2 (h.dead e₀ he₀ ((hg e₀).1 ▸ hu) ((hg e₀).2.1 ▸ hfn))

theorem doCmd1_collected {c : Nat} {s : Sim} (h : Collected c s) (cm : Cmd) : Collected c (doCmd1 s cm) :=
  doCmd1_induct cm h
    (fun _ _ _ c' _ hc' => pushUser_collected h _ _ _ c' (fun hk => nomatch (hc' c hk).symm.trans h.unheld))
    (fun _ _ => mapFlags_collected h _ (fun e => by split <;> simp) rfl h.unheld rfl)
    (fun k _ => mapFlags_collected h _ (fun e => by split <;> simp) rfl (lookup_filter_ne_none k h.unheld) rfl)
    (fun _ _ => ⟨h.unheld, h.old, h.dead⟩)

theorem rearm_collected {c : Nat} {s : Sim} (h : Collected c s) : Collected c (rearm s) := by
  unfold rearm
  split
  · exact pushStep_collected h
  · exact h

theorem collected_kept (c : Nat) : Kept (Collected c) where
  cmd cm _ h := doCmd1_collected h cm
  stop h _ _ := ⟨h.unheld, h.old, nofun⟩
  late h _ hp _ := collected_sub h rfl rfl (fun _ hy => (popLive_mem_iff hp).mpr (Or.inr hy))
  step {s e r} h hp :=
    have hpop : Collected c (popped s e r) := collected_sub h rfl rfl (popLive_mem hp).2
    exec_induct (fun _ cm _ h' => doCmd1_collected h' cm) (fun _ => ⟨hpop.unheld, hpop.old, hpop.dead⟩)
      (fun _ _ => let h1 := rearm_collected hpop; ⟨h1.unheld, h1.old, h1.dead⟩)
      (fun _ _ => ⟨hpop.unheld, hpop.old, hpop.dead⟩)
  caught h := ⟨h.unheld, h.old, h.dead⟩

/-- `dead` (what `event.fn()` finds) is tied to the table of held callables: for every pending user event, the weak reference
    is dead iff its callable object is not held any more; callable ids are tags that have been handed out -/
structure FnInv (s : Sim) : Prop where
  keys : ∀ x ∈ s.fns, x.1 < s.nextTag
  evs : ∀ e ∈ s.pending, e.isStep = false → e.fn < s.nextTag ∧ (e.dead = true ↔ s.fns.lookup e.fn = none)

theorem init_fnInv (k : Kind) (p : Nat → List Cmd) (sp : List Cmd) : FnInv (init k p sp) :=
  ⟨by simp [init], by simp [init]⟩

theorem fnInv_sub {s s' : Sim} (h : FnInv s) (hf : s'.fns = s.fns) (hn : s'.nextTag = s.nextTag)
    (hp : ∀ e ∈ s'.pending, e ∈ s.pending) : FnInv s' :=
  ⟨hf ▸ hn ▸ h.keys, fun e he hu => hf ▸ hn ▸ h.evs e (hp e he) hu⟩

theorem pushUser_fnInv {s : Sim} (h : FnInv s) (t : Int) (p a : Nat) (c : Option Nat)
    (hc : ∀ k, c = some k → ∃ a', s.fns.lookup k = some a') : FnInv (pushUser s t p a c) := by
  have hlk : ∀ k : Nat, k < s.nextTag →
      (pushUser s t p a c).fns.lookup k = s.fns.lookup k := by
    intro k hk
    cases c with
    | none =>
      have : (k == s.nextTag) = false := by
        simp only [beq_eq_false_iff_ne, ne_eq]
        omega
      simp only [pushUser, List.lookup_cons, this]
    | some _ => rfl
  refine ⟨?_, ?_⟩
  · intro x hx
    have hx' : x ∈ s.fns ∨ x = (s.nextTag, a) := by
      cases c with
      | none =>
        simp only [pushUser, List.mem_cons] at hx
        exact hx.symm.imp id id
      | some _ => exact Or.inl hx
    rcases hx' with hx' | rfl
    · have := h.keys x hx'
      simp only [pushUser]
      omega
    · simp [pushUser]
  · intro e he hu
    rcases mem_insert.mp he with rfl | he
    · cases c with
      | none => simp [pushUser]
      | some k =>
        obtain ⟨a', ha'⟩ := hc k rfl
        have hk := h.keys _ (mem_of_lookup ha')
        refine ⟨Nat.lt_succ_of_lt hk, ?_⟩
        simp only [Option.getD_some, Bool.false_eq_true, false_iff]
        show ¬ (s.fns.lookup k = none)
        rw [ha']
        simp
    · obtain ⟨h1, h2⟩ := h.evs e he hu
      refine ⟨Nat.lt_succ_of_lt h1, ?_⟩
      rw [hlk e.fn h1]
      exact h2

theorem pushStep_fnInv {s : Sim} (h : FnInv s) : FnInv (pushStep s) := by
  refine ⟨h.keys, ?_⟩
  intro e he hu
  rcases mem_insert.mp he with rfl | he
  · simp at hu
  · exact h.evs e he hu

theorem cancelTag_fnInv {s : Sim} (h : FnInv s) (k : Nat) : FnInv (cancelTag s k) := by
  refine ⟨h.keys, ?_⟩
  intro e he hu
  obtain ⟨e₀, he₀, rfl⟩ := List.mem_map.mp he
  by_cases hc : (!e₀.isStep && e₀.tag == k) = true
  · rw [if_pos hc] at hu ⊢
    exact h.evs e₀ he₀ hu
  · rw [if_neg hc] at hu ⊢
    exact h.evs e₀ he₀ hu

theorem dropFn_fnInv {s : Sim} (h : FnInv s) (k : Nat) : FnInv (dropFn s k) := by
  refine ⟨fun x hx => h.keys x (List.mem_filter.mp hx).1, ?_⟩
  intro e he hu
  obtain ⟨e₀, he₀, rfl⟩ := List.mem_map.mp he
  by_cases hcond : (!e₀.isStep && e₀.fn == k) = true
  · simp only [hcond, if_true] at hu ⊢
    have hk : e₀.fn = k := by
      simp at hcond
      exact hcond.2
    refine ⟨(h.evs e₀ he₀ hu).1, ?_⟩
    simp only [true_iff]
    show (s.fns.filter fun x => x.1 != k).lookup e₀.fn = none
    rw [hk]
    exact lookup_filter_of_neg (by simp) _
  · simp only [hcond] at hu ⊢
    simp only [Bool.false_eq_true, if_false] at hu ⊢
    have hne : e₀.fn ≠ k := by
      intro hk
      simp [hu, hk] at hcond
    obtain ⟨h1, h2⟩ := h.evs e₀ he₀ hu
    refine ⟨h1, ?_⟩
    show e₀.dead = true ↔ (s.fns.filter fun x => x.1 != k).lookup e₀.fn = none
    rw [lookup_filter_of_pos (p := fun x => x.1 != k) (by simp [hne])]
    exact h2

theorem doCmd1_fnInv {s : Sim} (h : FnInv s) (cm : Cmd) : FnInv (doCmd1 s cm) :=
  doCmd1_induct cm h (fun _ _ a c' _ hc' => pushUser_fnInv h _ _ a c' (fun k hk => ⟨a, hc' k hk⟩))
    (fun k _ => cancelTag_fnInv h k) (fun k _ => dropFn_fnInv h k) (fun _ _ => ⟨h.keys, h.evs⟩)

theorem rearm_fnInv {s : Sim} (h : FnInv s) : FnInv (rearm s) := by
  unfold rearm
  split
  · exact pushStep_fnInv h
  · exact h

theorem fnInv_kept : Kept FnInv where
  cmd cm _ h := doCmd1_fnInv h cm
  stop h _ _ := ⟨h.keys, nofun⟩
  late h _ hp _ := fnInv_sub h rfl rfl (fun _ hy => (popLive_mem_iff hp).mpr (Or.inr hy))
  step {s e r} h hp :=
    have hpop : FnInv (popped s e r) := fnInv_sub h rfl rfl (popLive_mem hp).2
    exec_induct (fun _ cm _ h' => doCmd1_fnInv h' cm) (fun _ => ⟨hpop.keys, hpop.evs⟩)
      (fun _ _ => let h1 := rearm_fnInv hpop; ⟨h1.keys, h1.evs⟩) (fun _ _ => ⟨hpop.keys, hpop.evs⟩)
  caught h := ⟨h.keys, h.evs⟩

theorem reachable_fnInv {s : Sim} (h : Reachable s) : FnInv s :=
  fnInv_kept.ofReachable init_fnInv (fun _ => rearm_fnInv) h

end Mesa.Devs
