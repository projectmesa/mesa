import MesaModel.Proofs.LayersTyped
/-!
Helper lemmas for C11 (bulk operations): the `np.vectorize` guard of `set_cells` / `modify_cells` (a layer
without entries), and the point-wise effect of the guarded calls.
-/
namespace Mesa.Layers

theorem cells_eq_nil_iff (dims : List Nat) : cells dims = [] ↔ 0 ∈ dims := by
  induction dims with
  | nil => simp [cells]
  | cons d ds ih =>
    simp only [cells, List.flatMap_eq_nil_iff, List.mem_range, List.map_eq_nil_iff, List.mem_cons]
    rw [ih]
    constructor
    · intro h
      by_cases hd : d = 0
      · exact Or.inl hd.symm
      · exact Or.inr (h 0 (by omega))
    · rintro (h | h) i hi
      · omega
      · exact h

theorem noEntries_iff {s : State} {l : Nat} (hl : l < s.nLayers) :
    s.noEntries l = true ↔ 0 ∈ (s.layers l).dims := by
  simp only [State.noEntries, State.layer?, hl, if_true, List.isEmpty_iff, cells_eq_nil_iff]

theorem vecGuard_eq {s : State} {l : Nat} (hl : l < s.nLayers) (b : Bool) (k : State × Out) :
    vecGuard s l b k = if b = true ∧ 0 ∈ (s.layers l).dims then (s, .err (.value .size0)) else k := by
  unfold vecGuard
  have := noEntries_iff hl
  by_cases hb : b = true <;> by_cases hz : 0 ∈ (s.layers l).dims <;> simp_all

/-- no layer object of a legacy grid has a zero dimension (`newLayer` refuses such a shape there) -/
structure HasEntries (s : State) : Prop where
  legacy : s.impl ≠ .new → ∀ l, l < s.nLayers → 0 ∉ (s.layers l).dims

theorem setCells_pointwise {s s' : State} (hw : WF s) {l : Nat} (hl : l < s.nLayers) {v : Int}
    {cond : Option (Int → Bool)} {o : Out} (hset : setCells s l v cond = (s', o)) :
    o = .ok ∧
    (∀ l' c, l' < s.nLayers → s'.value l' c =
      if l' = l then (if condHolds cond (s.value l c) then v else s.value l c) else s.value l' c) ∧
    (∀ n c, s.named? n = some l → inBounds s.dims c = true →
      cellGet s' n c = .val (if condHolds cond (s.value l c) then v else s.value l c)) := by
  obtain ⟨ho, hs'⟩ := setCells_ok hl hset
  obtain ⟨hv, hcell, _⟩ := write_views hw hl hs'
  exact ⟨ho, hv, hcell⟩

theorem modifyCells_pointwise {s s' : State} (hw : WF s) {l : Nat} (hl : l < s.nLayers)
    {f : Int → Int} {cond : Option (Int → Bool)} {o : Out}
    (hmod : modifyCells s l (some f) cond = (s', o)) :
    o = .ok ∧ (s'.layers l).data ≠ (s.layers l).data ∧
    (∀ l' c, l' < s.nLayers → s'.value l' c =
      if l' = l then (if condHolds cond (s.value l c) then f (s.value l c) else s.value l c)
      else s.value l' c) ∧
    (∀ n c, s.named? n = some l → inBounds s.dims c = true →
      cellGet s' n c = .val (if condHolds cond (s.value l c) then f (s.value l c) else s.value l c)) := by
  obtain ⟨ho, hs'⟩ := modifyCells_ok hl hmod
  obtain ⟨hne, _, hv, _, hcell⟩ := repoint_views hw hl hs'
  exact ⟨ho, hne, hv, hcell⟩

end Mesa.Layers
