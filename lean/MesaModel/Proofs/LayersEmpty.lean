import MesaModel.Proofs.LayersEffect
/-!
Helper lemmas for C11: the emptiness array (array 0: data of the built-in `empty` layer of the new
grids / `_empty_mask` of the legacy grids) equals actual emptiness after every history in which the
user does not himself overwrite or remove the built-in layer.
-/
namespace Mesa.Layers

/-- a history each of whose ops is safe in the state it is issued in -/
def safeHist : State → List Op → Prop
  | _, [] => True
  | s, op :: ops => op.safeAt s = true ∧ safeHist (step s op).1 ops

instance safeHist.dec : (s : State) → (ops : List Op) → Decidable (safeHist s ops)
  | _, [] => isTrue trivial
  | s, op :: ops => by
    unfold safeHist
    exact @instDecidableAnd _ _ _ (safeHist.dec (step s op).1 ops)

/-- `W`: the cells at which nothing is claimed (written by the user through a reference that aliases the emptiness
    array); `W = fun _ => False` for the histories without such writes -/
structure EmpInv (W : Coord → Prop) (s : State) : Prop where
  /-- new grids: the name "empty" is attached to layer 0, which still owns array 0 -/
  named : s.impl = .new → s.attached.lookup "empty" = some 0 ∧ (s.layers 0).data = 0 ∧ 0 < s.nLayers
  /-- new grids: the descriptor `empty` of the cell class holds layer 0 -/
  dnamed : s.impl = .new → s.descr.lookup "empty" = some 0
  /-- an agent is placed at most once -/
  keys : (s.agents.map (·.1)).Nodup
  /-- SingleGrid: at most one agent per cell -/
  single : s.impl = .single → (s.agents.map (·.2)).Nodup
  /-- array 0 is the indicator of emptiness (outside `W`) -/
  view : ∀ c, ¬ W c → s.heap 0 c = boolInt (s.isEmptyCell c)

variable {W : Coord → Prop}

theorem isEmptyCell_iff (s : State) (c : Coord) : s.isEmptyCell c = true ↔ ∀ p ∈ s.agents, p.2 ≠ c := by
  simp [State.isEmptyCell]

theorem EmpInv_init (impl : Impl) (dims : List Nat) (cap : Option Nat) : EmpInv W (init impl dims cap) := by
  constructor
  · intro h
    simp only [init] at h
    simp [init, h]
  · intro h
    simp only [init] at h
    simp [init, h]
  · simp [init]
  · intro _
    simp [init]
  · intro c _
    simp [init, State.isEmptyCell, boolInt]

theorem EmpInv.emptyArr?_eq {s : State} (h : EmpInv W s) : s.emptyArr? = some (s.heap 0) := by
  unfold State.emptyArr?
  split
  · next hi =>
    obtain ⟨h1, h2, _⟩ := h.named hi
    simp [State.namedArr?, State.named?, h1, h2]
  · rfl

theorem empties_eq (s : State) :
    empties s = .emp (s.emptyArr?.map fun a => (cells s.dims).map a) ((cells s.dims).map s.isEmptyCell) := by
  unfold empties State.emptyArr?
  split <;> rfl

theorem data_ne_zero {s : State} (hw : WF s) (h : EmpInv W s) {l : Nat} (hl : l < s.nLayers)
    (h0 : s.impl = .new → l ≠ 0) : (s.layers l).data ≠ 0 := by
  by_cases hi : s.impl = .new
  · obtain ⟨_, hd, hp⟩ := h.named hi
    intro he
    exact h0 hi (hw.data_inj l 0 hl hp (he.trans hd.symm))
  · exact hw.legacy_data hi l hl

theorem named_ne_zero {s : State} (hw : WF s) (h : EmpInv W s) (hi : s.impl = .new) {n : String} {l : Nat}
    (hn : s.attached.lookup n = some l) (hne : n ≠ "empty") : l ≠ 0 := by
  intro he
  subst he
  have h1 := hw.att_name n 0 hn
  have h2 := hw.att_name "empty" 0 (h.named hi).1
  exact hne (h1.symm.trans h2)

/-- transfer along an op that touches neither array 0, nor the agents, nor the built-in layer -/
theorem EmpInv.transfer {s s' : State} (h : EmpInv W s) (e1 : s'.impl = s.impl)
    (e2 : s.impl = .new → s'.attached.lookup "empty" = s.attached.lookup "empty")
    (e3 : s.impl = .new → s'.layers 0 = s.layers 0)
    (e4 : s.nLayers ≤ s'.nLayers)
    (e5 : s'.agents = s.agents) (e6 : s'.heap 0 = s.heap 0)
    (e7 : s.impl = .new → s'.descr.lookup "empty" = s.descr.lookup "empty" := by exact fun _ => rfl) : EmpInv W s' := by
  constructor
  · intro hi
    rw [e1] at hi
    obtain ⟨a, b, c⟩ := h.named hi
    exact ⟨(e2 hi).trans a, (e3 hi) ▸ b, by omega⟩
  · intro hi
    rw [e1] at hi
    exact (e7 hi).trans (h.dnamed hi)
  · rw [e5]
    exact h.keys
  · rw [e1, e5]
    exact h.single
  · intro c hW
    rw [e6]
    have : s'.isEmptyCell c = s.isEmptyCell c := by simp [State.isEmptyCell, e5]
    rw [this]
    exact h.view c hW

theorem upd_heap_zero (heap : Nat → Arr) (i : Nat) (x : Arr) (h : i ≠ 0) : upd heap i x 0 = heap 0 := by
  simp [upd, Ne.symm h]

/-! ### the grid's own emptiness writes -/

theorem writeEmpty_eq {s : State}
    (hn : s.impl = .new → s.descr.lookup "empty" = some 0 ∧ (s.layers 0).data = 0)
    (c : Coord) (v : Int) :
    writeEmpty s c v = { s with heap := upd s.heap 0 ((s.heap 0).set c v) } := by
  unfold writeEmpty
  split
  · next hi =>
    obtain ⟨h1, h2⟩ := hn hi
    unfold cellAttrWrite
    simp only [h1, h2]
  · rfl

theorem isEmptyCell_append (s : State) (a : Nat) (c c' : Coord) :
    ({ s with agents := s.agents ++ [(a, c)] } : State).isEmptyCell c' = (s.isEmptyCell c' && decide (c ≠ c')) := by
  simp [State.isEmptyCell, List.all_append]

theorem nodup_map_concat {α β : Type} {f : α → β} {l : List α} {x : α} (h : (l.map f).Nodup)
    (hx : f x ∉ l.map f) : ((l ++ [x]).map f).Nodup := by
  rw [List.map_append]
  exact nodup_concat h hx

theorem EmpInv.update {s : State} (h : EmpInv W s) (ag : List (Nat × Coord)) (c : Coord) (v : Int)
    (hk : (ag.map (·.1)).Nodup) (hs : s.impl = .single → (ag.map (·.2)).Nodup)
    (hv : v = boolInt (({ s with agents := ag } : State).isEmptyCell c))
    (ho : ∀ c', c' ≠ c → ({ s with agents := ag } : State).isEmptyCell c' = s.isEmptyCell c') :
    EmpInv W (writeEmpty { s with agents := ag } c v) := by
  rw [writeEmpty_eq (s := { s with agents := ag }) (fun hi => ⟨h.dnamed hi, (h.named hi).2.1⟩)]
  refine ⟨h.named, h.dnamed, hk, hs, fun c' hW => ?_⟩
  show upd s.heap 0 ((s.heap 0).set c v) 0 c' = boolInt (({ s with agents := ag } : State).isEmptyCell c')
  rw [upd_same]
  unfold Arr.set
  by_cases hc : c' = c
  · subst hc
    rw [if_pos rfl]
    exact hv
  · rw [if_neg hc, ho c' hc]
    exact h.view c' hW

theorem EmpInv_enter {s : State} (h : EmpInv W s) (a : Nat) (c : Coord)
    (hk : a ∉ s.agents.map (·.1)) (hs : s.impl = .single → ∀ p ∈ s.agents, p.2 = c → p.1 = a) :
    EmpInv W (writeEmpty { s with agents := s.agents ++ [(a, c)] } c 0) := by
  have hc : s.impl = .single → c ∉ s.agents.map (·.2) := fun hi hm => by
    obtain ⟨p, hp, hpc⟩ := List.mem_map.mp hm
    exact hk (List.mem_map.mpr ⟨p, hp, hs hi p hp hpc⟩)
  refine h.update _ c 0 (nodup_map_concat h.keys hk) (fun hi => nodup_map_concat (h.single hi) (hc hi)) ?_
    fun c' hc' => ?_
  · rw [isEmptyCell_append]
    simp [boolInt]
  · rw [isEmptyCell_append]
    simp [Ne.symm hc']

theorem EmpInv_leave {s : State} (h : EmpInv W s) (a : Nat) (c0 : Coord) (hl : s.agents.lookup a = some c0) :
    EmpInv W (afterLeave { s with agents := s.agents.filter (·.1 ≠ a) } c0) := by
  have hmem := mem_of_lookup hl
  -- agents at other cells are untouched by the removal: the removed entry is the only one with key `a`
  have hother : ∀ c', c' ≠ c0 →
      ({ s with agents := s.agents.filter (·.1 ≠ a) } : State).isEmptyCell c' = s.isEmptyCell c' := by
    intro c' hc'
    rw [Bool.eq_iff_iff, isEmptyCell_iff, isEmptyCell_iff]
    refine ⟨fun hh p hp => ?_, fun hh p hp => hh p (List.mem_filter.mp hp).1⟩
    by_cases hpa : p.1 = a
    · rw [eq_of_nodup_map h.keys hp hmem hpa]
      exact fun e => hc' e.symm
    · exact hh p (List.mem_filter.mpr ⟨hp, by simpa using hpa⟩)
  have hkeys : ((s.agents.filter (·.1 ≠ a)).map (·.1)).Nodup :=
    List.Nodup.sublist (List.Sublist.map _ List.filter_sublist) h.keys
  have hsingle : s.impl = .single → ((s.agents.filter (·.1 ≠ a)).map (·.2)).Nodup :=
    fun hi => List.Nodup.sublist (List.Sublist.map _ List.filter_sublist) (h.single hi)
  have finish : ∀ v : Int,
      v = boolInt (({ s with agents := s.agents.filter (·.1 ≠ a) } : State).isEmptyCell c0) →
      EmpInv W (writeEmpty { s with agents := s.agents.filter (·.1 ≠ a) } c0 v) :=
    fun v hv => h.update _ c0 v hkeys hsingle hv hother
  unfold afterLeave
  split
  · exact finish _ rfl
  · next hi =>
    -- SingleGrid: an agent still in `c0` would share its cell with the one that left
    have : ({ s with agents := s.agents.filter (·.1 ≠ a) } : State).isEmptyCell c0 = true := by
      rw [isEmptyCell_iff]
      intro p hp hpc
      obtain ⟨hp1, hp2⟩ := List.mem_filter.mp hp
      rw [eq_of_nodup_map (h.single hi) hp1 hmem hpc] at hp2
      simp at hp2
    exact finish _ (by rw [this]; rfl)
  · split
    · next he => exact finish _ (by rw [he]; rfl)
    · next he =>
      -- MultiGrid, cell still occupied: no write, and array 0 already says "occupied"
      refine ⟨h.named, h.dnamed, hkeys, hsingle, fun c' hW => ?_⟩
      show s.heap 0 c' = _
      rw [h.view c' hW]
      by_cases hc : c' = c0
      · subst hc
        have h1 : s.isEmptyCell c' = false :=
          Bool.eq_false_iff.mpr fun hh => (isEmptyCell_iff s c').mp hh (a, c') hmem rfl
        rw [h1, (Bool.not_eq_true _).mp he]
      · rw [hother c' hc]

/-! ### every safe op preserves the invariant -/

/-- SingleGrid: whoever is in a cell that is not full for `a` is `a` itself -/
theorem alone_of_not_full {s : State} (hi : s.impl = .single) {a : Nat} {c : Coord} (hf : ¬ s.fullFor a c = true) :
    ∀ p ∈ s.agents, p.2 = c → p.1 = a := by
  intro p hp hpc
  refine Decidable.by_contra fun hne => ?_
  have hmem : p ∈ s.agents.filter fun q => q.2 = c ∧ q.1 ≠ a := List.mem_filter.mpr ⟨hp, by simp [hpc, hne]⟩
  have h0 : (s.agents.filter fun q => q.2 = c ∧ q.1 ≠ a).length = 0 := by
    simp only [State.fullFor, hi, State.others, ge_iff_le, decide_eq_true_eq] at hf
    omega
  rw [List.length_eq_zero_iff.mp h0] at hmem
  cases hmem

theorem EmpInv_place {s : State} (h : EmpInv W s) (a : Nat) (c : Coord) : EmpInv W (place s a c).1 := by
  unfold place
  split
  · exact h
  · next hp =>
    split
    · exact h
    · split
      · exact h
      · next hf =>
        refine EmpInv_enter h a c (fun hm => ?_) fun hi => alone_of_not_full hi hf
        obtain ⟨p, hpm, rfl⟩ := List.mem_map.mp hm
        have := List.lookup_isSome_iff.mpr ⟨p, hpm, beq_self_eq_true _⟩
        exact hp this

theorem EmpInv_remove {s : State} (h : EmpInv W s) (a : Nat) : EmpInv W (remove s a).1 := by
  unfold remove
  split
  · exact h
  · next c0 hl => exact EmpInv_leave h a c0 hl

theorem EmpInv_move {s : State} (h : EmpInv W s) (a : Nat) (c : Coord) : EmpInv W (move s a c).1 := by
  unfold move
  split
  · exact h
  · next c0 hl =>
    split
    · exact h
    · split
      · exact h
      · next hf =>
        have hwr := writes_afterLeave (A := False) { s with agents := s.agents.filter (·.1 ≠ a) } c0
        have hag : (afterLeave { s with agents := s.agents.filter (·.1 ≠ a) } c0).agents
            = s.agents.filter (·.1 ≠ a) := hwr.agents id
        refine EmpInv_enter (EmpInv_leave h a c0 hl) a c ?_ fun hi p hp hpc => ?_
        · rw [hag]
          intro hm
          obtain ⟨p, hp, hpa⟩ := List.mem_map.mp hm
          simpa [hpa] using (List.mem_filter.mp hp).2
        · rw [hag] at hp
          exact alone_of_not_full (hwr.shape.impl ▸ hi) hf p (List.mem_filter.mp hp).1 hpc

theorem not_targets_zero {s : State} (hw : WF s) (h : EmpInv W s) {op : Op} (hs : op.safeAt s = true)
    (hA : ¬ op.movesAgents) : ¬ op.targets s 0 := by
  have owns : ∀ l, (s.impl = .new → l ≠ 0) → ¬ s.owns l 0 :=
    fun l h0 ⟨hl, e⟩ => data_ne_zero hw h hl h0 e.symm
  cases op with
  | layerSet l _ _ | cellSet2 l _ _ | setCells l _ _ | setFrom l _ _ | modifyCell l _ _ | modifyCellU l _ _ _ =>
    exact owns l fun hi => by simpa [Op.safeAt, Op.safe, hi] using hs
  | cellSet n _ _ =>
    rintro ⟨l, hn, e⟩
    rw [cellLayer?_eq hw] at hn
    refine data_ne_zero hw h (hw.att_lt n l hn) (fun hi => named_ne_zero hw h hi hn ?_) e.symm
    simpa [Op.safeAt, Op.safe, hi] using hs
  | hset hd _ _ =>
    rintro ⟨d, hlk⟩
    simp [Op.safeAt, hlk] at hs
  | place _ _ | move _ _ | remove _ => exact fun _ => hA trivial
  | _ => exact id

theorem EmpInv.alloc {s : State} (hw : WF s) (h : EmpInv W s) (L : Layer) (x : Arr) (dt : DType) :
    EmpInv W (s.alloc L x dt) := by
  have hnp := hw.next_pos
  refine h.transfer rfl (fun _ => rfl) (fun hi => upd_other _ _ _ _ ?_) (Nat.le_succ _) rfl
    (upd_heap_zero _ _ _ (by omega))
  have := (h.named hi).2.2
  omega

theorem EmpInv.bind {s : State} (h : EmpInv W s) {n : String} (hnone : s.attached.lookup n = none) (l : Nat) :
    EmpInv W (s.bind n l) := by
  have hne : s.impl = .new → "empty" ≠ n := by
    intro hi e
    subst e
    rw [(h.named hi).1] at hnone
    cases hnone
  refine h.transfer rfl (fun hi => ?_) (fun _ => rfl) (Nat.le_refl _) rfl rfl (fun hi => ?_)
  · show (s.attached ++ [(n, l)]).lookup "empty" = _
    rw [List.lookup_append, (h.named hi).1]
    rfl
  · show (if s.impl = .new then setDescr s.descr n l else s.descr).lookup "empty" = _
    have hb : ("empty" == n) = false := by simpa using hne hi
    rw [if_pos hi]
    unfold setDescr
    rw [List.lookup_cons, hb]
    exact lookup_filter_ne _ _ _ (hne hi)

theorem EmpInv.effect {s s' : State} {op : Op} (hw : WF s) (h : EmpInv W s) (hs : op.safeAt s = true)
    (hA : ¬ op.movesAgents) (e : Effect s op s') : EmpInv W s' := by
  have hnp := hw.next_pos
  cases e with
  | inPlace w =>
    exact h.transfer w.shape.impl (fun _ => by rw [w.shape.attached]) (fun _ => by rw [w.shape.layers])
      (Nat.le_of_eq w.shape.nLayers.symm) (w.agents hA) (w.heap 0 (not_targets_zero hw h hs hA))
      (fun _ => by rw [w.shape.descr])
  | alloc L x dt _ => exact h.alloc hw L x dt
  | create n x dt hc => exact (h.alloc hw _ x dt).bind (attachCheck_none hc).1 _
  | attach l _ hc => exact h.bind (attachCheck_none hc).1 l
  | detach n hop =>
    subst hop
    have hne : s.impl = .new → "empty" ≠ n := by
      intro hi
      simp only [Op.safeAt, Op.safe, hi, bne_self_eq_false, Bool.false_or, bne_iff_ne, ne_eq] at hs
      exact fun e => hs e.symm
    exact h.transfer rfl (fun hi => lookup_filter_ne _ _ _ (hne hi)) (fun _ => rfl) (Nat.le_refl _) rfl rfl
      (fun hi => lookup_filter_ne _ _ _ (hne hi))
  | repoint l x dt _ hsafe _ =>
    exact h.transfer rfl (fun _ => rfl) (fun hi => upd_other _ _ _ _ (fun e => hsafe hs hi e.symm))
      (Nat.le_refl _) rfl (upd_heap_zero _ _ _ (by omega))
  | handle hd a d _ => exact h.transfer rfl (fun _ => rfl) (fun _ => rfl) (Nat.le_refl _) rfl rfl
  | gattr n _ _ => exact h.transfer rfl (fun _ => rfl) (fun _ => rfl) (Nat.le_refl _) rfl rfl

theorem EmpInv_step {s : State} (hw : WF s) (h : EmpInv W s) (op : Op) (hs : op.safeAt s = true) :
    EmpInv W (step s op).1 := by
  cases op with
  | place a c => exact EmpInv_place h a c
  | move a c => exact EmpInv_move h a c
  | remove a => exact EmpInv_remove h a
  | _ => exact h.effect hw hs id (step_effect s _)

theorem EmpInv_run {s : State} (hw : WF s) (h : EmpInv W s) (ops : List Op)
    (hs : safeHist s ops) : EmpInv W (run s ops).1 := by
  induction ops generalizing s with
  | nil => exact h
  | cons op ops ih =>
    simp only [run]
    exact ih (WF_step hw op) (EmpInv_step hw h op hs.1) hs.2

/-! ### histories in which the user does write through an aliasing reference: wrong at most there -/

theorem EmpInv.mono {W' : Coord → Prop} {s : State} (h : EmpInv W s) (hsub : ∀ c, W c → W' c) : EmpInv W' s :=
  ⟨h.named, h.dnamed, h.keys, h.single, fun c hc => h.view c (fun hw => hc (hsub c hw))⟩

/-- the cells written through a reference that aliases the emptiness array (array 0), in the course of a history -/
def aliasWrites : State → List Op → Coord → Prop
  | _, [], _ => False
  | s, op :: ops, x =>
    (match op with
      | .hset h c _ => (∃ d, s.handles.lookup h = some (0, d)) ∧ x = c
      | _ => False) ∨ aliasWrites (step s op).1 ops x

/-- one write through a reference, aliasing or not: afterwards nothing is claimed at the written cell if it aliased -/
theorem EmpInv_hset {s : State} (h : EmpInv W s) (hd : Nat) (c : Coord) (v : Int) :
    EmpInv (fun x => W x ∨ ((∃ d, s.handles.lookup hd = some (0, d)) ∧ x = c)) (hset s hd c v).1 := by
  unfold hset
  split
  · exact h.mono fun _ hw => Or.inl hw
  · next a d hlk =>
    split
    · exact h.mono fun _ hw => Or.inl hw
    · by_cases ha : a = 0
      · subst ha
        refine ⟨h.named, h.dnamed, h.keys, h.single, ?_⟩
        intro c' hW
        show upd s.heap 0 ((s.heap 0).set c v) 0 c' = _
        rw [upd_same]
        unfold Arr.set
        have hne : c' ≠ c := fun e => hW (Or.inr ⟨⟨d, hlk⟩, e⟩)
        simp only [hne, if_false]
        exact h.view c' (fun hw => hW (Or.inl hw))
      · exact (h.transfer (s' := { s with heap := upd s.heap a ((s.heap a).set c v) }) rfl (fun _ => rfl) (fun _ => rfl)
          (Nat.le_refl _) rfl (upd_heap_zero _ _ _ ha)).mono fun _ hw => Or.inl hw

theorem safeAt_eq_safe {s : State} {op : Op} (h : ∀ hd c v, op ≠ .hset hd c v) : op.safeAt s = op.safe s.impl := by
  cases op with
  | hset hd c v => exact absurd rfl (h hd c v)
  | _ => rfl

theorem EmpInv_run_alias {s : State} (hw : WF s) (h : EmpInv W s) (ops : List Op)
    (hs : ∀ op ∈ ops, op.safe s.impl = true) :
    EmpInv (fun x => W x ∨ aliasWrites s ops x) (run s ops).1 := by
  induction ops generalizing s W with
  | nil => exact h.mono fun _ hw' => Or.inl hw'
  | cons op ops ih =>
    simp only [run]
    have hrest : ∀ op' ∈ ops, op'.safe (step s op).1.impl = true := by
      intro op' hop'
      rw [step_impl]
      exact hs op' (List.mem_cons_of_mem _ hop')
    have hop := hs op (List.mem_cons_self ..)
    by_cases hh : ∃ hd c v, op = .hset hd c v
    · obtain ⟨hd, c, v, rfl⟩ := hh
      have h1 := EmpInv_hset h hd c (s.handleWVal hd v)
      refine (ih (WF_step hw _) h1 hrest).mono ?_
      rintro x ((hx | hx) | hx)
      · exact Or.inl hx
      · exact Or.inr (Or.inl hx)
      · exact Or.inr (Or.inr hx)
    · have hsafe := (safeAt_eq_safe fun hd c v e => hh ⟨hd, c, v, e⟩).trans hop
      refine (ih (WF_step hw _) (EmpInv_step hw h _ hsafe) hrest).mono ?_
      rintro x (hx | hx)
      · exact Or.inl hx
      · exact Or.inr (Or.inr hx)

theorem safeHist_of_static (s : State) (ops : List Op) (h1 : ∀ op ∈ ops, op.safe s.impl = true)
    (h2 : ∀ op ∈ ops, ∀ h c v, op ≠ .hset h c v) : safeHist s ops := by
  induction ops generalizing s with
  | nil => trivial
  | cons op ops ih =>
    exact ⟨(safeAt_eq_safe (h2 op (List.mem_cons_self ..))).trans (h1 op (List.mem_cons_self ..)),
      ih _ (fun o ho => step_impl s op ▸ h1 o (List.mem_cons_of_mem _ ho))
        (fun o ho => h2 o (List.mem_cons_of_mem _ ho))⟩

end Mesa.Layers
