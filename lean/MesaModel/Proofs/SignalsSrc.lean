import MesaModel.Model.SignalsSrc
import MesaModel.Proofs.SignalsSlices
/-!
Helper lemmas about `extend` / `+=` from an iterable that raises part-way (`Model/SignalsSrc.lean`).
-/
namespace Mesa.Signals

theorem mExtendSrc_acc (n : Nat) (d vs : List Int) (k : Nat) (acc : List Sig) :
    mExtendSrc n d vs k acc =
      ((d ++ vs.take k, acc ++ specAppends n d.length (vs.take k)), decide (k < vs.length)) := by
  induction vs generalizing d k acc with
  | nil => simp [mExtendSrc, specAppends]
  | cons v vs ih =>
    cases k with
    | zero => simp [mExtendSrc, specAppends]
    | succ k =>
      simp only [mExtendSrc, pAppend]
      rw [ih]
      simp [specAppends, List.append_assoc]

theorem replay_specAppends (n : Nat) (d vs : List Int) : replay d (specAppends n d.length vs) = some (d ++ vs) := by
  induction vs generalizing d with
  | nil => simp [specAppends, replay]
  | cons v vs ih =>
    have h := ih (d ++ [v])
    simp only [List.length_append, List.length_cons, List.length_nil, Nat.zero_add] at h
    simp [specAppends, replay, applySig, h]

end Mesa.Signals
