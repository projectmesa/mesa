import MesaModel.Model.CollectHeap
import MesaModel.Proofs.CollectDict
/-! C12, immunity of what `deepcopy` stored: no reference leads from a live object to a copy or back (`Inv`), every
    operation keeps that, so no mutation of a live object is visible from a stored entry, to any depth (`run_deep`). -/
namespace Mesa.CollectHeap
open Mesa.Collect

/-- `F` = the frozen identities (the objects made by a `deepcopy`).  A value is on side `b` if the object it names,
    if it names one, is in the heap and is frozen exactly if `b` holds. -/
def Side (F : Nat → Prop) (n : Nat) (b : Prop) (v : HVal) : Prop := ∀ r, v = .ref r → r < n ∧ (F r ↔ b)

abbrev Live (F : Nat → Prop) (n : Nat) : HVal → Prop := Side F n False
abbrev Froz (F : Nat → Prop) (n : Nat) : HVal → Prop := Side F n True

/-- references point into the heap and never lead from a live object to a frozen one or back; attributes name live
    objects only, stored entries frozen objects only -/
structure Inv (F : Nat → Prop) (s : HSt) : Prop where
  obj : ∀ r o, s.heap[r]? = some o → ∀ it ∈ o, Side F s.heap.length (F r) it
  attrs : ∀ kv ∈ s.attrs, Live F s.heap.length kv.2
  col : ∀ v ∈ s.col, Froz F s.heap.length v
  fresh : ∀ r, s.heap.length ≤ r → ¬ F r

theorem side_of_nonref {F : Nat → Prop} {n : Nat} {b : Prop} {v : HVal} (h : ∀ r, v ≠ .ref r) : Side F n b v :=
  fun r e => absurd e (h r)

theorem side_int (F : Nat → Prop) (n : Nat) (b : Prop) (i : Int) : Side F n b (.int i) :=
  side_of_nonref fun _ => HVal.noConfusion

theorem Side.mono {F F' : Nat → Prop} {n m : Nat} {b b' : Prop} {v : HVal} (h : Side F n b v) (hnm : n ≤ m)
    (hF : ∀ r, r < n → (F' r ↔ F r)) (hb : b' ↔ b) : Side F' m b' v :=
  fun r e => ⟨Nat.lt_of_lt_of_le (h r e).1 hnm, (hF r (h r e).1).trans ((h r e).2.trans hb.symm)⟩

theorem Side.grow {F : Nat → Prop} {n m : Nat} {b : Prop} {v : HVal} (h : Side F n b v) (hnm : n ≤ m) : Side F m b v :=
  h.mono hnm (fun _ _ => Iff.rfl) Iff.rfl

theorem getH_live {F : Nat → Prop} {s : HSt} (h : Inv F s) (a : Nat) : Live F s.heap.length (getH s.attrs a) := by
  unfold getH
  cases hl : s.attrs.lookup a with
  | none => exact side_of_nonref fun _ => HVal.noConfusion
  | some v => exact h.attrs _ (mem_of_lookup hl)

theorem attrs_setKey {F : Nat → Prop} {n : Nat} {attrs : List (Nat × HVal)} (h : ∀ kv ∈ attrs, Live F n kv.2)
    (a : Nat) {v : HVal} (hv : Live F n v) : ∀ kv ∈ setKey a v attrs, Live F n kv.2 := by
  intro kv hkv
  rcases mem_setKey hkv with rfl | hkv
  · exact hv
  · exact h kv hkv

/-- reading a frozen value touches frozen objects only: two heaps that agree on them show the same tree -/
theorem read_congr {F : Nat → Prop} {h1 h2 : Heap} (hsame : ∀ r, F r → r < h1.length → h2[r]? = h1[r]?)
    (hfz : ∀ r o, h1[r]? = some o → F r → ∀ it ∈ o, Froz F h1.length it) :
    ∀ d v, Froz F h1.length v → read d h2 v = read d h1 v := by
  intro d
  induction d with
  | zero => intro v _; cases v <;> rfl
  | succ d ih =>
    intro v hv
    cases v with
    | none => rfl
    | int i => rfl
    | ref r =>
      obtain ⟨hlt, hF⟩ := hv r rfl
      have hF := hF.mpr trivial
      have hg : h1[r]? = some h1[r] := List.getElem?_eq_getElem hlt
      simp only [read]
      rw [hsame r hF hlt, hg]
      simp only [Option.getD_some]
      congr 1
      apply List.map_congr_left
      intro it hit
      exact ih it (hfz r _ hg hF it hit)

theorem Inv.col_read {F : Nat → Prop} {s : HSt} (h : Inv F s) {heap' : Heap}
    (hsame : ∀ r, F r → r < s.heap.length → heap'[r]? = s.heap[r]?) (d : Nat) :
    s.col.map (read d heap') = s.col.map (read d s.heap) :=
  List.map_congr_left fun v hv => read_congr hsame
    (fun r o ho hF it hit => (h.obj r o ho it hit).mono (Nat.le_refl _) (fun _ _ => Iff.rfl) (iff_of_true trivial hF))
    d v (h.col v hv)

theorem read_shift (heap : Heap)
    (hc : ∀ (r : Nat) (o : Obj), heap[r]? = some o → ∀ it ∈ o, ∀ r', it = HVal.ref r' → r' < heap.length) :
    ∀ d v, (∀ r, v = .ref r → r < heap.length) →
      read d (heap ++ heap.map (·.map (shiftVal heap.length))) (shiftVal heap.length v) = read d heap v := by
  intro d
  induction d with
  | zero => intro v _; cases v <;> rfl
  | succ d ih =>
    intro v hv
    cases v with
    | none => rfl
    | int i => rfl
    | ref r =>
      have hr := hv r rfl
      have hg : heap[r]? = some heap[r] := List.getElem?_eq_getElem hr
      simp only [shiftVal, read]
      rw [List.getElem?_append_right (by omega)]
      simp only [Nat.add_sub_cancel, List.getElem?_map, hg, Option.map_some, Option.getD_some, List.map_map]
      congr 1
      apply List.map_congr_left
      intro it hit
      simpa using ih it (hc r _ hg it hit)

theorem follow_live {F : Nat → Prop} {s : HSt} (h : Inv F s) :
    ∀ (p : List Nat) (v w : HVal), Live F s.heap.length v → follow s.heap v p = some w → Live F s.heap.length w := by
  intro p
  induction p with
  | nil => intro v w hv hf; simp only [follow, Option.some.injEq] at hf; exact hf ▸ hv
  | cons i p ih =>
    intro v w hv hf
    cases v with
    | none => simp [follow] at hf
    | int i => simp [follow] at hf
    | ref r =>
      obtain ⟨hlt, hF⟩ := hv r rfl
      have hg : s.heap[r]? = some s.heap[r] := List.getElem?_eq_getElem hlt
      simp only [follow, hg, Option.getD_some] at hf
      cases hit : (s.heap[r])[i]? with
      | none => simp [hit] at hf
      | some it =>
        simp only [hit] at hf
        exact ih it w ((h.obj r _ hg it (List.mem_of_getElem? hit)).mono (Nat.le_refl _) (fun _ _ => Iff.rfl) hF.symm) hf

theorem target_live {F : Nat → Prop} {s : HSt} (h : Inv F s) {a : Nat} {pa : List Nat} {r : Nat}
    (ht : target s a pa = some r) : r < s.heap.length ∧ ¬ F r := by
  unfold target at ht
  cases hf : follow s.heap (getH s.attrs a) pa with
  | none => simp [hf] at ht
  | some w =>
    cases w with
    | none => simp [hf] at ht
    | int i => simp [hf] at ht
    | ref r' =>
      simp only [hf, Option.some.injEq] at ht
      subst ht
      exact (follow_live h pa _ _ (getH_live h a) hf r' rfl).imp_right Iff.mp

theorem step_set {F : Nat → Prop} {s : HSt} (h : Inv F s) {a : Nat} {pa : List Nat} {r : Nat}
    (ht : target s a pa = some r) (o' : Obj)
    (ho : ∀ it ∈ o', it ∈ s.heap[r]?.getD [] ∨ Live F s.heap.length it) :
    Inv F { s with heap := s.heap.set r o' } ∧
    ∀ d, s.col.map (read d (s.heap.set r o')) = s.col.map (read d s.heap) := by
  obtain ⟨hlt, hF⟩ := target_live h ht
  have hg : s.heap[r]? = some s.heap[r] := List.getElem?_eq_getElem hlt
  refine ⟨⟨?_, ?_, ?_, ?_⟩, h.col_read fun r1 hF1 _ => ?_⟩
  · intro r1 o1 h1 it hit
    simp only [List.length_set]
    rw [List.getElem?_set] at h1
    split at h1
    · subst_vars
      cases h1
      rcases ho it hit with hit | hl
      · rw [hg] at hit; exact h.obj _ _ hg it hit
      · exact hl.mono (Nat.le_refl _) (fun _ _ => Iff.rfl) ⟨fun x => hF x, False.elim⟩
    · exact h.obj r1 o1 h1 it hit
  · simpa only [List.length_set] using h.attrs
  · simpa only [List.length_set] using h.col
  · simpa only [List.length_set] using h.fresh
  · have : r ≠ r1 := fun e => hF (e ▸ hF1)
    simp [this]

theorem copyVal_deep_nonref (heap : Heap) {v : HVal} (hv : ∀ r, v ≠ .ref r) : copyVal .deep heap v = (heap, v) := by
  cases v with
  | ref r => exact absurd rfl (hv r)
  | _ => rfl

theorem mem_snoc_live {F : Nat → Prop} {n : Nat} {o : Obj} {v : HVal} (hv : Live F n v) :
    ∀ it ∈ o ++ [v], it ∈ o ∨ Live F n it :=
  fun it hit => (List.mem_append.mp hit).imp_right fun e => by rw [List.mem_singleton.mp e]; exact hv

theorem step_keeps {F : Nat → Prop} {s : HSt} (h : Inv F s) (c : Copy) (op : HOp) (hop : ∀ a, op ≠ .collect a) :
    Inv F (applyH c s op) ∧
    ∀ d, (applyH c s op).col.map (read d (applyH c s op).heap) = s.col.map (read d s.heap) := by
  cases op with
  | collect a => exact absurd rfl (hop a)
  | setInt a i => exact ⟨⟨h.obj, attrs_setKey h.attrs a (side_int _ _ _ i), h.col, h.fresh⟩, fun _ => rfl⟩
  | setNew a xs =>
    simp only [applyH]
    have hle : s.heap.length ≤ (s.heap ++ [xs.map HVal.int]).length := List.length_append ▸ Nat.le_add_right _ _
    refine ⟨⟨?_, ?_, fun v hv => (h.col v hv).grow hle, ?_⟩, h.col_read fun r _ hr => List.getElem?_append_left hr⟩
    · intro r o ho it hit
      by_cases hr : r < s.heap.length
      · rw [List.getElem?_append_left hr] at ho
        exact (h.obj r o ho it hit).grow hle
      · rw [List.getElem?_append_right (by omega)] at ho
        have : o = xs.map HVal.int := by simpa using List.mem_of_getElem? ho
        subst this
        obtain ⟨x, _, rfl⟩ := List.mem_map.mp hit
        exact side_int _ _ _ x
    · refine attrs_setKey (fun kv hkv => (h.attrs kv hkv).grow hle) a ?_
      intro r e
      cases e
      exact ⟨List.length_append ▸ Nat.lt_add_one _, iff_of_false (h.fresh _ (Nat.le_refl _)) id⟩
    · exact fun r hr => h.fresh r (Nat.le_trans hle hr)
  | bind a b pb =>
    simp only [applyH]
    cases hf : follow s.heap (getH s.attrs b) pb with
    | none => exact ⟨h, fun _ => rfl⟩
    | some v =>
      exact ⟨⟨h.obj, attrs_setKey h.attrs a (follow_live h pb _ _ (getH_live h b) hf), h.col, h.fresh⟩, fun _ => rfl⟩
  | app a pa x =>
    simp only [applyH]
    cases ht : target s a pa with
    | none => exact ⟨h, fun _ => rfl⟩
    | some r => exact step_set h ht _ (mem_snoc_live (side_int _ _ _ x))
  | appRef a pa b pb =>
    simp only [applyH]
    cases ht : target s a pa with
    | none => exact ⟨h, fun _ => rfl⟩
    | some r =>
      cases hf : follow s.heap (getH s.attrs b) pb with
      | none => exact ⟨h, fun _ => rfl⟩
      | some v => exact step_set h ht _ (mem_snoc_live (follow_live h pb _ _ (getH_live h b) hf))
  | pop a pa =>
    simp only [applyH]
    cases ht : target s a pa with
    | none => exact ⟨h, fun _ => rfl⟩
    | some r => exact step_set h ht _ fun it hit => .inl (List.dropLast_subset _ hit)

/-- the frozen set after duplicating a heap of `n` objects: the duplicates are frozen too -/
def grown (F : Nat → Prop) (n : Nat) (r : Nat) : Prop := F r ∨ (n ≤ r ∧ r < n + n)

theorem grown_old {F : Nat → Prop} {n r : Nat} (hr : r < n) : grown F n r ↔ F r :=
  ⟨fun x => x.elim id (by omega), Or.inl⟩

theorem side_shift {F : Nat → Prop} {n : Nat} {v : HVal} (hv : ∀ r, v = .ref r → r < n) :
    Froz (grown F n) (n + n) (shiftVal n v) := by
  intro r e
  cases v with
  | none => cases e
  | int i => cases e
  | ref r0 =>
    cases e
    have := hv r0 rfl
    exact ⟨by omega, iff_of_true (.inr ⟨by omega, by omega⟩) trivial⟩

theorem step_collect {F : Nat → Prop} {s : HSt} (h : Inv F s) (a : Nat) :
    ∃ F', Inv F' (applyH .deep s (.collect a)) ∧
      ∀ d, (applyH .deep s (.collect a)).col.map (read d (applyH .deep s (.collect a)).heap) =
        s.col.map (read d s.heap) ++ [read d s.heap (getH s.attrs a)] := by
  by_cases hv : ∀ r, getH s.attrs a ≠ .ref r
  · -- a value that is no reference is stored as it is, the heap stays
    have e : applyH .deep s (.collect a) = { s with col := s.col ++ [getH s.attrs a] } := by
      simp only [applyH, copyVal_deep_nonref _ hv]
    rw [e]
    refine ⟨F, ⟨h.obj, h.attrs, fun v hm => ?_, h.fresh⟩, fun d => List.map_append⟩
    rcases List.mem_append.mp hm with hm | hm
    · exact h.col v hm
    · rw [List.mem_singleton.mp hm]; exact side_of_nonref hv
  · obtain ⟨r0, hg⟩ : ∃ r0, getH s.attrs a = .ref r0 := by
      cases hg : getH s.attrs a with
      | ref r0 => exact ⟨r0, rfl⟩
      | _ => exact absurd (fun _ e => by simp [hg] at e) hv
    have hlt0 : ∀ r, HVal.ref r0 = .ref r → r < s.heap.length := fun r e => by
      cases e; exact (getH_live h a r0 hg).1
    have hcl : ∀ (r : Nat) (o : Obj), s.heap[r]? = some o → ∀ it ∈ o, ∀ r', it = HVal.ref r' → r' < s.heap.length :=
      fun r o ho it hit r' e => (h.obj r o ho it hit r' e).1
    have e : applyH .deep s (.collect a) = { s with
        heap := s.heap ++ s.heap.map (·.map (shiftVal s.heap.length)), col := s.col ++ [.ref (r0 + s.heap.length)] } := by
      simp only [applyH, hg, copyVal]
    have hlen : (s.heap ++ s.heap.map (·.map (shiftVal s.heap.length))).length = s.heap.length + s.heap.length := by
      rw [List.length_append, List.length_map]
    rw [e]
    refine ⟨grown F s.heap.length, ⟨?_, ?_, ?_, ?_⟩, ?_⟩
    all_goals simp only [hlen]
    · intro r o ho it hit
      by_cases hr : r < s.heap.length
      · rw [List.getElem?_append_left hr] at ho
        exact (h.obj r o ho it hit).mono (by omega) (fun _ => grown_old) (grown_old hr)
      · -- a duplicate: its items are the shifted items of the original
        have hr2 : r < s.heap.length + s.heap.length := hlen ▸ (List.getElem?_eq_some_iff.mp ho).1
        rw [List.getElem?_append_right (by omega), List.getElem?_map, Option.map_eq_some_iff] at ho
        obtain ⟨o0, ho0, rfl⟩ := ho
        obtain ⟨it0, hit0, rfl⟩ := List.mem_map.mp hit
        exact (side_shift (hcl _ o0 ho0 it0 hit0)).mono (Nat.le_refl _) (fun _ _ => Iff.rfl)
          (iff_true_intro (.inr ⟨by omega, hr2⟩))
    · exact fun kv hkv => (h.attrs kv hkv).mono (by omega) (fun _ => grown_old) Iff.rfl
    · intro v hv
      rcases List.mem_append.mp hv with hv | hv
      · exact (h.col v hv).mono (by omega) (fun _ => grown_old) Iff.rfl
      · rw [List.mem_singleton.mp hv]; exact side_shift hlt0
    · exact fun r hr x => x.elim (h.fresh r (by omega)) (by omega)
    · intro d
      simp only [hg, List.map_append, List.map_cons, List.map_nil]
      congr 1
      · exact h.col_read (fun r _ hr => List.getElem?_append_left hr) d
      · simpa [shiftVal] using read_shift s.heap hcl d (.ref r0) hlt0

theorem run_deep (F : Nat → Prop) (s : HSt) (ops : List HOp) (h : Inv F s) (d : Nat) :
    (runH .deep s ops).col.map (read d (runH .deep s ops).heap) = s.col.map (read d s.heap) ++ seen .deep d s ops := by
  induction ops generalizing s F with
  | nil => simp [runH, seen]
  | cons op ops ih =>
    rw [runH, List.foldl_cons]
    by_cases hop : ∀ a, op ≠ .collect a
    · obtain ⟨hi, hc⟩ := step_keeps h .deep op hop
      have e : seen .deep d s (op :: ops) = seen .deep d (applyH .deep s op) ops := by
        cases op with
        | collect a => exact absurd rfl (hop a)
        | _ => rfl
      rw [e, ← hc d]
      exact ih F _ hi
    · obtain ⟨a, rfl⟩ : ∃ a, op = .collect a := by
        cases op with
        | collect a => exact ⟨a, rfl⟩
        | _ => exact absurd (fun _ => HOp.noConfusion) hop
      obtain ⟨F', hi, hc⟩ := step_collect h a
      rw [seen, ← List.append_assoc, ← hc d]
      exact ih F' _ hi

theorem inv_empty : Inv (fun _ => False) empty :=
  ⟨by simp [empty], by simp [empty], by simp [empty], by simp⟩

end Mesa.CollectHeap
