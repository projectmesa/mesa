import MesaModel.Proofs.LegacyDefs
/-! Python sets of coordinates as strictly sorted lists (`sadd` / `sdiscard` are set add / discard), the keys of a dict as
append-if-absent lists with folds of insertions, and membership in a neighbourhood whose centre goes by a flag. -/
namespace Mesa.Legacy

theorem clt_irrefl (a : Coord) : clt a a = false := by
  simp [clt]

theorem clt_trans {a b c : Coord} (h1 : clt a b = true) (h2 : clt b c = true) : clt a c = true := by
  simp only [clt, Bool.or_eq_true, decide_eq_true_eq, Bool.and_eq_true, beq_iff_eq] at *
  omega

theorem clt_total {a b : Coord} (h1 : clt a b = false) (h2 : a ≠ b) : clt b a = true := by
  have : ¬ (a.1 = b.1 ∧ a.2 = b.2) := fun ⟨h, h'⟩ => h2 (Prod.ext h h')
  simp only [clt, Bool.or_eq_false_iff, decide_eq_false_iff_not, Bool.and_eq_false_iff, beq_eq_false_iff_ne,
    Bool.or_eq_true, decide_eq_true_eq, Bool.and_eq_true, beq_iff_eq] at *
  omega

theorem clt_ne {a b : Coord} (h : clt a b = true) : a ≠ b := by
  intro e
  subst e
  simp [clt_irrefl] at h

theorem mem_sadd (p q : Coord) (l : List Coord) : q ∈ sadd p l ↔ q = p ∨ q ∈ l := by
  induction l with
  | nil => simp [sadd]
  | cons x xs ih =>
    simp only [sadd]
    split
    · simp
    · split
      · rename_i h
        subst h
        simp
      · simp [ih]
        constructor
        · rintro (h | h | h) <;> simp [h]
        · rintro (h | h | h) <;> simp [h]

theorem sorted_sadd (p : Coord) (l : List Coord) (h : SortedSet l) : SortedSet (sadd p l) := by
  unfold SortedSet at *
  induction l with
  | nil => simp [sadd]
  | cons x xs ih =>
    simp only [sadd]
    rw [List.pairwise_cons] at h
    split
    · rename_i hpx
      refine List.pairwise_cons.mpr ⟨?_, List.pairwise_cons.mpr h⟩
      intro a ha
      rcases List.mem_cons.mp ha with rfl | ha
      · exact hpx
      · exact clt_trans hpx (h.1 a ha)
    · split
      · exact List.pairwise_cons.mpr h
      · rename_i hpx hne
        refine List.pairwise_cons.mpr ⟨?_, ih h.2⟩
        intro a ha
        rcases (mem_sadd p a xs).mp ha with rfl | ha
        · exact clt_total (by simpa using hpx) hne
        · exact h.1 a ha

theorem mem_sdiscard (p q : Coord) (l : List Coord) : q ∈ sdiscard p l ↔ q ∈ l ∧ q ≠ p := by
  simp [sdiscard]

theorem sorted_sdiscard (p : Coord) (l : List Coord) (h : SortedSet l) : SortedSet (sdiscard p l) :=
  List.Pairwise.filter _ h

theorem SortedSet.nodup {l : List Coord} (h : SortedSet l) : l.Nodup :=
  List.Pairwise.imp (fun hab => clt_ne hab) h

/-- two strictly sorted lists with the same members are the same list: the sorted list *is* the set -/
theorem SortedSet.ext {l l' : List Coord} (h : SortedSet l) (h' : SortedSet l') (hm : ∀ c, c ∈ l ↔ c ∈ l') : l = l' := by
  refine ((List.perm_ext_iff_of_nodup h.nodup h'.nodup).mpr hm).eq_of_pairwise (fun a b _ _ hab hba => ?_) h h'
  have := clt_trans hab hba
  rw [clt_irrefl] at this
  cases this

/-! ### lists as insertion-ordered sets (the keys of a Python dict): append if absent, and folds of insertions -/

theorem mem_addNew {α : Type} (l : List α) (x y : α) [Decidable (x ∈ l)] :
    y ∈ (if x ∈ l then l else l ++ [x]) ↔ y ∈ l ∨ y = x := by
  split
  · rename_i h
    exact ⟨Or.inl, fun h' => h'.elim id fun e => e ▸ h⟩
  · simp

theorem nodup_addNew {α : Type} (l : List α) (x : α) [Decidable (x ∈ l)] (h : l.Nodup) :
    (if x ∈ l then l else l ++ [x]).Nodup := by
  split
  · exact h
  · rename_i hx
    exact List.nodup_append.mpr ⟨h, by simp, by simp; exact fun y hy e => hx (e ▸ hy)⟩

theorem mem_foldl_adds {α β : Type} {f : List α → β → List α} {m : β → List α}
    (h : ∀ l b y, y ∈ f l b ↔ y ∈ l ∨ y ∈ m b) (bs : List β) (acc : List α) (y : α) :
    y ∈ bs.foldl f acc ↔ y ∈ acc ∨ ∃ b ∈ bs, y ∈ m b := by
  induction bs generalizing acc with
  | nil => simp
  | cons b bs ih => simp only [List.foldl_cons, ih, h, List.mem_cons, exists_eq_or_imp, or_assoc]

theorem mem_foldl_ins {α : Type} {ins : List α → α → List α} (h : ∀ l x y, y ∈ ins l x ↔ y ∈ l ∨ y = x)
    (xs acc : List α) (y : α) : y ∈ xs.foldl ins acc ↔ y ∈ acc ∨ y ∈ xs := by
  simpa using mem_foldl_adds (m := fun x => [x]) (by simpa using h) xs acc y

theorem foldl_keeps {α β : Type} {f : β → α → β} (P : β → Prop) (h : ∀ b a, P b → P (f b a)) (l : List α) (b : β)
    (hb : P b) : P (l.foldl f b) := by
  induction l generalizing b with
  | nil => exact hb
  | cons a l ih => exact ih _ (h b a hb)

/-- "the centre by flag": a neighbourhood is a set `S` of places in range with the centre `v` added (`include_center`) or
    taken out; `m` is membership of `u` in the result, `R` what being in range means away from the centre -/
theorem centre_by_flag {α : Type} {u v : α} {ic : Bool} {m inS R : Prop} (hR : u ≠ v → (inS ↔ R))
    (h1 : ic = true → (m ↔ u = v ∨ inS)) (h0 : ic = false → (m ↔ inS ∧ u ≠ v)) :
    m ↔ (u = v → ic = true) ∧ (u ≠ v → R) := by
  by_cases e : u = v
  · cases ic
    · simp [h0 rfl, e]
    · simp [h1 rfl, e]
  · cases ic
    · simp [h0 rfl, e, hR e]
    · simp [h1 rfl, e, hR e]

theorem oob_eq_true (d : Dim) (p : Coord) : d.oob p = true ↔ ¬ d.inGrid p := by
  simp only [Dim.oob, Dim.inGrid, Bool.or_eq_true, decide_eq_true_eq]
  omega

theorem oob_eq_false (d : Dim) (p : Coord) : d.oob p = false ↔ d.inGrid p := by
  simp only [Dim.oob, Dim.inGrid, Bool.or_eq_false_iff, decide_eq_false_iff_not]
  omega

theorem Reach.self {α : Type} (nb : α → List α) (k : Nat) (a : α) : Reach nb k a a := by
  induction k with
  | zero => rfl
  | succ k ih => exact Or.inl ih

end Mesa.Legacy
