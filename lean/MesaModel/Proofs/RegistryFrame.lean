import MesaModel.Proofs.Registry
/-! History-level non-interference between coexisting models (C02): what it means for an operation or a callback to
    avoid a model (`Op.avoids`), and what then stays true of that model (`Quiet`). -/
namespace Mesa.Agents

/-- is `b` an agent of model `m'` in world `w0`? (ids are never reused and an agent never changes its model, so —
    as long as nobody creates agents in `m'` — these are the agents of `m'` for the rest of the history) -/
def agentOf (w0 : World) (m' : Nat) (b : Aid) : Bool := decide (modelOfI w0.info b = some m')

/-- a callback action that does not concern model `m'` -/
def Action.avoids (w0 : World) (m' : Nat) (self : Aid) : Action → Bool
  | .rmSelf => !agentOf w0 m' self
  | .rm b => !agentOf w0 m' b
  | .create m _ _ _ => m != m'
  | _ => true

def scriptAvoids (w0 : World) (m' : Nat) (script : Aid → List Action) : Prop :=
  ∀ a, ∀ act ∈ script a, act.avoids w0 m' a = true

/-- an operation (performed in world `w`) that does not concern model `m'`: it creates no agent in `m'`, removes no agent of
    `m'` (directly, by `remove_all_agents`, or in a callback), reorders none of its sets in place and draws nothing from its
    generator -/
def Op.avoids (w0 : World) (m' : Nat) (w : World) : Op → Prop
  | .newModel _ | .unhold _ | .mkSet _ _ => True
  | .create m _ _ _ | .createN m _ _ _ | .createAgents m _ _ _ _ | .removeAll m => m ≠ m'
  | .remove a => agentOf w0 m' a = false
  | .shuffle t => t.model w ≠ m'
  | .sort t _ => (∀ k, t ≠ .set k) → t.model w ≠ m'
  | .doSet s _ _ | .mapSet s _ _ | .groupDo s _ _ _ | .groupMap s _ _ _ => scriptAvoids w0 m' s
  | .doSetX s _ _ _ | .mapSetX s _ _ _ | .groupDoX s _ _ _ _ | .groupMapX s _ _ _ _ => scriptAvoids w0 m' s
  | .shuffleDo s _ t | .shuffleDoX s _ _ t => scriptAvoids w0 m' s ∧ t.model w ≠ m'

theorem Op.avoids_act {w0 w : World} {m' : Nat} {op : Op} {a : (Aid → List Action) × Option Target}
    (hact : op.act? = some a) (h : op.avoids w0 m' w) :
    scriptAvoids w0 m' a.1 ∧ ∀ t, a.2 = some t → t.model w ≠ m' := by
  cases op with
  | shuffleDo _ _ t | shuffleDoX _ _ _ t =>
    cases hact
    exact ⟨h.1, fun _ e => Option.some.inj e ▸ h.2⟩
  | doSet | mapSet | groupDo | groupMap | doSetX | mapSetX | groupDoX | groupMapX =>
    cases hact
    exact ⟨h, nofun⟩
  | _ => cases hact

/-- what stays true of `m'` along a history that avoids it -/
structure Quiet (w0 : World) (m' : Nat) (w : World) : Prop where
  regs : w.regs[m']? = w0.regs[m']?
  agents : ∀ b, modelOfI w.info b = some m' ↔ agentOf w0 m' b = true

theorem Quiet.refl (w0 : World) (m' : Nat) : Quiet w0 m' w0 := ⟨rfl, fun b => by simp [agentOf]⟩

theorem quiet_congr {w0 w w' : World} {m' : Nat} (h : Quiet w0 m' w) (h1 : w'.regs = w.regs) (h2 : w'.info = w.info) :
    Quiet w0 m' w' := ⟨by rw [h1]; exact h.regs, fun b => by rw [h2]; exact h.agents b⟩

theorem quiet_removeAgent {w0 w : World} {m' : Nat} (h : Quiet w0 m' w) (b : Aid) (hb : agentOf w0 m' b = false) :
    Quiet w0 m' (removeAgent w b) := by
  refine ⟨?_, fun x => by rw [removeAgent_info]; exact h.agents x⟩
  cases hi : w.info[b]? with
  | none =>
    rw [removeAgent_none hi]
    exact h.regs
  | some i =>
    have hne : m' ≠ i.model := by
      intro e
      have : modelOfI w.info b = some m' := by simp [modelOfI, hi, e]
      rw [(h.agents b).mp this] at hb
      simp at hb
    rw [removeAgent_regs_other w b i hi m' hne]
    exact h.regs

theorem quiet_createAgent {w0 w : World} {m' : Nat} (h : Quiet w0 m' w) (m : Nat) (hm : m ≠ m') (ty : Ty) (hold : Bool)
    (x : Payload) : Quiet w0 m' (createAgent w m ty hold x) := by
  refine ⟨by rw [createAgent_regs_other w m m' (Ne.symm hm)]; exact h.regs, fun b => ?_⟩
  unfold createAgent
  cases hr : w.regs[m]? with
  | none => exact h.agents b
  | some r =>
    simp only [modelOfI_append]
    split
    · rename_i e
      rw [e, ← h.agents]
      simp [modelOfI, hm]
    · exact h.agents b

theorem quiet_createN {w0 w : World} {m' : Nat} (h : Quiet w0 m' w) (m : Nat) (hm : m ≠ m') (ty : Ty) (hold : Bool)
    (xs : List Payload) : Quiet w0 m' (createN w m ty hold xs) :=
  foldl_inv h fun _ h x _ => quiet_createAgent h m hm ty hold x

theorem quiet_runAction {w0 w : World} {m' : Nat} (h : Quiet w0 m' w) (self : Aid) (act : Action)
    (ha : act.avoids w0 m' self = true) : Quiet w0 m' (runAction self w act) := by
  cases act with
  | rmSelf => exact quiet_removeAgent h self (by simpa [Action.avoids] using ha)
  | rm b => exact quiet_removeAgent h b (by simpa [Action.avoids] using ha)
  | create m ty n hold => exact quiet_createN h m (by simpa [Action.avoids] using ha) ty hold _
  | unhold b => exact quiet_congr h rfl rfl
  | addTo k b =>
    obtain ⟨s, e, _⟩ := setAdd_eq_withSets w k b
    show Quiet w0 m' (setAdd w k b)
    rw [e]
    exact quiet_congr h rfl rfl
  | discardFrom k b =>
    obtain ⟨s, e, _⟩ := setDiscard_eq_withSets w k b
    show Quiet w0 m' (setDiscard w k b)
    rw [e]
    exact quiet_congr h rfl rfl

theorem quiet_walk {w0 : World} {m' : Nat} (script : Aid → List Action) (hs : scriptAvoids w0 m' script) (arg : Nat)
    (refs : List Aid) {w : World} (h : Quiet w0 m' w) : Quiet w0 m' (walk script arg w refs) :=
  walk_inv (P := Quiet w0 m') (fun _ _ h => quiet_congr h rfl rfl) (fun a _ h x hx => quiet_runAction h a x (hs a x hx))
    arg refs h

theorem quiet_setRng {w0 w : World} {m' : Nat} (h : Quiet w0 m' w) (m : Nat) (hm : m ≠ m') (g : Rng) :
    Quiet w0 m' (setRng w m g) := by
  refine ⟨?_, fun b => by rw [setRng_info]; exact h.agents b⟩
  rw [setRng_regs, ← h.regs]
  cases w.regs[m']? <;> simp [Ne.symm hm]

theorem quiet_setRaw {w0 w : World} {m' : Nat} (h : Quiet w0 m' w) (t : Target) (l : List Aid)
    (ht : (∀ k, t ≠ .set k) → t.model w ≠ m') : Quiet w0 m' (setRaw w t l) :=
  ⟨by rw [setRaw_regs_other w t l m' ht]; exact h.regs, fun b => by rw [setRaw_info]; exact h.agents b⟩

theorem quiet_step {w0 w : World} {m' : Nat} (hw : WInv List.Perm w) (hm : m' < w.regs.length) (h : Quiet w0 m' w) (op : Op)
    (ha : op.avoids w0 m' w) : Quiet w0 m' (step w op) := by
  cases hact : op.act? with
  | some a =>
    obtain ⟨arg, refs, e⟩ := step_act (w := w) hact
    obtain ⟨hs, ht⟩ := Op.avoids_act hact ha
    rw [e]
    refine quiet_walk a.1 hs arg refs ?_
    cases ht? : a.2 with
    | none => exact h
    | some t => exact quiet_setRng h _ (ht t ht?) _
  | none =>
    cases op with
    | newModel g =>
      refine ⟨?_, fun b => h.agents b⟩
      rw [← h.regs]
      simp only [step, newModel]
      rw [List.getElem?_append_left hm]
    | create m ty hold x => exact quiet_createAgent h m ha ty hold x
    | createN m ty hold xs => exact quiet_createN h m ha ty hold xs
    | createAgents m ty hold n args => exact quiet_createN h m ha ty hold _
    | remove a => exact quiet_removeAgent h a ha
    | removeAll m =>
      simp only [step, removeAll]
      cases hr : w.regs[m]? with
      | none => exact h
      | some r =>
        have hall : ∀ a ∈ r.hard, agentOf w0 m' a = false := by
          intro a ha'
          obtain ⟨⟨i, hi, him⟩, _⟩ := (hw.regs m r hr).mem_hard.mp ha'
          cases hag : agentOf w0 m' a with
          | false => rfl
          | true =>
            have := (h.agents a).mpr hag
            simp [modelOfI, hi] at this
            exact absurd (him.symm.trans this) ha
        exact foldl_inv h fun _ h a ha' => quiet_removeAgent h a (hall a ha')
    | unhold a => exact quiet_congr h rfl rfl
    | shuffle t =>
      simp only [step, shuffleInPlace]
      exact quiet_setRng (quiet_setRaw h t _ (fun _ => ha)) _ ha _
    | sort t asc => exact quiet_setRaw h t _ ha
    | mkSet m l => exact quiet_congr h rfl rfl
    | _ => cases hact

end Mesa.Agents
