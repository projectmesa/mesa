import MesaModel.Model.StepNested
import MesaModel.Proofs.StepCounter
/-! Helper lemmas for nested step calls (`Model/StepNested.lean`, property C05): a nested history is a flat one. -/
namespace Mesa.Steps

theorem run_append (w : List Inst) (a b : List Op) : run w (a ++ b) = run (run w a) b :=
  List.foldl_append

/-- the calls `cs`, made one after the other at top level from `w`, end in `w'`, and every one of them
    recorded exactly what a top-level `step()` records at that moment -/
def Flat (w : List Inst) (cs : List Call) (w' : List Inst) : Prop :=
  w' = run w (cs.map Call.toOp) ∧
  ∀ pre c post, cs = pre ++ c :: post →
    ∃ x, (run w (pre.map Call.toOp))[c.inst]? = some x ∧ (callStep x c.args).2 = (c.entries, c.ok)

theorem Flat.nil (w : List Inst) : Flat w [] w :=
  ⟨rfl, fun pre c post h => by simp at h⟩

theorem Flat.single {w : List Inst} {i : Nat} {x : Inst} (hx : w[i]? = some x) (args : List Int) :
    Flat w [⟨i, args, (callStep x args).2.1, (callStep x args).2.2⟩] (w.set i (callStep x args).1) := by
  refine ⟨(apply_of_some (op := .step i args) hx).symm, fun pre c post h => ?_⟩
  cases pre with
  | nil =>
    obtain ⟨rfl, _⟩ := List.cons.inj h
    exact ⟨x, hx, rfl⟩
  | cons p pre => simp at h

theorem Flat.append {w w1 w2 : List Inst} {cs1 cs2 : List Call} (h1 : Flat w cs1 w1) (h2 : Flat w1 cs2 w2) :
    Flat w (cs1 ++ cs2) w2 := by
  refine ⟨by rw [List.map_append, run_append, ← h1.1, h2.1], fun pre c post h => ?_⟩
  -- a call of the second part, behind `a'` there
  have second : ∀ a', pre = cs1 ++ a' → cs2 = a' ++ c :: post →
      ∃ x, (run w (pre.map Call.toOp))[c.inst]? = some x ∧ (callStep x c.args).2 = (c.entries, c.ok) := by
    rintro a' rfl ha
    rw [List.map_append, run_append, ← h1.1]
    exact h2.2 a' c post ha
  rcases List.append_eq_append_iff.mp h with ⟨a', ha1, ha2⟩ | ⟨c', hc1, hc2⟩
  · exact second a' ha1 ha2
  · cases c' with
    | nil => exact second [] (by simpa using hc1.symm) hc2.symm
    | cons d c' =>
      obtain ⟨rfl, _⟩ := List.cons.inj hc2
      exact h1.2 pre c c' hc1

theorem run_calls_steps (cs : List Call) (w : List Inst) (j : Nat) (x : Inst) (hx : w[j]? = some x) :
    (run w (cs.map Call.toOp))[j]?.map (·.steps) = some (x.steps + (cs.filter (fun c => c.inst == j)).length) := by
  have hnr : ∀ op ∈ cs.map Call.toOp, op.isRun = false := by
    intro op hop
    obtain ⟨c, _, rfl⟩ := List.mem_map.mp hop
    rfl
  rw [run_steps (cs.map Call.toOp) hnr w j x hx, List.filter_map, List.length_map]
  rfl

theorem stepNested_flat (links : List (Option Nat)) (f : Nat) (w : List Inst) (i : Nat) (args : List Int) :
    Flat w (stepNested links f w i args).2 (stepNested links f w i args).1 := by
  induction f generalizing w i args with
  | zero => exact Flat.nil w
  | succ f ih =>
    unfold stepNested
    cases hx : w[i]? with
    | none => exact Flat.nil w
    | some x =>
      cases hl : links[i]?.join with
      | none => exact Flat.single hx args
      | some j =>
        -- every round of the loop appends a flat history to a flat history
        exact (Flat.single hx args).append (List.foldlRecOn _ _ (motive := fun acc : List Inst × List Call => Flat _ acc.2 acc.1) (Flat.nil _)
          fun acc h _ _ => h.append (ih acc.1 j []))

theorem runNested_flat (links : List (Option Nat)) (f : Nat) (w : List Inst) (i : Nat) (w' : List Inst) (cs : List Call)
    (h : runNested links f w i = some (w', cs)) : Flat w cs w' := by
  induction f generalizing w w' cs with
  | zero => simp [runNested] at h
  | succ f ih =>
    rw [runNested] at h
    split at h
    · cases h
      exact Flat.nil w
    · split at h
      · cases h
        exact Flat.nil w
      · dsimp only at h
        split at h
        · cases h
        · cases h
          exact (stepNested_flat links _ w i []).append (ih _ _ _ ‹_›)

/-! ### the nesting fuel is immaterial when links point forward -/

theorem run_length (w : List Inst) (ops : List Op) : (run w ops).length = w.length :=
  List.foldlRecOn ops apply (motive := fun w' => w'.length = w.length) rfl fun w' h op _ => (apply_length w' op).trans h

theorem stepNested_length (links : List (Option Nat)) (f : Nat) (w : List Inst) (i : Nat) (args : List Int) :
    (stepNested links f w i args).1.length = w.length := by
  rw [(stepNested_flat links f w i args).1, run_length]

theorem stepNested_of_none (links : List (Option Nat)) (f : Nat) {w : List Inst} {i : Nat} (args : List Int)
    (h : w[i]? = none) : stepNested links f w i args = (w, []) := by
  cases f with
  | zero => rfl
  | succ f => rw [stepNested, h]

/-- links only point to instances created later -/
def Forward (links : List (Option Nat)) : Prop := ∀ (i j : Nat), links[i]?.join = some j → i < j

theorem stepNested_fuel (links : List (Option Nat)) (hf : Forward links) (f f' : Nat) (w : List Inst) (i : Nat)
    (args : List Int) (h1 : w.length - i ≤ f) (h2 : w.length - i ≤ f') :
    stepNested links f w i args = stepNested links f' w i args := by
  induction f generalizing f' w i args with
  | zero =>
    have hx : w[i]? = none := List.getElem?_eq_none (by omega)
    rw [stepNested_of_none links 0 args hx, stepNested_of_none links f' args hx]
  | succ f ih =>
    cases hx : w[i]? with
    | none => rw [stepNested_of_none links _ args hx, stepNested_of_none links f' args hx]
    | some x =>
      have hi : i < w.length := (List.getElem?_eq_some_iff.mp hx).1
      cases f' with
      | zero => omega
      | succ f' =>
        unfold stepNested
        simp only [hx]
        cases hl : links[i]?.join with
        | none => rfl
        | some j =>
          have hij : i < j := hf i j hl
          have hfuel : w.length - j ≤ f ∧ w.length - j ≤ f' := by omega
          -- the linked instance lies further on, so one unit of fuel less is still enough for it
          refine congrArg (fun r : List Inst × List Call => (r.1, _ :: r.2)) (And.left (List.foldl_rel
            (r := fun a b => a = b ∧ a.1.length = w.length) ⟨rfl, List.length_set⟩ ?_))
          rintro _ _ acc _ ⟨rfl, h⟩
          exact ⟨by rw [ih f' acc.1 j [] (h ▸ hfuel.1) (h ▸ hfuel.2)], (stepNested_length links f acc.1 j []).trans h⟩

theorem stepNested_calls_pos (links : List (Option Nat)) (f : Nat) (w : List Inst) (i : Nat) (args : List Int)
    (hi : i < w.length) : 1 ≤ (stepNested links (f + 1) w i args).2.length := by
  unfold stepNested
  simp only [List.getElem?_eq_getElem hi]
  cases links[i]?.join <;> simp

/-- with fuel left, no nested call is dropped: a call on an instance whose bodies step instance `j` contains, besides itself,
    at least one call for every body that ran -/
theorem stepNested_calls_ge (links : List (Option Nat)) (f : Nat) (w : List Inst) (i j : Nat) (args : List Int) (x : Inst)
    (hx : w[i]? = some x) (hl : links[i]?.join = some j) (hj : j < w.length) :
    1 + (callStep x args).2.1.length ≤ (stepNested links (f + 2) w i args).2.length := by
  rw [stepNested]
  simp only [hx, hl, List.length_cons]
  -- run the loop alongside a counter of its rounds: every round adds at least one call
  have := List.foldl_rel (l := (callStep x args).2.1) (g := fun (n : Nat) _ => n + 1) (b := 0)
    (r := fun (acc : List Inst × List Call) n => acc.1.length = w.length ∧ n ≤ acc.2.length)
    (f := fun acc _ => ((stepNested links (f + 1) acc.1 j []).1, acc.2 ++ (stepNested links (f + 1) acc.1 j []).2))
    (a := (w.set i (callStep x args).1, [])) ⟨List.length_set, Nat.le_refl _⟩ (by
      rintro _ _ acc n ⟨h, hn⟩
      have := stepNested_calls_pos links f acc.1 j [] (h.symm ▸ hj)
      refine ⟨(stepNested_length links (f + 1) acc.1 j []).trans h, ?_⟩
      simp only [List.length_append]
      omega)
  rw [List.foldl_add_const] at this
  omega

end Mesa.Steps
