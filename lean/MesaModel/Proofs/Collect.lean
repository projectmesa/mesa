import MesaModel.Proofs.CollectDict
/-! The DataCollector over histories (C12, C13, C18-collect).
    Words of the property statements: the snapshots at the storing collects (`storedSnaps`), the accepted table rows
    (`acceptedRows`), what one collect files (`agentRows`, `classAgents`, `typeDict`), how far a collect gets when reporters
    raise (`mOk`, `aOk`, `complete`, `passCount`; `Total` = none ever raises), the history without its rejected rows
    (`dropRejectedRows`), creation order (`IdSorted`, `noReorder`).
    Invariants over histories: `HoldsG` / `Holds` (`model_vars` and the records as functions of the snapshots), `TabHolds`
    (the tables as functions of the accepted rows), `RegStep` with `IdsInv` (the registry under one operation). -/
namespace Mesa.Collect

/-! ### what the collects of a history saw -/

/-- a collect gets past the validation of the model reporters (what it then stores depends on whether
    a reporter raises, see `HoldsG`) -/
def stores (cfg : Cfg) (s : State) : Bool := (guardErr cfg s).isNone

def snapOf (cfg : Cfg) (s : State) : Op → List Snap
  | .collect => if stores cfg s then [s.snap] else []
  | _ => []

/-- the snapshots of the model at the `collect` calls of a history that got past validation, oldest first -/
def storedSnaps (cfg : Cfg) : State → List Op → List Snap
  | _, [] => []
  | s, op :: rest => snapOf cfg s op ++ storedSnaps cfg (apply cfg s op).1 rest

/-- the value a row dict puts into column `c` (`None` when the key is missing) -/
def cell (c : Nat) (r : List (Nat × Val)) : Val := (r.lookup c).getD .none

/-- the rows of a history that `add_table_row` accepted into table `t` -/
def rowOf (s : State) (t : Nat) : Op → List (List (Nat × Val))
  | .row t' r ign => if t' = t ∧ (addTableRow s t' r ign).2 = none then [r] else []
  | _ => []

def acceptedRows (cfg : Cfg) (t : Nat) : State → List Op → List (List (Nat × Val))
  | _, [] => []
  | s, op :: rest => rowOf s t op ++ acceptedRows cfg t (apply cfg s op).1 rest

/-- one row per registered agent: `(steps, unique_id, reporter values)` -/
def agentRows (cfg : Cfg) (sn : Snap) : List Row := sn.agents.map (mkRow cfg.areps sn)

/-- the agents an agent-type reporter keyed by `T` looks at, as a function of the snapshot alone -/
def classAgents (cfg : Cfg) (sn : Snap) (T : Nat) : Option (List AgentS) :=
  if sn.agents.any (fun a => a.ty == T) then some (byCreation (sn.agents.filter fun a => a.ty == T))
  else if cfg.isAgentClass T then some (sn.agents.filter fun a => cfg.isSub a.ty T)
  else none

def typeLoopS (cfg : Cfg) (sn : Snap) :
    List (Nat × List ARep) → List (Nat × List Row) → List (Nat × List Row) × Option Err
  | [], acc => (acc, none)
  | (T, reps) :: rest, acc =>
    match classAgents cfg sn T with
    | none => (acc, some .value)
    | some ags =>
      match rowsExc reps sn ags with
      | some e => (acc, some e)
      | none => typeLoopS cfg sn rest (setKey T (ags.map (mkRow reps sn)) acc)

/-- `_agenttype_records[steps]` as written by one collect -/
def typeDict (cfg : Cfg) (sn : Snap) : List (Nat × List Row) := (typeLoopS cfg sn cfg.treps []).1

/-- every registered agent's class is in `agent_types` -/
def TypesInv (s : State) : Prop := ∀ a ∈ s.agents, a.ty ∈ s.types

theorem typeAgents_eq {cfg : Cfg} {s : State} (h : TypesInv s) (T : Nat) :
    typeAgents cfg s T = classAgents cfg s.snap T := by
  unfold typeAgents classAgents
  simp only [State.snap]
  by_cases ha : s.agents.any (fun a => a.ty == T) = true
  · have : T ∈ s.types := by
      obtain ⟨a, hm, ht⟩ := List.any_eq_true.mp ha
      have := h a hm
      simp only [beq_iff_eq] at ht
      simpa [ht] using this
    simp [ha, this]
  · simp [ha]

theorem typeLoop_eq {cfg : Cfg} {s : State} (h : TypesInv s) (l : List (Nat × List ARep)) (acc : List (Nat × List Row)) :
    typeLoop cfg s l acc = typeLoopS cfg s.snap l acc := by
  induction l generalizing acc with
  | nil => rfl
  | cons x xs ih =>
    obtain ⟨T, reps⟩ := x
    rw [typeLoop, typeLoopS, typeAgents_eq h]
    cases classAgents cfg s.snap T with
    | none => rfl
    | some ags =>
      simp only []
      cases rowsExc reps s.snap ags with
      | some e => rfl
      | none => exact ih _

/-! #### reporters that raise: how far a collect gets is a function of the snapshot; the shapes `model_vars` and its
    frame can take -/

/-- the reporter returns (does not raise) on this snapshot -/
def MRep.passes (r : MRep) (sn : Snap) : Bool := (r.exc sn).isNone

/-- the exception that ends the loop over the model reporters, if any -/
def firstExc (l : List MRep) (sn : Snap) : Option Err := l.findSome? fun r => r.exc sn

/-- every model reporter returns: the model phase of the collect completes -/
def mOk (cfg : Cfg) (sn : Snap) : Bool := (firstExc cfg.mreps sn).isNone

/-- every agent reporter returns on every registered agent -/
def aOk (cfg : Cfg) (sn : Snap) : Bool := (rowsExc cfg.areps sn sn.agents).isNone

/-- the collect gets as far as writing the agent records (and starting the agent-type dict) -/
def complete (cfg : Cfg) (sn : Snap) : Bool := mOk cfg sn && aOk cfg sn

/-- `model_vars` as a function of the snapshots: the column of a reporter holds its value at exactly those
    collects at which it and every reporter before it returned -/
def colsOf : List MRep → List Snap → List (List Val)
  | [], _ => []
  | r :: rs, snaps => (snaps.filter r.passes).map r.eval :: colsOf rs (snaps.filter r.passes)

theorem rowsExc_eq_none_iff (reps : List ARep) (sn : Snap) (ags : List AgentS) :
    rowsExc reps sn ags = none ↔ ∀ ag ∈ ags, ∀ r ∈ reps, r.exc sn ag = none := by
  simp only [rowsExc, rowExc, List.findSome?_eq_none_iff]

theorem passes_iff (r : MRep) (sn : Snap) : r.passes sn = true ↔ r.exc sn = none := by
  simp [MRep.passes]

theorem firstExc_cons (r : MRep) (rs : List MRep) (sn : Snap) :
    firstExc (r :: rs) sn = if r.passes sn then firstExc rs sn else r.exc sn := by
  simp only [firstExc, List.findSome?_cons, MRep.passes]
  split <;> simp [*]

theorem mLoop_cons (sn : Snap) (r : MRep) (rs : List MRep) (c : List Val) (cs : List (List Val)) :
    mLoop sn (r :: rs) (c :: cs) =
      if r.passes sn then ((c ++ [r.eval sn]) :: (mLoop sn rs cs).1, (mLoop sn rs cs).2) else (c :: cs, r.exc sn) := by
  simp only [mLoop, MRep.passes, MRep.exc, MRep.eval]
  split <;> simp [*, excOf, valOf]

theorem mLoop_colsOf (sn : Snap) (l : List MRep) (snaps : List Snap) :
    mLoop sn l (colsOf l snaps) = (colsOf l (snaps ++ [sn]), firstExc l sn) := by
  induction l generalizing snaps with
  | nil => rfl
  | cons r rs ih =>
    simp only [colsOf, mLoop_cons, firstExc_cons, List.filter_append, ih]
    by_cases hp : r.passes sn = true <;> simp [hp]

theorem colsOf_length (l : List MRep) (snaps : List Snap) : (colsOf l snaps).length = l.length := by
  induction l generalizing snaps with
  | nil => rfl
  | cons r rs ih => simp [colsOf, ih]

theorem firstExc_none_iff (l : List MRep) (sn : Snap) : firstExc l sn = none ↔ ∀ r ∈ l, r.passes sn = true := by
  simp [firstExc, List.findSome?_eq_none_iff, passes_iff]

theorem mOk_iff (cfg : Cfg) (sn : Snap) : mOk cfg sn = true ↔ ∀ r ∈ cfg.mreps, r.passes sn = true := by
  simp [mOk, firstExc_none_iff]

/-- the reporters that return before the first one that raises -/
def passCount (l : List MRep) (sn : Snap) : Nat := (l.takeWhile (·.passes sn)).length

theorem mLoop_spec (sn : Snap) (l : List MRep) (cols : List (List Val)) (hl : cols.length = l.length) :
    (mLoop sn l cols).1 =
      List.zipWith (fun col r => col ++ [r.eval sn]) (cols.take (passCount l sn)) (l.take (passCount l sn)) ++
        cols.drop (passCount l sn) ∧
    (mLoop sn l cols).2 = firstExc l sn := by
  induction l generalizing cols with
  | nil => cases cols <;> simp [mLoop, passCount, firstExc]
  | cons r rs ih =>
    cases cols with
    | nil => simp at hl
    | cons c cs =>
      obtain ⟨i1, i2⟩ := ih cs (Nat.succ.inj hl)
      simp only [passCount] at i1
      rw [mLoop_cons, firstExc_cons]
      by_cases hp : r.passes sn = true <;> simp [passCount, hp, i1, i2]

theorem colsOf_getElem (l : List MRep) (snaps : List Snap) (k : Nat) :
    (colsOf l snaps)[k]? =
      l[k]?.map fun r => (snaps.filter fun sn => (l.take (k + 1)).all (·.passes sn)).map r.eval := by
  induction l generalizing snaps k with
  | nil => simp [colsOf]
  | cons r rs ih =>
    cases k with
    | zero => simp [colsOf]
    | succ k =>
      simp only [colsOf, List.getElem?_cons_succ, ih, List.filter_filter, List.take_succ_cons, List.all_cons]
      congr 1
      funext r'
      congr 1
      apply List.filter_congr
      intro sn _
      exact Bool.and_comm _ _

theorem colsOf_all_pass (l : List MRep) (snaps : List Snap) (h : ∀ sn ∈ snaps, ∀ r ∈ l, r.passes sn = true) :
    colsOf l snaps = l.map fun r => snaps.map r.eval := by
  induction l generalizing snaps with
  | nil => rfl
  | cons r rs ih =>
    have hp : snaps.filter r.passes = snaps := by
      rw [List.filter_eq_self]
      intro sn hsn
      exact h sn hsn r (by simp)
    simp only [colsOf, hp, List.map_cons]
    rw [ih snaps (fun sn hsn r' hr' => h sn hsn r' (by simp [hr']))]

theorem colsOf_short (l : List MRep) (snaps : List Snap) (h : ∃ sn ∈ snaps, ∃ r ∈ l, r.passes sn = false) :
    ∃ col ∈ colsOf l snaps, col.length < snaps.length := by
  induction l generalizing snaps with
  | nil => obtain ⟨_, _, _, hr, _⟩ := h; simp at hr
  | cons r rs ih =>
    obtain ⟨sn, hsn, r', hr', hp⟩ := h
    by_cases hr0 : r.passes sn = true
    · have hr'' : r' ∈ rs := by
        rcases List.mem_cons.mp hr' with rfl | h
        · rw [hr0] at hp; cases hp
        · exact h
      obtain ⟨col, hc, hlt⟩ := ih (snaps.filter r.passes) ⟨sn, List.mem_filter.mpr ⟨hsn, hr0⟩, r', hr'', hp⟩
      refine ⟨col, by simp [colsOf, hc], Nat.lt_of_lt_of_le hlt (List.length_filter_le _ _)⟩
    · refine ⟨(snaps.filter r.passes).map r.eval, by simp [colsOf], ?_⟩
      rw [List.length_map]
      exact List.length_filter_lt_length_iff_exists.mpr ⟨sn, hsn, hr0⟩

theorem rect_of_lengths (cols : List (List Val)) (n : Nat) (h : ∀ c ∈ cols, c.length = n) (hne : cols ≠ []) :
    rect cols = some n := by
  cases cols with
  | nil => exact absurd rfl hne
  | cons c rest =>
    have hc := h c (by simp)
    have : rest.all (fun x => x.length == c.length) = true := by
      rw [List.all_eq_true]
      intro x hx
      have := h x (by simp [hx])
      simp [this, hc]
    rw [hc] at this
    simp only [rect, hc, this, if_true]

theorem modelFrame_of_cols {cfg : Cfg} {s : State} (l : List α) (f : MRep → α → Val) (hne : cfg.mreps ≠ [])
    (h : s.modelVars = cfg.mreps.map fun r => l.map (f r)) :
    modelFrame cfg s = .ok (l.length, cfg.mreps.map fun r => l.map (f r)) := by
  rw [modelFrame, if_neg (by simpa using hne), h, rect_of_lengths _ l.length]
  · intro c hc
    obtain ⟨r, _, rfl⟩ := List.mem_map.mp hc
    exact List.length_map _
  · simpa using hne

theorem colsOf_rect (r₀ : MRep) (rs : List MRep) (snaps : List Snap)
    (h : ∀ sn ∈ snaps, r₀.passes sn = true → ∀ r ∈ rs, r.passes sn = true) :
    colsOf (r₀ :: rs) snaps = (r₀ :: rs).map fun r => (snaps.filter r₀.passes).map r.eval := by
  simp only [colsOf, List.map_cons]
  congr 1
  apply colsOf_all_pass
  intro sn hsn
  exact h sn (List.mem_filter.mp hsn).1 (List.mem_filter.mp hsn).2

theorem colsOf_ragged (r₀ : MRep) (rs : List MRep) (snaps : List Snap)
    (h : ∃ sn ∈ snaps, r₀.passes sn = true ∧ ∃ r ∈ rs, r.passes sn = false) :
    rect (colsOf (r₀ :: rs) snaps) = none := by
  obtain ⟨sn, hsn, hp, r, hr, hrp⟩ := h
  obtain ⟨col, hc, hlt⟩ := colsOf_short rs (snaps.filter r₀.passes) ⟨sn, List.mem_filter.mpr ⟨hsn, hp⟩, r, hr, hrp⟩
  rw [colsOf, rect, if_neg]
  intro hall
  have := List.all_eq_true.mp hall col hc
  rw [beq_iff_eq, List.length_map] at this
  omega

theorem mLoop_snd_none (sn : Snap) (l : List MRep) (cols : List (List Val)) (h : ∀ r ∈ l, r.exc sn = none) :
    (mLoop sn l cols).2 = none := by
  induction l generalizing cols with
  | nil => cases cols <;> rfl
  | cons r rs ih =>
    cases cols with
    | nil => rfl
    | cons c cs =>
      rw [mLoop_cons, if_pos ((passes_iff r sn).mpr (h r (by simp)))]
      exact ih cs (fun r' hr' => h r' (by simp [hr']))

/-- what the DataCollector holds is a function of the snapshots at its collects — for reporters that may raise -/
structure HoldsG (cfg : Cfg) (snaps : List Snap) (s : State) : Prop where
  types : TypesInv s
  modelVars : s.modelVars = colsOf cfg.mreps snaps
  collSteps : s.collSteps = (snaps.filter (mOk cfg)).map (·.steps)
  records : s.records = if cfg.areps.isEmpty then [] else assign (·.steps) (agentRows cfg) (snaps.filter (complete cfg))
  typeRecords : s.typeRecords =
    if cfg.treps.isEmpty then [] else assign (·.steps) (typeDict cfg) (snaps.filter (complete cfg))
  stepsLe : ∀ sn ∈ snaps, sn.steps ≤ s.steps
  sorted : (snaps.map (·.steps)).Pairwise (· ≤ ·)

theorem HoldsG.records_of_ne {cfg : Cfg} {snaps : List Snap} {s : State} (h : HoldsG cfg snaps s) (hne : cfg.areps ≠ []) :
    s.records = assign (·.steps) (agentRows cfg) (snaps.filter (complete cfg)) := by
  rw [h.records, if_neg (by simpa using hne)]

theorem HoldsG.typeRecords_of_ne {cfg : Cfg} {snaps : List Snap} {s : State} (h : HoldsG cfg snaps s)
    (hne : cfg.treps ≠ []) : s.typeRecords = assign (·.steps) (typeDict cfg) (snaps.filter (complete cfg)) := by
  rw [h.typeRecords, if_neg (by simpa using hne)]

@[simp] theorem snap_agents (s : State) : s.snap.agents = s.agents := rfl
@[simp] theorem snap_steps (s : State) : s.snap.steps = s.steps := rfl
@[simp] theorem snap_attrs (s : State) : s.snap.attrs = s.attrs := rfl

theorem collect_fails {cfg : Cfg} {s : State} (hs : stores cfg s = false) :
    ∃ e, collect cfg s = ({ s with validated := true }, some e) := by
  unfold stores at hs
  unfold collect
  cases hg : guardErr cfg s with
  | none => simp [hg] at hs
  | some e => exact ⟨e, rfl⟩

theorem collect_eq {cfg : Cfg} {s : State} (hs : stores cfg s = true) :
    (collect cfg s).1 = { s with
      validated := !cfg.mreps.isEmpty || s.validated
      modelVars := (mLoop s.snap cfg.mreps s.modelVars).1
      collSteps := if (mLoop s.snap cfg.mreps s.modelVars).2.isNone then s.collSteps ++ [s.steps] else s.collSteps
      records :=
        if (mLoop s.snap cfg.mreps s.modelVars).2.isNone && aOk cfg s.snap && !cfg.areps.isEmpty
        then setKey s.steps (agentRows cfg s.snap) s.records else s.records
      typeRecords :=
        if (mLoop s.snap cfg.mreps s.modelVars).2.isNone && aOk cfg s.snap && !cfg.treps.isEmpty
        then setKey s.steps (typeLoop cfg s cfg.treps []).1 s.typeRecords else s.typeRecords } := by
  have hg : guardErr cfg s = none := by simpa [stores] using hs
  unfold collect
  simp only [hg, aOk, snap_agents]
  -- one case per place where `collect` can end; in each both sides are the same record, field by field
  rcases Option.eq_none_or_eq_some (mLoop s.snap cfg.mreps s.modelVars).2 with hm | ⟨e, hm⟩
  · rcases Option.eq_none_or_eq_some (rowsExc cfg.areps s.snap s.agents) with ha | ⟨e, ha⟩
    · by_cases hae : cfg.areps.isEmpty = true <;> by_cases hte : cfg.treps.isEmpty = true <;>
        simp [hm, ha, hae, hte, agentRows]
    · simp [hm, ha]
  · simp [hm]

theorem collect_frame (cfg : Cfg) (s : State) :
    (collect cfg s).1 = { s with
      validated := (collect cfg s).1.validated, modelVars := (collect cfg s).1.modelVars,
      collSteps := (collect cfg s).1.collSteps, records := (collect cfg s).1.records,
      typeRecords := (collect cfg s).1.typeRecords } := by
  by_cases hs : stores cfg s = true
  · rw [collect_eq hs]
  · obtain ⟨e, he⟩ := collect_fails (Bool.not_eq_true _ ▸ hs)
    rw [he]

theorem collect_agents (cfg : Cfg) (s : State) :
    (collect cfg s).1.agents = s.agents ∧ (collect cfg s).1.types = s.types ∧ (collect cfg s).1.steps = s.steps := by
  rw [collect_frame]; exact ⟨rfl, rfl, rfl⟩

theorem addTableRow_cases (s : State) (t : Nat) (r : List (Nat × Val)) (ign : Bool) :
    (∃ e, addTableRow s t r ign = (s, some e)) ∨
    ∃ tab, s.tables.lookup t = some tab ∧ addTableRow s t r ign =
      ({ s with tables := setKey t (tab.map fun cv => (cv.1, cv.2 ++ [cell cv.1 r])) s.tables }, none) := by
  unfold addTableRow
  cases hl : s.tables.lookup t with
  | none => exact .inl ⟨_, rfl⟩
  | some tab =>
    simp only []
    split
    · exact .inl ⟨_, rfl⟩
    · exact .inr ⟨tab, rfl, rfl⟩

theorem addTableRow_frame (s : State) (t : Nat) (r : List (Nat × Val)) (ign : Bool) :
    (addTableRow s t r ign).1 = { s with tables := (addTableRow s t r ign).1.tables } := by
  rcases addTableRow_cases s t r ign with ⟨e, h⟩ | ⟨tab, _, h⟩ <;> rw [h]

theorem apply_cases (cfg : Cfg) (s : State) (op : Op) :
    op = .collect ∨ (∃ t r ign, op = .row t r ign) ∨
    (snapOf cfg s op = [] ∧ (∀ t, rowOf s t op = []) ∧
      (apply cfg s op).1 = { s with
        steps := (apply cfg s op).1.steps, running := (apply cfg s op).1.running, attrs := (apply cfg s op).1.attrs,
        agents := (apply cfg s op).1.agents, types := (apply cfg s op).1.types,
        nextId := (apply cfg s op).1.nextId }) := by
  cases op
  case collect => exact .inl rfl
  case row t r ign => exact .inr (.inl ⟨t, r, ign, rfl⟩)
  all_goals refine .inr (.inr ⟨rfl, fun _ => rfl, ?_⟩)
  case mapp => simp only [apply]; split <;> rfl
  case mdel => simp only [apply]; split <;> rfl
  all_goals rfl

theorem apply_frame (cfg : Cfg) (s : State) (op : Op) (h : op ≠ .collect) :
    snapOf cfg s op = [] ∧
    (apply cfg s op).1.modelVars = s.modelVars ∧ (apply cfg s op).1.collSteps = s.collSteps ∧
    (apply cfg s op).1.records = s.records ∧ (apply cfg s op).1.typeRecords = s.typeRecords := by
  rcases apply_cases cfg s op with rfl | ⟨t, r, ign, rfl⟩ | ⟨hsn, _, e⟩
  · exact absurd rfl h
  · rw [apply, addTableRow_frame]; exact ⟨rfl, rfl, rfl, rfl, rfl⟩
  · rw [e]; exact ⟨hsn, rfl, rfl, rfl, rfl⟩

theorem apply_steps_le (cfg : Cfg) (s : State) (op : Op) : s.steps ≤ (apply cfg s op).1.steps := by
  cases op
  case step => exact Nat.le_succ _
  case mapp => simp only [apply]; split <;> exact Nat.le_refl _
  case mdel => simp only [apply]; split <;> exact Nat.le_refl _
  case collect => rw [apply, collect_frame]; exact Nat.le_refl _
  case row => rw [apply, addTableRow_frame]; exact Nat.le_refl _
  all_goals exact Nat.le_refl _

/-! ### the registry under one operation -/

theorem sortBy_perm (key : AgentS → Int) (asc : Bool) (l : List AgentS) : (sortBy key asc l).Perm l := by
  unfold sortBy; split <;> exact sortStable_perm _ _

theorem reorderList_perm (k : ReKind) (l : List AgentS) : (reorderList k l).Perm l := by
  cases k with
  | perm p =>
    simp only [reorderList]
    split
    · rename_i h; exact perm_filterMap_getElem? h
    · exact .refl _
  | rev => exact List.reverse_perm l
  | rot =>
    simp only [reorderList]
    exact List.perm_append_comm.trans (List.Perm.of_eq (List.take_append_drop 1 l))
  | byId asc => exact sortBy_perm _ _ _
  | byAttr a asc => exact sortBy_perm _ _ _

theorem byCreation_perm (l : List AgentS) : (byCreation l).Perm l := sortStable_perm _ _

def noReorder : Op → Bool
  | .reorder _ => false
  | _ => true

/-- what identifies a registered agent; no operation changes it -/
def idTy (a : AgentS) : Nat × Nat := (a.id, a.ty)

theorem updAgent_idTy (id : Nat) (f : AgentS → AgentS) (hf : ∀ a, idTy (f a) = idTy a) (l : List AgentS) :
    (updAgent id f l).map idTy = l.map idTy := by
  rw [updAgent, List.map_map]
  apply List.map_congr_left
  intro a _
  show idTy (if a.id = id then f a else a) = idTy a
  split
  · exact hf a
  · rfl

/-- all that the invariants on ids, order and classes need to know of an operation -/
def RegStep (op : Op) (s s' : State) : Prop :=
  (∃ a, s'.agents = s.agents ++ [a] ∧ a.id = s.nextId ∧ s'.nextId = s.nextId + 1 ∧
    a.ty ∈ s'.types ∧ ∀ T ∈ s.types, T ∈ s'.types) ∨
  (s'.nextId = s.nextId ∧ s'.types = s.types ∧
    ((s'.agents.map idTy).Sublist (s.agents.map idTy) ∨ (noReorder op = false ∧ s'.agents.Perm s.agents)))

theorem apply_regStep (cfg : Cfg) (s : State) (op : Op) : RegStep op s (apply cfg s op).1 := by
  have same : ∀ s' : State, s'.agents.map idTy = s.agents.map idTy → s'.types = s.types → s'.nextId = s.nextId →
      RegStep op s s' :=
    fun s' h1 h2 h3 => .inr ⟨h3, h2, .inl (h1 ▸ .refl _)⟩
  cases op <;> simp only [apply]
  case create ty attrs =>
    refine .inl ⟨_, rfl, rfl, rfl, ?_, fun T hT => ?_⟩ <;> simp only [List.contains_iff_mem] <;> split <;> simp [*]
  case remove id => exact .inr ⟨rfl, rfl, .inl (List.filter_sublist.map _)⟩
  case aset id a v => exact same _ (updAgent_idTy _ _ (by intro; rfl) _) rfl rfl
  case adel id a => exact same _ (updAgent_idTy _ _ (by intro; rfl) _) rfl rfl
  case reorder k => exact .inr ⟨rfl, rfl, .inr ⟨rfl, reorderList_perm k s.agents⟩⟩
  case mapp => split <;> exact same _ rfl rfl rfl
  case mdel => split <;> exact same _ rfl rfl rfl
  case collect => rw [collect_frame]; exact same _ rfl rfl rfl
  case row => rw [addTableRow_frame]; exact same _ rfl rfl rfl
  all_goals exact same _ rfl rfl rfl

theorem RegStep.typesInv {op : Op} {s s' : State} (h : RegStep op s s') (ht : TypesInv s) : TypesInv s' := by
  intro b hb
  rcases h with ⟨a, ha, _, _, hty, hsub⟩ | ⟨_, hty, hsub | ⟨_, hp⟩⟩
  · rw [ha] at hb
    rcases List.mem_append.mp hb with hb | hb
    · exact hsub _ (ht b hb)
    · rw [List.mem_singleton.mp hb]; exact hty
  · obtain ⟨c, hc, e⟩ := List.mem_map.mp (hsub.subset (List.mem_map_of_mem (f := idTy) hb))
    have e' : c.ty = b.ty := congrArg Prod.snd e
    rw [hty, ← e']; exact ht c hc
  · rw [hty]; exact ht b (hp.mem_iff.mp hb)

theorem holdsG_collect {cfg : Cfg} {snaps : List Snap} {s : State} (h : HoldsG cfg snaps s) :
    HoldsG cfg (snaps ++ snapOf cfg s .collect) (collect cfg s).1 := by
  by_cases hs : stores cfg s = true
  · -- with `model_vars` as `HoldsG` says, the loop over the model reporters ends with `firstExc`: the collect gets
    -- through the model phase iff `mOk`, through the agent phase too iff `complete`
    have e := collect_eq hs
    rw [h.modelVars, mLoop_colsOf] at e
    simp only [snapOf, hs, if_true]
    rw [e]
    refine ⟨h.types, rfl, ?_, ?_, ?_, ?_, ?_⟩
    · show (if mOk cfg s.snap then _ else _) = _
      rw [h.collSteps, List.filter_append]
      by_cases hm : mOk cfg s.snap = true <;> simp [hm]
    · show (if complete cfg s.snap && !cfg.areps.isEmpty then _ else _) = _
      rw [h.records, assign_filter_snoc]
      cases cfg.areps.isEmpty <;> cases complete cfg s.snap <;> rfl
    · show (if complete cfg s.snap && !cfg.treps.isEmpty then _ else _) = _
      rw [h.typeRecords, assign_filter_snoc, typeLoop_eq h.types]
      cases cfg.treps.isEmpty <;> cases complete cfg s.snap <;> rfl
    · intro sn hsn
      rcases List.mem_append.mp hsn with hsn | hsn
      · exact h.stepsLe sn hsn
      · rw [List.mem_singleton.mp hsn]; exact Nat.le_refl _
    · rw [List.map_append, List.pairwise_append]
      refine ⟨h.sorted, by simp, ?_⟩
      intro a ha b hb
      obtain ⟨sn, hsn, rfl⟩ := List.mem_map.mp ha
      rw [List.mem_singleton.mp hb]
      exact h.stepsLe sn hsn
  · have hs' : stores cfg s = false := by simpa using hs
    simp only [snapOf, hs', Bool.false_eq_true, if_false, List.append_nil]
    obtain ⟨e, he⟩ := collect_fails hs'
    rw [he]
    exact ⟨h.types, h.modelVars, h.collSteps, h.records, h.typeRecords, h.stepsLe, h.sorted⟩

theorem holdsG_apply {cfg : Cfg} {snaps : List Snap} {s : State} (h : HoldsG cfg snaps s) (op : Op) :
    HoldsG cfg (snaps ++ snapOf cfg s op) (apply cfg s op).1 := by
  by_cases hc : op = .collect
  · subst hc; exact holdsG_collect h
  · obtain ⟨hsn, h1, h2, h3, h4⟩ := apply_frame cfg s op hc
    rw [hsn, List.append_nil]
    exact ⟨(apply_regStep cfg s op).typesInv h.types, h1 ▸ h.modelVars, h2 ▸ h.collSteps, h3 ▸ h.records,
      h4 ▸ h.typeRecords, fun sn hsn => Nat.le_trans (h.stepsLe sn hsn) (apply_steps_le cfg s op), h.sorted⟩

theorem holdsG_run {cfg : Cfg} {snaps : List Snap} {s : State} (h : HoldsG cfg snaps s) (ops : List Op) :
    HoldsG cfg (snaps ++ storedSnaps cfg s ops) (run cfg s ops) := by
  induction ops generalizing snaps s with
  | nil => simpa [storedSnaps, run] using h
  | cons op rest ih =>
    have := ih (holdsG_apply h op)
    simpa [storedSnaps, run, List.append_assoc] using this

theorem storedSnaps_append (cfg : Cfg) (s : State) (ops₁ ops₂ : List Op) :
    storedSnaps cfg s (ops₁ ++ ops₂) = storedSnaps cfg s ops₁ ++ storedSnaps cfg (run cfg s ops₁) ops₂ := by
  induction ops₁ generalizing s with
  | nil => rfl
  | cons op rest ih => simp [storedSnaps, run, ih, List.append_assoc]

theorem colsOf_nil (l : List MRep) : colsOf l [] = l.map fun _ => [] := by
  induction l with
  | nil => rfl
  | cons r rs ih => simp [colsOf, ih]

theorem holdsG_init (cfg : Cfg) (tables : List (Nat × List Nat)) : HoldsG cfg [] (init cfg tables) :=
  ⟨fun _ h => (List.not_mem_nil h).elim, (colsOf_nil _).symm, rfl, by split <;> rfl, by split <;> rfl,
    fun _ h => (List.not_mem_nil h).elim, .nil⟩

theorem holdsG_history (cfg : Cfg) (tables : List (Nat × List Nat)) (ops : List Op) :
    HoldsG cfg (storedSnaps cfg (init cfg tables) ops) (run cfg (init cfg tables) ops) := by
  have h := holdsG_run (holdsG_init cfg tables) ops
  simpa using h

/-! #### reporters that never raise -/

/-- no reporter of the dictionaries ever raises (the domain of C12's quantifier) -/
structure Total (cfg : Cfg) : Prop where
  m : ∀ r ∈ cfg.mreps, ∀ sn, r.exc sn = none
  a : ∀ r ∈ cfg.areps, ∀ sn ag, r.exc sn ag = none
  t : ∀ x ∈ cfg.treps, ∀ r ∈ x.2, ∀ sn ag, r.exc sn ag = none

theorem complete_of_total {cfg : Cfg} (hT : Total cfg) (sn : Snap) : mOk cfg sn = true ∧ complete cfg sn = true := by
  have h1 : mOk cfg sn = true := (mOk_iff cfg sn).mpr fun r hr => (passes_iff r sn).mpr (hT.m r hr sn)
  have h2 : aOk cfg sn = true := by
    simp only [aOk, Option.isNone_iff_eq_none, rowsExc_eq_none_iff]
    exact fun ag _ r hr => hT.a r hr sn ag
  exact ⟨h1, by simp [complete, h1, h2]⟩

/-- what the DataCollector holds is a function of the stored snapshots (reporters that never raise) -/
structure Holds (cfg : Cfg) (snaps : List Snap) (s : State) : Prop where
  types : TypesInv s
  modelVars : s.modelVars = cfg.mreps.map fun r => snaps.map r.eval
  collSteps : s.collSteps = snaps.map (·.steps)
  records : s.records = if cfg.areps.isEmpty then [] else assign (·.steps) (agentRows cfg) snaps
  typeRecords : s.typeRecords = if cfg.treps.isEmpty then [] else assign (·.steps) (typeDict cfg) snaps
  stepsLe : ∀ sn ∈ snaps, sn.steps ≤ s.steps
  sorted : (snaps.map (·.steps)).Pairwise (· ≤ ·)

theorem Holds.records_of_ne {cfg : Cfg} {snaps : List Snap} {s : State} (h : Holds cfg snaps s) (hne : cfg.areps ≠ []) :
    s.records = assign (·.steps) (agentRows cfg) snaps := by
  rw [h.records, if_neg (by simpa using hne)]

theorem Holds.typeRecords_of_ne {cfg : Cfg} {snaps : List Snap} {s : State} (h : Holds cfg snaps s)
    (hne : cfg.treps ≠ []) : s.typeRecords = assign (·.steps) (typeDict cfg) snaps := by
  rw [h.typeRecords, if_neg (by simpa using hne)]

theorem holds_of_holdsG {cfg : Cfg} (hT : Total cfg) {snaps : List Snap} {s : State} (h : HoldsG cfg snaps s) :
    Holds cfg snaps s := by
  have hf1 : snaps.filter (mOk cfg) = snaps := by
    rw [List.filter_eq_self]; intro sn _; exact (complete_of_total hT sn).1
  have hf2 : snaps.filter (complete cfg) = snaps := by
    rw [List.filter_eq_self]; intro sn _; exact (complete_of_total hT sn).2
  refine ⟨h.types, ?_, ?_, ?_, ?_, h.stepsLe, h.sorted⟩
  · rw [h.modelVars, colsOf_all_pass _ _ fun sn _ r hr => (passes_iff r sn).mpr (hT.m r hr sn)]
  · rw [h.collSteps, hf1]
  · rw [h.records, hf2]
  · rw [h.typeRecords, hf2]

theorem holds_history {cfg : Cfg} (hT : Total cfg) (tables : List (Nat × List Nat)) (ops : List Op) :
    Holds cfg (storedSnaps cfg (init cfg tables) ops) (run cfg (init cfg tables) ops) :=
  holds_of_holdsG hT (holdsG_history cfg tables ops)


/-! ### tables -/

def TabHolds (rows : Nat → List (List (Nat × Val))) (s : State) : Prop :=
  ∀ t tab, s.tables.lookup t = some tab → ∀ cv ∈ tab, cv.2 = (rows t).map (cell cv.1)

theorem apply_tables_frame (cfg : Cfg) (s : State) (op : Op) :
    (∃ t r ign, op = .row t r ign) ∨ ((∀ t, rowOf s t op = []) ∧ (apply cfg s op).1.tables = s.tables) := by
  rcases apply_cases cfg s op with rfl | h | ⟨_, hro, e⟩
  · exact .inr ⟨fun _ => rfl, by rw [apply, collect_frame]⟩
  · exact .inl h
  · exact .inr ⟨hro, by rw [e]⟩

theorem tabHolds_apply {cfg : Cfg} {rows : Nat → List (List (Nat × Val))} {s : State} (h : TabHolds rows s) (op : Op) :
    TabHolds (fun t => rows t ++ rowOf s t op) (apply cfg s op).1 := by
  rcases apply_tables_frame cfg s op with ⟨t, r, ign, rfl⟩ | ⟨hro, e⟩
  · intro t' tab' hl cv hcv
    simp only [apply, rowOf] at hl ⊢
    rcases addTableRow_cases s t r ign with ⟨e, he⟩ | ⟨tab, hlt, he⟩ <;> rw [he] at hl ⊢
    · simp only [reduceCtorEq, and_false, if_false, List.append_nil]
      exact h t' tab' hl cv hcv
    · simp only [and_true, lookup_setKey] at hl ⊢
      by_cases htt : t' = t
      · subst htt
        simp only [if_true, Option.some.injEq] at hl
        subst hl
        obtain ⟨cv0, hm, rfl⟩ := List.mem_map.mp hcv
        simp [h t' tab hlt cv0 hm]
      · simp only [htt, if_false] at hl
        simp only [Ne.symm htt, if_false, List.append_nil]
        exact h t' tab' hl cv hcv
  · simp only [hro, List.append_nil]
    rw [TabHolds, e]
    exact h

theorem tabHolds_run {cfg : Cfg} {rows : Nat → List (List (Nat × Val))} {s : State} (h : TabHolds rows s)
    (ops : List Op) : TabHolds (fun t => rows t ++ acceptedRows cfg t s ops) (run cfg s ops) := by
  induction ops generalizing rows s with
  | nil => simpa [acceptedRows, run] using h
  | cons op rest ih =>
    have := ih (tabHolds_apply (cfg := cfg) h op)
    simpa [acceptedRows, run, List.append_assoc] using this

theorem init_tables (cfg : Cfg) (tables : List (Nat × List Nat)) :
    (init cfg tables).tables = assign (·.1) (fun x => assign id (fun _ => []) x.2) tables := rfl

theorem tabHolds_init (cfg : Cfg) (tables : List (Nat × List Nat)) : TabHolds (fun _ => []) (init cfg tables) := by
  intro t tab hl cv hcv
  obtain ⟨x, _, e⟩ := mem_assign _ _ _ _ (mem_of_lookup (init_tables cfg tables ▸ hl))
  cases e
  obtain ⟨c, _, rfl⟩ := mem_assign _ _ _ cv hcv
  rfl

theorem tableFrame_of_tabHolds {rows : Nat → List (List (Nat × Val))} {s : State} (h : TabHolds rows s) (t : Nat) :
    tableFrame s t = .error .unknown ∨ ∃ tab, s.tables.lookup t = some tab ∧
      tableFrame s t = .ok ((if tab = [] then 0 else (rows t).length), tab) := by
  unfold tableFrame
  cases hl : s.tables.lookup t with
  | none => exact Or.inl rfl
  | some tab =>
    refine Or.inr ⟨tab, rfl, ?_⟩
    simp only []
    by_cases he : tab = []
    · subst he; simp [rect]
    · rw [rect_of_lengths _ (rows t).length]
      · simp [he]
      · intro c hc
        obtain ⟨cv, hm, rfl⟩ := List.mem_map.mp hc
        rw [h t tab hl cv hm]; simp
      · simpa using he

theorem init_tables_known (cfg : Cfg) (tables : List (Nat × List Nat)) (t : Nat) :
    ((init cfg tables).tables.lookup t).isSome = tables.any (·.1 == t) := by
  rw [init_tables, lookup_assign, Option.isSome_map, lastWith_isSome]

theorem apply_tables_known (cfg : Cfg) (s : State) (op : Op) (t : Nat) :
    ((apply cfg s op).1.tables.lookup t).isSome = (s.tables.lookup t).isSome := by
  rcases apply_tables_frame cfg s op with ⟨t', r, ign, rfl⟩ | ⟨_, e⟩
  · rw [apply]
    rcases addTableRow_cases s t' r ign with ⟨e, he⟩ | ⟨tab, hl, he⟩ <;> rw [he]
    simp only [lookup_setKey]
    split
    · subst_vars; rw [hl]; rfl
    · rfl
  · rw [e]

theorem run_tables_known (cfg : Cfg) (s : State) (ops : List Op) (t : Nat) :
    ((run cfg s ops).tables.lookup t).isSome = (s.tables.lookup t).isSome := by
  induction ops generalizing s with
  | nil => rfl
  | cons op ops ih =>
    have := ih (apply cfg s op).1
    simp only [run, List.foldl_cons] at this ⊢
    rw [this, apply_tables_known]

theorem tableFrame_unknown_iff (s : State) (t : Nat) : tableFrame s t = .error .unknown ↔ s.tables.lookup t = none := by
  unfold tableFrame
  cases hl : s.tables.lookup t with
  | none => simp
  | some tab =>
    simp only []
    cases rect (tab.map (·.2)) <;> simp

/-! ### rejected table rows (C18) -/

theorem addTableRow_reject_unchanged (s : State) (t : Nat) (r : List (Nat × Val)) (ign : Bool) (e : Err)
    (h : (addTableRow s t r ign).2 = some e) : (addTableRow s t r ign).1 = s := by
  rcases addTableRow_cases s t r ign with ⟨_, he⟩ | ⟨_, _, he⟩ <;> rw [he] at h ⊢
  cases h

def rejectedRow (cfg : Cfg) (s : State) : Op → Bool
  | .row t r ign => ((apply cfg s (.row t r ign)).2).isSome
  | _ => false

/-- the history with the rejected `add_table_row` calls deleted -/
def dropRejectedRows (cfg : Cfg) : State → List Op → List Op
  | _, [] => []
  | s, op :: rest => (if rejectedRow cfg s op then [] else [op]) ++ dropRejectedRows cfg (apply cfg s op).1 rest

theorem apply_of_rejectedRow {cfg : Cfg} {s : State} {op : Op} (hr : rejectedRow cfg s op = true) :
    (apply cfg s op).1 = s := by
  cases op with
  | row t r ign =>
    obtain ⟨e, he⟩ := Option.isSome_iff_exists.mp hr
    exact addTableRow_reject_unchanged s t r ign e he
  | _ => cases hr

theorem run_dropRejectedRows (cfg : Cfg) (s : State) (ops : List Op) :
    run cfg s (dropRejectedRows cfg s ops) = run cfg s ops := by
  induction ops generalizing s with
  | nil => rfl
  | cons op rest ih =>
    rw [dropRejectedRows]
    by_cases hr : rejectedRow cfg s op = true
    · rw [if_pos hr, List.nil_append]
      show _ = run cfg (apply cfg s op).1 rest
      rw [apply_of_rejectedRow hr]
      exact ih s
    · rw [if_neg hr]
      exact ih _

/-! ### agent-type dictionaries -/

/-- the key is usable (`_record_agenttype` finds agents for it) and none of its reporters raises on them -/
def KeyOk (cfg : Cfg) (sn : Snap) (x : Nat × List ARep) : Prop :=
  ∃ ags, classAgents cfg sn x.1 = some ags ∧ rowsExc x.2 sn ags = none

theorem classAgents_of_agentClass (cfg : Cfg) (sn : Snap) (T : Nat) (hA : cfg.isAgentClass T = true) :
    ∃ ags, classAgents cfg sn T = some ags ∧ ∀ a ∈ ags, a ∈ sn.agents := by
  rw [classAgents, if_pos hA]
  split
  · exact ⟨_, rfl, fun a ha => (List.mem_filter.mp ((byCreation_perm _).mem_iff.mp ha)).1⟩
  · exact ⟨_, rfl, fun a ha => (List.mem_filter.mp ha).1⟩

theorem keyOk_of_agentClass {cfg : Cfg} {sn : Snap} {x : Nat × List ARep} (hA : cfg.isAgentClass x.1 = true)
    (hx : ∀ r ∈ x.2, ∀ ag ∈ sn.agents, r.exc sn ag = none) : KeyOk cfg sn x := by
  obtain ⟨ags, hc, hsub⟩ := classAgents_of_agentClass cfg sn x.1 hA
  exact ⟨ags, hc, (rowsExc_eq_none_iff _ _ _).mpr fun ag hag r hr => hx r hr ag (hsub ag hag)⟩

theorem typeLoopS_of_keyOk (cfg : Cfg) (sn : Snap) (l : List (Nat × List ARep)) (acc : List (Nat × List Row))
    (hk : ∀ x ∈ l, KeyOk cfg sn x) :
    typeLoopS cfg sn l acc =
      (l.foldl (fun acc x => setKey x.1 (((classAgents cfg sn x.1).getD []).map (mkRow x.2 sn)) acc) acc, none) := by
  induction l generalizing acc with
  | nil => rfl
  | cons x xs ih =>
    obtain ⟨T, reps⟩ := x
    obtain ⟨ags, hc, hr⟩ := hk (T, reps) List.mem_cons_self
    simp only at hc hr
    rw [typeLoopS]
    simp only [hc, hr, List.foldl_cons, Option.getD_some]
    exact ih _ fun y hy => hk y (List.mem_cons_of_mem _ hy)

theorem typeLoopS_ok (cfg : Cfg) (sn : Snap) (l : List (Nat × List ARep)) (acc : List (Nat × List Row))
    (hk : ∀ x ∈ l, KeyOk cfg sn x) : (typeLoopS cfg sn l acc).2 = none := by
  rw [typeLoopS_of_keyOk cfg sn l acc hk]

theorem typeDict_lookup (cfg : Cfg) (sn : Snap) (hk : ∀ x ∈ cfg.treps, KeyOk cfg sn x)
    (hnd : (cfg.treps.map (·.1)).Nodup) {T : Nat} {reps : List ARep} (h : cfg.treps.lookup T = some reps) :
    (typeDict cfg sn).lookup T = (classAgents cfg sn T).map (·.map (mkRow reps sn)) := by
  obtain ⟨ags, hc, _⟩ := hk (T, reps) (mem_of_lookup h)
  simp only at hc
  rw [typeDict, typeLoopS_of_keyOk _ _ _ _ hk]
  show (assign (·.1) (fun x => ((classAgents cfg sn x.1).getD []).map (mkRow x.2 sn)) cfg.treps).lookup
    (T, reps).1 = _
  rw [lookup_assign_of_nodup _ _ _ hnd (mem_of_lookup h), hc]
  rfl

/-- for the keys C12 quantifies over, `_record_agenttype` looks at exactly the agents of that class: in creation
    order when the class has direct instances (`agents_by_type[T]`), in the current order of `model.agents` when it
    has none (a base class: `isinstance` filter over `model.agents`) -/
theorem classAgents_members (cfg : Cfg) (sn : Snap) (T : Nat) (hA : cfg.isAgentClass T = true)
    (hrefl : ∀ c, cfg.isSub c c = true)
    (hq : (∀ a ∈ sn.agents, cfg.isSub a.ty T = true → a.ty = T) ∨ (∀ a ∈ sn.agents, a.ty ≠ T)) :
    classAgents cfg sn T = some (if sn.agents.any (fun a => a.ty == T)
      then byCreation (sn.agents.filter fun a => cfg.isSub a.ty T) else sn.agents.filter fun a => cfg.isSub a.ty T) := by
  unfold classAgents
  by_cases ha : sn.agents.any (fun a => a.ty == T) = true
  · rcases hq with hq | hq
    · simp only [ha, if_true, Option.some.injEq]
      congr 1
      apply List.filter_congr
      intro a hm
      by_cases hs : cfg.isSub a.ty T = true
      · simp [hq a hm hs, hrefl]
      · have : a.ty ≠ T := fun e => hs (e ▸ hrefl _)
        simp [hs, this]
    · obtain ⟨a, hm, ht⟩ := List.any_eq_true.mp ha
      exact absurd (by simpa using ht) (hq a hm)
  · simp [ha, hA]

/-! ### the order of `model.agents`: creation order until it is reordered in place -/

/-- ids strictly ascending = creation order -/
def IdSorted (l : List AgentS) : Prop := l.Pairwise fun a b => a.id < b.id

theorem byCreation_of_idSorted {l : List AgentS} (h : IdSorted l) : byCreation l = l := by
  unfold byCreation
  apply sortStable_of_pairwise
  exact h.imp (fun hab => by simp; omega)

theorem byCreation_sorted (l : List AgentS) : (byCreation l).Pairwise fun a b => a.id ≤ b.id := by
  unfold byCreation
  have := sortStable_pairwise (le := fun (x y : AgentS) => decide (x.id ≤ y.id))
    (fun a b c hab hbc => by simp at *; omega) (fun a b => by simp; omega) l
  exact this.imp (fun h => by simpa using h)

def IdsInv (s : State) : Prop := (s.agents.map (·.id)).Nodup ∧ ∀ i ∈ s.agents.map (·.id), i < s.nextId

theorem RegStep.ids {op : Op} {s s' : State} (h : RegStep op s s') :
    (s'.agents.map (·.id) = s.agents.map (·.id) ++ [s.nextId] ∧ s'.nextId = s.nextId + 1) ∨
    (s'.nextId = s.nextId ∧ ((s'.agents.map (·.id)).Sublist (s.agents.map (·.id)) ∨
      (noReorder op = false ∧ (s'.agents.map (·.id)).Perm (s.agents.map (·.id))))) := by
  rcases h with ⟨a, ha, hid, hn, _, _⟩ | ⟨hn, _, hsub | ⟨hno, hp⟩⟩
  · exact .inl ⟨by simp [ha, hid], hn⟩
  · have := hsub.map Prod.fst
    rw [List.map_map, List.map_map] at this
    exact .inr ⟨hn, .inl this⟩
  · exact .inr ⟨hn, .inr ⟨hno, hp.map _⟩⟩

theorem RegStep.idsInv {op : Op} {s s' : State} (h : RegStep op s s') (hi : IdsInv s) : IdsInv s' := by
  obtain ⟨hnd, hlt⟩ := hi
  unfold IdsInv
  rcases h.ids with ⟨e, hn⟩ | ⟨hn, hsub | ⟨_, hp⟩⟩ <;> rw [hn]
  · rw [e]
    refine ⟨List.nodup_append.mpr ⟨hnd, by simp, ?_⟩, ?_⟩
    · intro i hi j hj
      have := hlt i hi
      simp only [List.mem_singleton] at hj
      omega
    · intro i hi
      rcases List.mem_append.mp hi with hi | hi
      · have := hlt i hi; omega
      · simp only [List.mem_singleton] at hi; omega
  · exact ⟨hsub.nodup hnd, fun i hi => hlt i (hsub.subset hi)⟩
  · exact ⟨hp.nodup_iff.mpr hnd, fun i hi => hlt i (hp.subset hi)⟩

theorem run_idsInv (cfg : Cfg) (s : State) (ops : List Op) (h : IdsInv s) : IdsInv (run cfg s ops) := by
  induction ops generalizing s with
  | nil => exact h
  | cons op ops ih => exact ih _ ((apply_regStep cfg s op).idsInv h)

theorem RegStep.idSorted {op : Op} {s s' : State} (h : RegStep op s s') (hop : noReorder op = true) (hi : IdsInv s)
    (hs : IdSorted s.agents) : IdSorted s'.agents := by
  have onIds : ∀ l : List AgentS, IdSorted l ↔ (l.map (·.id)).Pairwise (· < ·) := fun _ => List.pairwise_map.symm
  rw [onIds] at hs ⊢
  rcases h.ids with ⟨e, _⟩ | ⟨_, hsub | ⟨hno, _⟩⟩
  · rw [e, List.pairwise_append]
    -- the new id is `nextId`, above every id handed out
    refine ⟨hs, by simp, fun i hm j hj => ?_⟩
    rw [List.mem_singleton.mp hj]; exact hi.2 i hm
  · exact hs.sublist hsub
  · rw [hop] at hno; cases hno

theorem run_idSorted (cfg : Cfg) (s : State) (ops : List Op) (hops : ∀ op ∈ ops, noReorder op = true)
    (hi : IdsInv s) (hs : IdSorted s.agents) : IdSorted (run cfg s ops).agents := by
  induction ops generalizing s with
  | nil => exact hs
  | cons op ops ih =>
    have h := apply_regStep cfg s op
    exact ih _ (fun o ho => hops o (by simp [ho])) (h.idsInv hi) (h.idSorted (hops op (by simp)) hi hs)

end Mesa.Collect
