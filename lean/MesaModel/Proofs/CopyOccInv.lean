import MesaModel.Proofs.CopyOcc
/-!
The occupancy invariant of `Model/CopyOcc.lean` and its preservation by every operation, copies included:
the mirror between `agent.cell` and the cells' agent lists, capacities, closure of every space under its pointers,
no object in two spaces.
-/
namespace Mesa.CopyOcc

structure Inv (w : World) : Prop where
  cellsLt : ∀ c cr, w.cells c = some cr → c < w.next
  agentsLt : ∀ a ar, w.agents a = some ar → a < w.next
  /-- a cell lists no agent twice -/
  nodup : ∀ c cr, w.cells c = some cr → cr.agents.Nodup
  /-- the cell an agent points to lists it -/
  mirror1 : ∀ a ar c, w.agents a = some ar → ar.cell = some c → ∃ cr, w.cells c = some cr ∧ a ∈ cr.agents
  /-- an agent listed by a cell points to it -/
  mirror2 : ∀ c cr a, w.cells c = some cr → a ∈ cr.agents → ∃ ar, w.agents a = some ar ∧ ar.cell = some c
  capOk : ∀ c cr k, w.cells c = some cr → cr.cap = some k → cr.agents.length ≤ k
  /-- no cell belongs to two spaces -/
  disj : ∀ s s' sr sr' c, w.spaces s = some sr → w.spaces s' = some sr' → c ∈ sr.cells → c ∈ sr'.cells → s = s'
  /-- the cells of a space exist, are connected to cells of that space only, use its generator and (grids) its cell class -/
  connIn : ∀ s sr c, w.spaces s = some sr → c ∈ sr.cells →
    ∃ cr, w.cells c = some cr ∧ (∀ d ∈ cr.conn, d ∈ sr.cells) ∧ cr.rnd = s ∧ ∀ k, cr.klass = some k → k = s
  /-- the agents registered in a space's model exist, know it as their model, and point to cells of that space only -/
  regIn : ∀ s sr a, w.spaces s = some sr → a ∈ sr.reg →
    ∃ ar, w.agents a = some ar ∧ ar.home = s ∧ ∀ c, ar.cell = some c → c ∈ sr.cells
  /-- every agent is registered in its model -/
  homeReg : ∀ a ar, w.agents a = some ar → ∃ sr, w.spaces ar.home = some sr ∧ a ∈ sr.reg
  regNodup : ∀ s sr, w.spaces s = some sr → sr.reg.Nodup

theorem Inv.init : Inv Mesa.CopyOcc.init :=
  ⟨fun _ _ h => (nomatch h), fun _ _ h => (nomatch h), fun _ _ h => (nomatch h), fun _ _ _ h => (nomatch h),
    fun _ _ _ h => (nomatch h), fun _ _ _ h => (nomatch h), fun _ _ _ _ _ h => (nomatch h), fun _ _ _ h => (nomatch h),
    fun _ _ _ h => (nomatch h), fun _ _ h => (nomatch h), fun _ _ h => (nomatch h)⟩

variable {w : World}

theorem inSpace_iff {s c : Nat} : inSpace w s c = true ↔ ∃ sr, w.spaces s = some sr ∧ c ∈ sr.cells := by
  unfold inSpace
  cases w.spaces s <;> simp

/-- the clauses of `Inv` sorted by the object they speak of, so that a proof splits cases once per cell, agent and space -/
theorem Inv.of_objects
    (hc : ∀ c cr, w.cells c = some cr → c < w.next ∧ cr.agents.Nodup ∧ (∀ k, cr.cap = some k → cr.agents.length ≤ k) ∧
      ∀ a ∈ cr.agents, ∃ ar, w.agents a = some ar ∧ ar.cell = some c)
    (ha : ∀ a ar, w.agents a = some ar → a < w.next ∧
      (∀ c, ar.cell = some c → ∃ cr, w.cells c = some cr ∧ a ∈ cr.agents) ∧ ∃ sr, w.spaces ar.home = some sr ∧ a ∈ sr.reg)
    (hs : ∀ s sr, w.spaces s = some sr →
      (∀ c ∈ sr.cells, ∃ cr, w.cells c = some cr ∧ (∀ d ∈ cr.conn, d ∈ sr.cells) ∧ cr.rnd = s ∧ ∀ k, cr.klass = some k → k = s) ∧
      (∀ a ∈ sr.reg, ∃ ar, w.agents a = some ar ∧ ar.home = s ∧ ∀ c, ar.cell = some c → c ∈ sr.cells) ∧ sr.reg.Nodup)
    (hd : ∀ s s' sr sr' c, w.spaces s = some sr → w.spaces s' = some sr' → c ∈ sr.cells → c ∈ sr'.cells → s = s') : Inv w :=
  ⟨fun c cr h => (hc c cr h).1, fun a ar h => (ha a ar h).1, fun c cr h => (hc c cr h).2.1,
    fun a ar c h => (ha a ar h).2.1 c, fun c cr a h => (hc c cr h).2.2.2 a, fun c cr k h => (hc c cr h).2.2.1 k, hd,
    fun s sr c h => (hs s sr h).1 c, fun s sr a h => (hs s sr h).2.1 a, fun a ar h => (ha a ar h).2.2,
    fun s sr h => (hs s sr h).2.2⟩

/-! ### one agent's pointer and one cell's list change together -/

/-- leaving a cell and entering one are both of this form: cell `c` gets the agent list `l`, agent `a` the pointer `p` -/
theorem Inv.retarget (hi : Inv w) {a c : Nat} {ar : AgentRec} {cr : CellRec} (har : w.agents a = some ar)
    (hcr : w.cells c = some cr) {l : List Nat} {p : Option Nat} (hnd : l.Nodup)
    (hcap : ∀ k, cr.cap = some k → l.length ≤ k)
    (hmem : ∀ x, x ∈ l ↔ (x ≠ a ∧ x ∈ cr.agents) ∨ (x = a ∧ p = some c))
    (hold : ∀ d, ar.cell = some d → d = c)
    (hp : ∀ d, p = some d → d = c ∧ inSpace w ar.home c = true) :
    Inv { w with cells := upd w.cells c { cr with agents := l }, agents := upd w.agents a { ar with cell := p } } := by
  refine Inv.of_objects (fun c' cr' h => ?_) (fun x xr h => ?_) (fun s sr hs => ⟨fun c' hc => ?_, fun x hx => ?_, hi.regNodup s sr hs⟩)
    hi.disj
  · rcases upd_cases h with ⟨rfl, rfl⟩ | ⟨hne, h⟩
    · refine ⟨hi.cellsLt _ _ hcr, hnd, hcap, fun x hx => ?_⟩
      rcases (hmem _).mp hx with ⟨hxa, hx⟩ | ⟨rfl, hpc⟩
      · obtain ⟨xr, hxr, hxc⟩ := hi.mirror2 _ cr x hcr hx
        exact ⟨xr, (upd_ne _ _ hxa).trans hxr, hxc⟩
      · exact ⟨_, upd_same _ _ _, hpc⟩
    · refine ⟨hi.cellsLt _ _ h, hi.nodup _ _ h, fun k => hi.capOk _ _ k h, fun x hx => ?_⟩
      obtain ⟨xr, hxr, hxc⟩ := hi.mirror2 c' cr' x h hx
      rcases upd_of_some { ar with cell := p } har hxr with ⟨_, rfl, _⟩ | ⟨_, h'⟩
      · exact absurd (hold c' hxc) hne
      · exact ⟨_, h', hxc⟩
  · rcases upd_cases h with ⟨rfl, rfl⟩ | ⟨hne, h⟩
    · refine ⟨hi.agentsLt _ _ har, fun c' hc => ?_, hi.homeReg _ ar har⟩
      obtain ⟨rfl, _⟩ := hp c' hc
      exact ⟨_, upd_same _ _ _, (hmem _).mpr (Or.inr ⟨rfl, hc⟩)⟩
    · refine ⟨hi.agentsLt _ _ h, fun c' hc => ?_, hi.homeReg _ _ h⟩
      obtain ⟨cr', hcr', hx⟩ := hi.mirror1 x xr c' h hc
      rcases upd_of_some { cr with agents := l } hcr hcr' with ⟨_, rfl, h'⟩ | ⟨_, h'⟩
      · exact ⟨_, h', (hmem _).mpr (Or.inl ⟨hne, hx⟩)⟩
      · exact ⟨_, h', hx⟩
  · obtain ⟨cr', hcr', hconn⟩ := hi.connIn s sr c' hs hc
    rcases upd_of_some { cr with agents := l } hcr hcr' with ⟨_, rfl, h'⟩ | ⟨_, h'⟩
    · exact ⟨_, h', hconn⟩
    · exact ⟨_, h', hconn⟩
  · obtain ⟨xr, hxr, hh, hcell⟩ := hi.regIn s sr x hs hx
    rcases upd_of_some { ar with cell := p } har hxr with ⟨_, rfl, h'⟩ | ⟨_, h'⟩
    · refine ⟨_, h', hh, fun d hd => ?_⟩
      obtain ⟨rfl, hin⟩ := hp d hd
      obtain ⟨sr0, hsr0, hc0⟩ := inSpace_iff.mp hin
      rw [hh, hs] at hsr0
      cases hsr0
      exact hc0
    · exact ⟨_, h', hh, hcell⟩

/-! ### `agent.cell = None` -/

theorem Inv.unplaceRec (hi : Inv w) {a : Nat} {ar : AgentRec} (har : w.agents a = some ar) : Inv (unplaceRec w a ar) := by
  unfold Mesa.CopyOcc.unplaceRec
  split
  · exact hi
  rename_i o ho
  obtain ⟨cr, hcr, _⟩ := hi.mirror1 a ar o har ho
  have hnd := hi.nodup o cr hcr
  simp only [leave, hcr]
  refine hi.retarget har hcr (hnd.erase a) (fun k hk => ?_) (fun x => ?_)
    (fun d hd => Option.some.inj (hd.symm.trans ho)) (fun d hd => nomatch hd)
  · exact Nat.le_trans List.length_erase_le (hi.capOk o cr k hcr hk)
  · rw [hnd.mem_erase_iff]
    simp

theorem Inv.unplace (hi : Inv w) (a : Nat) : Inv (unplace w a) := by
  unfold Mesa.CopyOcc.unplace
  split
  · exact hi
  · rename_i ar har
    exact hi.unplaceRec har

theorem unplace_agent {a : Nat} {ar : AgentRec} (har : w.agents a = some ar) :
    (unplace w a).agents a = some { ar with cell := none } := by
  simp only [unplace, har, unplaceRec]
  split
  · rename_i h
    rw [har]
    cases ar
    cases h
    rfl
  · exact upd_same ..

theorem unplace_cell {a c : Nat} {ar : AgentRec} {cr : CellRec} (har : w.agents a = some ar) (hcr : w.cells c = some cr) :
    (unplace w a).cells c = some (if ar.cell = some c then { cr with agents := cr.agents.erase a } else cr) := by
  simp only [unplace, har, unplaceRec]
  cases ho : ar.cell with
  | none => simp [hcr]
  | some o =>
    by_cases hco : o = c
    · subst hco
      simp [leave, hcr]
    · simp [leave_ne w a o (Ne.symm hco), hco, hcr]

theorem Inv.place (hi : Inv w) {a c : Nat} {ar : AgentRec} {cr : CellRec} (har : w.agents a = some ar)
    (hnone : ar.cell = none) (hcr : w.cells c = some cr) (hroom : full cr = false)
    (hin : inSpace w ar.home c = true) : Inv (place w a c) := by
  simp only [Mesa.CopyOcc.place, har, hcr]
  have hnot : a ∉ cr.agents := by
    intro h
    obtain ⟨xr, hxr, hxc⟩ := hi.mirror2 c cr a hcr h
    rw [har] at hxr
    cases hxr
    rw [hnone] at hxc
    cases hxc
  refine hi.retarget har hcr ?_ (fun k hk => ?_) (fun x => ?_) (fun d hd => ?_)
    (fun d hd => ⟨(Option.some.inj hd).symm, hin⟩)
  · refine List.nodup_append.mpr ⟨hi.nodup _ _ hcr, by simp, fun x hx y hy => ?_⟩
    rw [List.mem_singleton.mp hy]
    rintro rfl
    exact hnot hx
  · simp only [full, capFull, hk, decide_eq_false_iff_not] at hroom
    simp only [List.length_append, List.length_singleton]
    omega
  · simp only [List.mem_append, List.mem_singleton, and_true]
    constructor
    · rintro (h | h)
      · exact Or.inl ⟨fun e => hnot (e ▸ h), h⟩
      · exact Or.inr h
    · rintro (⟨_, h⟩ | h)
      · exact Or.inl h
      · exact Or.inr h
  · rw [hnone] at hd
    cases hd

/-! ### an unplaced agent is registered or deregistered -/

/-- registering a new agent and deregistering one are both of this form: the registry of `s` and the agent map change in the
    one agent `a` only, which belongs to `s` and is in no cell -/
theorem Inv.setReg (hi : Inv w) {s a n : Nat} {sr : SpaceRec} (hsr : w.spaces s = some sr) {l : List Nat}
    {ag : Nat → Option AgentRec} {ids : Nat → Option Nat} (hn : w.next ≤ n)
    (hag : ∀ x, x ≠ a → ag x = w.agents x) (hl : ∀ x, x ≠ a → (x ∈ l ↔ x ∈ sr.reg)) (hnd : l.Nodup)
    (hold : ∀ xr, w.agents a = some xr → xr.cell = none ∧ xr.home = s)
    (hnew : ∀ xr, ag a = some xr → a < n ∧ xr.cell = none ∧ xr.home = s ∧ a ∈ l)
    (hal : a ∈ l → ∃ xr, ag a = some xr) :
    Inv { w with next := n, agents := ag, spaces := upd w.spaces s { sr with reg := l }, ids := ids } := by
  have hsp : ∀ {i sr'}, upd w.spaces s { sr with reg := l } i = some sr' →
      ∃ sr0, w.spaces i = some sr0 ∧ sr'.cells = sr0.cells := by
    intro i sr' h
    rcases upd_cases h with ⟨rfl, rfl⟩ | ⟨_, h⟩
    · exact ⟨sr, hsr, rfl⟩
    · exact ⟨sr', h, rfl⟩
  refine Inv.of_objects (fun c cr h => ?_) (fun x xr h => ?_) (fun s1 sr1 h1 => ?_) ?_
  · -- a listed agent is placed, so it is not `a`
    refine ⟨Nat.lt_of_lt_of_le (hi.cellsLt c cr h) hn, hi.nodup c cr h, fun k => hi.capOk c cr k h, fun x hx => ?_⟩
    obtain ⟨xr, hxr, hxc⟩ := hi.mirror2 c cr x h hx
    have hxa : x ≠ a := by
      rintro rfl
      rw [(hold xr hxr).1] at hxc
      cases hxc
    exact ⟨xr, (hag x hxa).trans hxr, hxc⟩
  · by_cases hxa : x = a
    · subst hxa
      obtain ⟨hlt, hc, hh, hx⟩ := hnew xr h
      refine ⟨hlt, fun c hc' => ?_, ?_⟩
      · rw [hc] at hc'
        cases hc'
      · rw [hh]
        exact ⟨_, upd_same _ _ _, hx⟩
    · have h0 := (hag x hxa).symm.trans h
      refine ⟨Nat.lt_of_lt_of_le (hi.agentsLt x xr h0) hn, fun c => hi.mirror1 x xr c h0, ?_⟩
      obtain ⟨sr0, hsr0, hx0⟩ := hi.homeReg x xr h0
      rcases upd_of_some { sr with reg := l } hsr hsr0 with ⟨_, rfl, h'⟩ | ⟨_, h'⟩
      · exact ⟨_, h', (hl x hxa).mpr hx0⟩
      · exact ⟨_, h', hx0⟩
  · rcases upd_cases h1 with ⟨rfl, rfl⟩ | ⟨hne, h1⟩
    · refine ⟨fun c hc => hi.connIn _ sr c hsr hc, fun x hx => ?_, hnd⟩
      by_cases hxa : x = a
      · subst hxa
        obtain ⟨xr, hxr⟩ := hal hx
        obtain ⟨_, hc, hh, _⟩ := hnew xr hxr
        exact ⟨xr, hxr, hh, fun c hc' => by rw [hc] at hc'; cases hc'⟩
      · obtain ⟨xr, hxr, hh, hcell⟩ := hi.regIn _ sr x hsr ((hl x hxa).mp hx)
        exact ⟨xr, (hag x hxa).trans hxr, hh, hcell⟩
    · refine ⟨fun c hc => hi.connIn s1 sr1 c h1 hc, fun x hx => ?_, hi.regNodup _ _ h1⟩
      -- an agent registered in another space is not `a`
      obtain ⟨xr, hxr, hh, hcell⟩ := hi.regIn s1 sr1 x h1 hx
      have hxa : x ≠ a := by
        rintro rfl
        exact hne (hh.symm.trans (hold xr hxr).2)
      exact ⟨xr, (hag x hxa).trans hxr, hh, hcell⟩
  · intro s1 s2 sr1 sr2 c h1 h2 hc1 hc2
    obtain ⟨sr1', h1', e1⟩ := hsp h1
    obtain ⟨sr2', h2', e2⟩ := hsp h2
    exact hi.disj s1 s2 sr1' sr2' c h1' h2' (e1 ▸ hc1) (e2 ▸ hc2)

/-- `agent.remove()` of an unplaced agent -/
theorem Inv.dereg (hi : Inv w) {a : Nat} {ar : AgentRec} (har : w.agents a = some ar) (hnone : ar.cell = none) :
    Inv (dereg w a ar.home) := by
  obtain ⟨sr, hsr, _⟩ := hi.homeReg a ar har
  have hnd := hi.regNodup _ sr hsr
  simp only [Mesa.CopyOcc.dereg, hsr]
  refine hi.setReg (a := a) hsr (Nat.le_refl _) (fun x hxa => if_neg hxa) (fun x hxa => List.mem_erase_of_ne hxa)
    (hnd.erase a) (fun xr hxr => ?_) (fun xr hxr => ?_) (fun h => ?_)
  · rw [har] at hxr
    cases hxr
    exact ⟨hnone, rfl⟩
  · simp at hxr
  · exact absurd rfl (hnd.mem_erase_iff.mp h).1

theorem Inv.newAgent (hi : Inv w) (hw : WF w) {s : Nat} {sr : SpaceRec} (hsr : w.spaces s = some sr) (uid : Nat) :
    Inv { w with next := w.next + 1, agents := upd w.agents w.next { cell := none, uid := uid, home := s },
                 spaces := upd w.spaces s { sr with reg := sr.reg ++ [w.next] }, ids := upd w.ids s uid } := by
  refine hi.setReg (a := w.next) hsr (Nat.le_succ _) (fun x hxa => upd_ne _ _ hxa) (fun x hxa => ?_) ?_
    (fun xr hxr => absurd (hi.agentsLt _ xr hxr) (Nat.lt_irrefl _)) (fun xr hxr => ?_) (fun _ => ⟨_, upd_same _ _ _⟩)
  · simp [hxa]
  · refine List.nodup_append.mpr ⟨hi.regNodup _ _ hsr, by simp, fun x hx y hy => ?_⟩
    rw [List.mem_singleton.mp hy]
    exact Nat.ne_of_lt ((hw.spacesLt s sr hsr).2.2 x hx)
  · rw [upd_same] at hxr
    cases hxr
    exact ⟨Nat.lt_succ_self _, rfl, rfl, by simp⟩

/-! ### a new space -/

theorem mem_connOf {base k : Nat} {pairs : List (Nat × Nat)} {i d : Nat} (h : d ∈ connOf base k pairs i) :
    ∃ j, j < k ∧ d = j + base := by
  simp only [connOf, List.mem_map, List.mem_filter, Bool.and_eq_true, decide_eq_true_eq] at h
  obtain ⟨p, ⟨_, hp⟩, rfl⟩ := h
  exact ⟨p.2, hp.2, rfl⟩

theorem Inv.newSpace (hi : Inv w) (hw : WF w) (k : Nat) (cap : Option Nat) (grid : Bool) (pairs : List (Nat × Nat)) :
    Inv (newSpace w k cap grid pairs).1 := by
  have hold : ∀ c cr, w.cells c = some cr → (Mesa.CopyOcc.newSpace w k cap grid pairs).1.cells c = some cr := fun c cr h =>
    (if_neg (by have := hi.cellsLt c cr h; omega)).trans h
  -- a cell of the new space is fresh, a cell of an old one is not
  have hside : ∀ s1 sr1 c, (Mesa.CopyOcc.newSpace w k cap grid pairs).1.spaces s1 = some sr1 → c ∈ sr1.cells →
      (s1 = w.next ∧ w.next < c) ∨ (w.spaces s1 = some sr1 ∧ c < w.next) := by
    intro s1 sr1 c h hc
    rcases upd_cases h with ⟨rfl, rfl⟩ | ⟨_, h⟩
    · obtain ⟨j, _, rfl⟩ := List.mem_map.mp hc
      exact Or.inl ⟨rfl, show w.next < j + (w.next + 1) by omega⟩
    · exact Or.inr ⟨h, (hw.spacesLt _ _ h).2.1 _ hc⟩
  refine Inv.of_objects (fun c cr h => ?_) (fun x xr h => ?_) (fun s1 sr1 h1 => ?_) ?_
  · rcases ite_some_cases h with ⟨hr, rfl⟩ | ⟨_, h⟩
    · exact ⟨hr.2, List.nodup_nil, fun _ _ => Nat.zero_le _, nofun⟩
    · have := hi.cellsLt c cr h
      exact ⟨show c < w.next + 1 + k by omega, hi.nodup c cr h, fun k' => hi.capOk c cr k' h, fun x => hi.mirror2 c cr x h⟩
  · have := hi.agentsLt x xr h
    refine ⟨show x < w.next + 1 + k by omega, fun c hc => ?_, ?_⟩
    · obtain ⟨cr, hcr, hx⟩ := hi.mirror1 x xr c h hc
      exact ⟨cr, hold c cr hcr, hx⟩
    · obtain ⟨sr0, hsr0, hx0⟩ := hi.homeReg x xr h
      exact ⟨sr0, (upd_ne _ _ (Nat.ne_of_lt (hw.spacesLt _ _ hsr0).1)).trans hsr0, hx0⟩
  · rcases upd_cases h1 with ⟨rfl, rfl⟩ | ⟨_, h1⟩
    · refine ⟨fun c hc => ?_, nofun, List.nodup_nil⟩
      obtain ⟨j, hj, rfl⟩ := List.mem_map.mp hc
      have hj := List.mem_range.mp hj
      have hr : w.next + 1 ≤ j + (w.next + 1) ∧ j + (w.next + 1) < w.next + 1 + k := by omega
      refine ⟨_, if_pos hr, fun d hd => ?_, rfl, fun k' hk' => ?_⟩
      · obtain ⟨j', hj', rfl⟩ := mem_connOf hd
        exact List.mem_map.mpr ⟨j', List.mem_range.mpr hj', rfl⟩
      · split at hk'
        · exact (Option.some.inj hk').symm
        · cases hk'
    · refine ⟨fun c hc => ?_, fun x => hi.regIn s1 sr1 x h1, hi.regNodup _ _ h1⟩
      obtain ⟨cr, hcr, hconn⟩ := hi.connIn s1 sr1 c h1 hc
      exact ⟨cr, hold c cr hcr, hconn⟩
  · intro s1 s2 sr1 sr2 c h1 h2 hc1 hc2
    rcases hside s1 sr1 c h1 hc1 with ⟨rfl, g1⟩ | ⟨h1, g1⟩ <;> rcases hside s2 sr2 c h2 hc2 with ⟨rfl, g2⟩ | ⟨h2, g2⟩
    · rfl
    · omega
    · omega
    · exact hi.disj _ _ _ _ c h1 h2 hc1 hc2

/-! ### the copy -/

theorem nodup_map_add {l : List Nat} (h : l.Nodup) (B : Nat) : (l.map (· + B)).Nodup := by
  rw [List.nodup_iff_pairwise_ne] at h ⊢
  exact h.map _ (fun a b hab => by omega)

theorem Inv.reg_rec (hi : Inv w) {s : Nat} {sr : SpaceRec} (hsr : w.spaces s = some sr) {x : Nat} (hx : x ∈ sr.reg)
    {xr : AgentRec} (hxr : w.agents x = some xr) : xr.home = s ∧ ∀ c, xr.cell = some c → c ∈ sr.cells := by
  obtain ⟨xr', hxr', h⟩ := hi.regIn s sr x hsr hx
  rw [hxr] at hxr'
  cases hxr'
  exact h

theorem Inv.listed_reg (hi : Inv w) {s : Nat} {sr : SpaceRec} (hsr : w.spaces s = some sr) {c : Nat} (hc : c ∈ sr.cells)
    {cr : CellRec} (hcr : w.cells c = some cr) {x : Nat} (hx : x ∈ cr.agents) : x ∈ sr.reg := by
  obtain ⟨xr, hxr, hxc⟩ := hi.mirror2 c cr x hcr hx
  obtain ⟨sr0, hsr0, hx0⟩ := hi.homeReg x xr hxr
  have := hi.disj s xr.home sr sr0 c hsr hsr0 hc ((hi.reg_rec hsr0 hx0 hxr).2 c hxc)
  subst this
  rw [hsr] at hsr0
  cases hsr0
  exact hx0

theorem Inv.copyWorld (hi : Inv w) (hw : WF w) {s : Nat} {sr : SpaceRec} (hsr : w.spaces s = some sr) :
    Inv (copyWorld w s sr) := by
  obtain ⟨hs0, hs1, hs2⟩ := hw.spacesLt s sr hsr
  -- a cell of the copy is fresh, a cell of an old space is not
  have hside : ∀ s1 sr1 c, (Mesa.CopyOcc.copyWorld w s sr).spaces s1 = some sr1 → c ∈ sr1.cells →
      (s1 = s + w.next ∧ w.next ≤ c) ∨ (w.spaces s1 = some sr1 ∧ c < w.next) := by
    intro s1 sr1 c h hc
    rcases copyWorld_spaces_cases s sr h with ⟨_, h⟩ | ⟨rfl, rfl⟩
    · exact Or.inr ⟨h, (hw.spacesLt _ _ h).2.1 _ hc⟩
    · obtain ⟨c0, _, rfl⟩ := List.mem_map.mp hc
      exact Or.inl ⟨rfl, Nat.le_add_left ..⟩
  refine Inv.of_objects (fun c cr h => ?_) (fun x xr h => ?_) (fun s1 sr1 h1 => ?_) ?_
  · rw [copyWorld_next]
    rcases copyWorld_cells_cases s sr h with ⟨hlt, h⟩ | ⟨c0, cr0, rfl, hc0, hcr0, rfl⟩
    · refine ⟨by omega, hi.nodup _ _ h, fun k => hi.capOk _ _ k h, fun x hx => ?_⟩
      obtain ⟨xr, hxr, hxc⟩ := hi.mirror2 c cr x h hx
      exact ⟨xr, (copyWorld_agents_old s sr (hi.agentsLt _ _ hxr)).trans hxr, hxc⟩
    · have := hs1 c0 hc0
      refine ⟨by omega, nodup_map_add (hi.nodup _ _ hcr0) _,
        fun k hk => (List.length_map _).symm ▸ hi.capOk _ _ k hcr0 hk, fun x hx => ?_⟩
      obtain ⟨x0, hx0, rfl⟩ := List.mem_map.mp hx
      obtain ⟨xr0, hxr0, hxc0⟩ := hi.mirror2 c0 cr0 x0 hcr0 hx0
      exact ⟨_, copyWorld_agents_of_mem s sr (hi.listed_reg hsr hc0 hcr0 hx0) hxr0,
        congrArg (Option.map (· + w.next)) hxc0⟩
  · rw [copyWorld_next]
    rcases copyWorld_agents_cases s sr h with ⟨hlt, h⟩ | ⟨x0, xr0, rfl, hx0, hxr0, rfl⟩
    · refine ⟨by omega, fun c hc => ?_, ?_⟩
      · obtain ⟨cr, hcr, hx⟩ := hi.mirror1 x xr c h hc
        exact ⟨cr, (copyWorld_cells_old s sr (hi.cellsLt _ _ hcr)).trans hcr, hx⟩
      · obtain ⟨sr0, hsr0, hx0⟩ := hi.homeReg x xr h
        have := (hw.spacesLt _ _ hsr0).1
        exact ⟨sr0, (copyWorld_spaces_ne s sr (by omega)).trans hsr0, hx0⟩
    · have := hs2 x0 hx0
      obtain ⟨hh, hcell⟩ := hi.reg_rec hsr hx0 hxr0
      refine ⟨by omega, fun c hc => ?_, ?_⟩
      · obtain ⟨c0, hc0, rfl⟩ := Option.map_eq_some_iff.mp hc
        obtain ⟨cr0, hcr0, hx⟩ := hi.mirror1 x0 xr0 c0 hxr0 hc0
        exact ⟨_, copyWorld_cells_of_mem s sr (hcell c0 hc0) hcr0, List.mem_map.mpr ⟨x0, hx, rfl⟩⟩
      · have hh' : (shiftAgent w.next xr0).home = s + w.next := congrArg (· + w.next) hh
        exact ⟨_, hh' ▸ copyWorld_spaces_new s sr, List.mem_map.mpr ⟨x0, hx0, rfl⟩⟩
  · rcases copyWorld_spaces_cases s sr h1 with ⟨_, h1⟩ | ⟨rfl, rfl⟩
    · refine ⟨fun c hc => ?_, fun x hx => ?_, hi.regNodup _ _ h1⟩
      · obtain ⟨cr, hcr, hconn⟩ := hi.connIn s1 sr1 c h1 hc
        exact ⟨cr, (copyWorld_cells_old s sr (hi.cellsLt _ _ hcr)).trans hcr, hconn⟩
      · obtain ⟨xr, hxr, hh, hcell⟩ := hi.regIn s1 sr1 x h1 hx
        exact ⟨xr, (copyWorld_agents_old s sr (hi.agentsLt _ _ hxr)).trans hxr, hh, hcell⟩
    · refine ⟨fun c hc => ?_, fun x hx => ?_, nodup_map_add (hi.regNodup _ _ hsr) _⟩
      · obtain ⟨c0, hc0, rfl⟩ := List.mem_map.mp hc
        obtain ⟨cr0, hcr0, hconn, hrnd, hkl⟩ := hi.connIn s sr c0 hsr hc0
        refine ⟨_, copyWorld_cells_of_mem s sr hc0 hcr0, fun d hd => ?_, congrArg (· + w.next) hrnd, fun k' hk' => ?_⟩
        · obtain ⟨d0, hd0, rfl⟩ := List.mem_map.mp hd
          exact List.mem_map.mpr ⟨d0, hconn d0 hd0, rfl⟩
        · obtain ⟨k0, hk0, rfl⟩ := Option.map_eq_some_iff.mp hk'
          exact congrArg (· + w.next) (hkl k0 hk0)
      · obtain ⟨x0, hx0, rfl⟩ := List.mem_map.mp hx
        obtain ⟨xr0, hxr0, hh, hcell⟩ := hi.regIn s sr x0 hsr hx0
        refine ⟨_, copyWorld_agents_of_mem s sr hx0 hxr0, congrArg (· + w.next) hh, fun c hc => ?_⟩
        obtain ⟨c0, hc0, rfl⟩ := Option.map_eq_some_iff.mp hc
        exact List.mem_map.mpr ⟨c0, hcell c0 hc0, rfl⟩
  · intro s1 s2 sr1 sr2 c h1 h2 hc1 hc2
    rcases hside s1 sr1 c h1 hc1 with ⟨rfl, g1⟩ | ⟨h1, g1⟩ <;> rcases hside s2 sr2 c h2 hc2 with ⟨rfl, g2⟩ | ⟨h2, g2⟩
    · rfl
    · omega
    · omega
    · exact hi.disj _ _ _ _ c h1 h2 hc1 hc2

/-! ### every operation -/

theorem Inv.move (hi : Inv w) {a c : Nat} {ar : AgentRec} {cr : CellRec} (har : w.agents a = some ar)
    (hcr : w.cells c = some cr) (hin : inSpace w ar.home c = true) (hown : ar.cell = some c ∨ full cr = false) :
    Inv (Mesa.CopyOcc.place (Mesa.CopyOcc.unplace w a) a c) := by
  have hin1 : inSpace (Mesa.CopyOcc.unplace w a) ar.home c = true := by simpa [inSpace, unplace_spaces] using hin
  refine (hi.unplace a).place (unplace_agent har) rfl (unplace_cell har hcr) ?_ hin1
  split
  · -- re-entering: the agent has just left this cell, which held at most `capacity` agents
    rename_i hre
    obtain ⟨cr0, hcr0, ha0⟩ := hi.mirror1 a ar c har hre
    rw [hcr] at hcr0
    cases hcr0
    simp only [full, capFull]
    cases hk : cr.cap with
    | none => rfl
    | some k =>
      have := hi.capOk c cr k hcr hk
      have := List.length_erase_of_mem ha0
      have := List.length_pos_of_mem ha0
      simp only [decide_eq_false_iff_not]
      omega
  · rename_i hre
    exact hown.resolve_left hre

theorem Inv.setCell (hi : Inv w) (a c : Nat) : Inv (setCell w a c).1 := by
  rcases setCell_cases w a c with h | ⟨ar, cr, har, hcr, hin, hown, h⟩
  · rw [h]; exact hi
  · rw [h]; exact hi.move har hcr hin hown

theorem Inv.step (hi : Inv w) (hw : WF w) (op : Op) : Inv (step w op) :=
  step_cases (M := fun _ w' => Inv w') w (fun _ => hi) (hi.newSpace hw) (fun _ _ hsr => hi.newAgent hw hsr _)
    (fun _ _ _ _ har hcr hin hown => hi.move har hcr hin hown) (fun _ _ har => hi.unplaceRec har)
    (fun a ar har => (hi.unplace a).dereg (ar := { ar with cell := none }) (unplace_agent har) rfl)
    (fun _ _ hsr => hi.copyWorld hw hsr) op

theorem Inv.run (hi : Inv w) (hw : WF w) (ops : List Op) : Inv (run w ops) := by
  induction ops generalizing w with
  | nil => exact hi
  | cons op ops ih => exact ih (hi.step hw op) (hw.step op)

theorem reachable (ops : List Op) : WF (run init ops) ∧ Inv (run init ops) :=
  ⟨WF.init.run ops, Inv.init.run WF.init ops⟩

end Mesa.CopyOcc
