import MesaModel.Proofs.Legacy
import MesaModel.Proofs.LegacyOrth
/-! "In range" as a distance bound: Chebyshev / Manhattan distance, taken modulo the sizes on a torus. -/
namespace Mesa.Legacy

open Grid

theorem inRange_bounded (d : Dim) (hnt : d.torus = false) (pos : Coord) (moore : Bool) (r : Nat) (c : Coord) :
    InRange d pos moore r c ↔
      iabs (c.1 - pos.1) ≤ r ∧ iabs (c.2 - pos.2) ≤ r ∧ (moore = true ∨ iabs (c.1 - pos.1) + iabs (c.2 - pos.2) ≤ r) := by
  unfold InRange Dim.wrapIf
  simp only [hnt, Bool.false_eq_true, if_false]
  constructor
  · rintro ⟨dx, dy, h1, h2, h3, rfl⟩
    have e1 : pos.1 + dx - pos.1 = dx := by omega
    have e2 : pos.2 + dy - pos.2 = dy := by omega
    simp only [e1, e2]
    exact ⟨h1, h2, h3⟩
  · rintro ⟨h1, h2, h3⟩
    refine ⟨c.1 - pos.1, c.2 - pos.2, h1, h2, h3, ?_⟩
    apply Prod.ext <;> simp <;> omega

theorem axis_torus (w x cx : Int) (hc0 : 0 ≤ cx) (hc1 : cx < w) (m : Int) (hm : IsTorusDist w cx x m) (b : Int) :
    (∃ dx, iabs dx ≤ b ∧ cx = (x + dx) % w) ↔ m ≤ b := by
  constructor
  · rintro ⟨dx, hdx, hcx⟩
    have hdef : (x + dx) % w = x + dx - ((x + dx) / w) * w := by rw [Int.emod_def, Int.mul_comm]
    have := hm.2 ((x + dx) / w)
    have e : cx - x + (x + dx) / w * w = dx := by rw [hcx, hdef]; omega
    rw [e] at this
    omega
  · intro hmb
    obtain ⟨⟨k, hk⟩, _⟩ := hm
    refine ⟨cx - x + k * w, by omega, ?_⟩
    have e : x + (cx - x + k * w) = cx + k * w := by omega
    rw [e, Int.add_mul_emod_self_right, Int.emod_eq_of_lt hc0 hc1]

theorem inRange_torus (d : Dim) (ht : d.torus = true) (pos : Coord) (moore : Bool) (r : Nat)
    (c : Coord) (hc : d.inGrid c) (mx my : Int) (hx : IsTorusDist d.w c.1 pos.1 mx) (hy : IsTorusDist d.h c.2 pos.2 my) :
    InRange d pos moore r c ↔ mx ≤ r ∧ my ≤ r ∧ (moore = true ∨ mx + my ≤ r) := by
  obtain ⟨hc1, hc2, hc3, hc4⟩ := hc
  unfold InRange Dim.wrapIf
  simp only [ht, if_true]
  constructor
  · rintro ⟨dx, dy, h1, h2, h3, he⟩
    have ex : c.1 = (pos.1 + dx) % d.w := congrArg Prod.fst he
    have ey : c.2 = (pos.2 + dy) % d.h := congrArg Prod.snd he
    have bx := (axis_torus d.w pos.1 c.1 hc1 hc2 mx hx (iabs dx)).mp ⟨dx, Int.le_refl _, ex⟩
    have by' := (axis_torus d.h pos.2 c.2 hc3 hc4 my hy (iabs dy)).mp ⟨dy, Int.le_refl _, ey⟩
    refine ⟨by omega, by omega, ?_⟩
    rcases h3 with h3 | h3
    · exact Or.inl h3
    · exact Or.inr (by omega)
  · rintro ⟨h1, h2, h3⟩
    obtain ⟨dx, hdx, ex⟩ := (axis_torus d.w pos.1 c.1 hc1 hc2 mx hx mx).mpr (Int.le_refl _)
    obtain ⟨dy, hdy, ey⟩ := (axis_torus d.h pos.2 c.2 hc3 hc4 my hy my).mpr (Int.le_refl _)
    refine ⟨dx, dy, by omega, by omega, ?_, Prod.ext ex ey⟩
    rcases h3 with h3 | h3
    · exact Or.inl h3
    · exact Or.inr (by omega)

end Mesa.Legacy
