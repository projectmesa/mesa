import MesaModel.Proofs.LegacyDefs
/-! What the grids and `NetworkGrid` have in common: `agent.pos` and the per-place agent lists are two views of one
assignment of agents to places (cells, nodes). -/
namespace Mesa.Legacy

/-- `pos a` is the one place whose list holds `a` (`none` exactly when no list does); no list holds an agent twice -/
structure Agree {κ : Type} (pos : Aid → Option κ) (content : κ → List Aid) : Prop where
  pos_content : ∀ a k, pos a = some k ↔ a ∈ content k
  nodup : ∀ k, (content k).Nodup

theorem Inv.agree {g : Grid} (hi : Inv g) : Agree g.pos g.content := ⟨hi.pos_content, hi.nodup⟩
theorem NetInv.agree {t : Net} (hi : NetInv t) : Agree t.pos t.content := ⟨hi.pos_content, hi.nodup⟩

namespace Agree
variable {κ : Type} {pos : Aid → Option κ} {content : κ → List Aid}

theorem mem_content (h : Agree pos content) {a : Aid} {k : κ} (hp : pos a = some k) :
    a ∈ content k ∧ ∀ q, a ∈ content q → q = k :=
  ⟨(h.pos_content a k).mp hp, fun q hq => by
    have := (h.pos_content a q).mpr hq
    rw [hp] at this
    exact (Option.some.inj this).symm⟩

theorem pos_eq_none (h : Agree pos content) (a : Aid) : pos a = none ↔ ∀ q, a ∉ content q := by
  constructor
  · intro hn q hq
    have := (h.pos_content a q).mpr hq
    rw [hn] at this
    cases this
  · intro hq
    cases hp : pos a with
    | none => rfl
    | some k => exact absurd ((h.pos_content a k).mp hp) (hq k)

/-- the agreement is local: one list `k` changes, at most in `a`, and `pos' a` says whether `a` is in it -/
theorem set (h : Agree pos content) {pos' : Aid → Option κ} {content' : κ → List Aid} {k : κ} {a : Aid}
    (hk : ∀ q, q ≠ k → content' q = content q) (hb : ∀ b, b ≠ a → pos' b = pos b)
    (hnd : (content' k).Nodup) (hc : ∀ b, b ≠ a → (b ∈ content' k ↔ b ∈ content k))
    (hao : ∀ q, q ≠ k → a ∉ content q) (ha : a ∈ content' k ↔ pos' a = some k)
    (hpa : ∀ q, pos' a = some q → q = k) : Agree pos' content' where
  pos_content b q := by
    by_cases hba : b = a <;> by_cases hq : q = k
    · subst hba hq
      exact ha.symm
    · subst hba
      rw [hk q hq]
      exact ⟨fun h' => absurd (hpa q h') hq, fun h' => absurd h' (hao q hq)⟩
    · subst hq
      rw [hb b hba, hc b hba]
      exact h.pos_content b q
    · rw [hb b hba, hk q hq]
      exact h.pos_content b q
  nodup q := by
    by_cases hq : q = k
    · subst hq
      exact hnd
    · rw [hk q hq]
      exact h.nodup q

theorem flatMap_nodup (h : Agree pos content) {ks : List κ} (hnd : ks.Nodup) : (ks.flatMap content).Nodup := by
  unfold List.Nodup
  rw [List.pairwise_flatMap]
  refine ⟨fun k _ => h.nodup k, List.Pairwise.imp ?_ hnd⟩
  intro k k' hne x hx y hy hxy
  subst hxy
  exact hne ((h.mem_content ((h.pos_content x k').mpr hy)).2 k hx)

theorem mem_flatMap (h : Agree pos content) (ks : List κ) (a : Aid) :
    a ∈ ks.flatMap content ↔ ∃ k ∈ ks, pos a = some k := by
  simp only [List.mem_flatMap, h.pos_content]

end Agree

end Mesa.Legacy
