import MesaModel.Proofs.CellSymm
/-!
Helper lemmas for C07: `Cell.connections` as the model builds it is a dict — no key occurs twice — for every
grid, `Network` and `VoronoiGrid`.
-/
namespace Mesa.Cells

theorem keys_filterMap_sublist {γ β : Type} (l : List γ) (g : γ → Option β) :
    ((l.filterMap fun x => (g x).map fun n => (x, n)).map (·.1)).Sublist l := by
  induction l with
  | nil => simp
  | cons x l ih =>
    rw [List.filterMap_cons]
    cases g x with
    | none => exact ih.cons _
    | some n => exact ih.cons_cons _

/-! ### von Neumann offsets are pairwise different -/

theorem unitVec_inj (n i j : Nat) (a b : Int) (hi : i < n) (ha : a ≠ 0) (h : unitVec n i a = unitVec n j b) :
    i = j ∧ a = b := by
  have e := congrArg (·[i]?) h
  simp only [unitVec_getElem? _ _ _ hi, if_true, Option.some.injEq] at e
  split at e
  · rename_i hji
    exact ⟨hji.symm, e⟩
  · exact absurd e ha

theorem vnOffsets_nodup (n : Nat) : (vnOffsets n).Nodup := by
  unfold vnOffsets List.Nodup
  rw [List.pairwise_flatMap]
  constructor
  · intro d hd
    simp only [List.pairwise_cons, List.mem_singleton, forall_eq, List.not_mem_nil, false_imp_iff, implies_true,
      List.Pairwise.nil, and_true]
    intro h
    exact absurd (unitVec_inj n d d (-1) 1 (List.mem_range.mp hd) (by decide) h).2 (by decide)
  · refine List.Pairwise.imp_of_mem ?_ (List.pairwise_lt_range (n := n))
    intro a b ha _ hab x hx y hy hxy
    simp only [List.mem_cons, List.not_mem_nil, or_false] at hx hy
    subst hxy
    have differ : ∀ δ ε : Int, δ ≠ 0 → x = unitVec n a δ → x = unitVec n b ε → False := fun δ ε hδ h1 h2 =>
      absurd (unitVec_inj n a b δ ε (List.mem_range.mp ha) hδ (h1 ▸ h2)).1 (Nat.ne_of_lt hab)
    rcases hx with h1 | h1 <;> rcases hy with h2 | h2 <;> exact differ _ _ (by decide) h1 h2

/-! ### the connection dicts of the model's spaces -/

theorem offsets2d_nodup (k : GridKind) (j : Int) : (pairsToVecs (offsets2d k j)).Nodup := by
  cases k with
  | moore =>
    simp only [offsets2d]
    decide +kernel
  | vn =>
    simp only [offsets2d]
    decide +kernel
  | hex =>
    simp only [offsets2d, hexTable]
    split <;> decide +kernel

theorem offsetsNd_nodup (k : GridKind) (n : Nat) : (offsetsNd k n).Nodup := by
  cases k with
  | moore => exact mooreOffsets_nodup n
  | vn => exact vnOffsets_nodup n
  | hex => exact List.nodup_nil

theorem gridConn_keysNodup (k : GridKind) (dims : List Nat) (torus : Bool) (c : Coord) :
    KeysNodup (gridConn k dims torus c) := by
  unfold KeysNodup
  by_cases h2 : dims.length = 2
  · match dims with
    | [h, w] =>
      by_cases hc : ∃ i j, c = [i, j]
      · obtain ⟨i, j, rfl⟩ := hc
        rw [gridConn_pair]
        exact (keys_filterMap_sublist _ _).nodup (offsets2d_nodup k j)
      · rw [gridConn_not_pair k h w torus c fun i j e => hc ⟨i, j, e⟩]
        exact List.nodup_nil
  · rw [gridConn_nd k dims torus c h2]
    exact (keys_filterMap_sublist _ _).nodup (offsetsNd_nodup k _)

theorem netConn_keysNodup (directed : Bool) (edges : List (Nat × Nat)) (c : Coord) :
    KeysNodup (netConn directed edges c) := by
  unfold netConn
  split
  · split
    · exact keysNodup_map (netAdj_nodup directed edges _) _ _ fun a b e => Int.ofNat_inj.mp (by simpa using e)
    · exact List.nodup_nil
  · exact List.nodup_nil

theorem vorConn_keysNodup (tris : List (Nat × Nat × Nat)) (c : Coord) : KeysNodup (vorConn tris c) := by
  unfold vorConn
  split
  · split
    · exact keysNodup_map (nodup_dictUpdate List.nodup_nil) _ _ fun a b e => Int.ofNat_inj.mp (by simpa using e)
    · exact List.nodup_nil
  · exact List.nodup_nil

end Mesa.Cells
