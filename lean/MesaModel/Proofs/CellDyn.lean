import MesaModel.Proofs.CellSpaces
import MesaModel.Proofs.CellEdit
/-!
Helper lemmas for C06: histories that edit connections (`Cell.connect` / `Cell.disconnect` after construction) or
write capacities (`cell.capacity = k`) between the agent operations.  A connection edit touches `Space.conn` only, a
capacity write `Space.cap` at one cell only; well-formedness of the space and the occupancy invariant survive both; the
capacity bound survives a capacity write iff the new capacity is not below the cell's occupancy.
-/
namespace Mesa.Cells

def DOp.isSetCap : DOp → Bool
  | .setCap _ _ => true
  | _ => false

theorem editSp_same (sp : Space) (e : DOp) :
    (editSp sp e).1.cells = sp.cells ∧ (editSp sp e).1.isGrid = sp.isGrid ∧
    (e.isSetCap = false → (editSp sp e).1.cap = sp.cap) := by
  cases e with
  | op o => exact ⟨rfl, rfl, fun _ => rfl⟩
  | connect c c2 key =>
    simp only [editSp]
    split
    · split <;> exact ⟨rfl, rfl, fun _ => rfl⟩
    · exact ⟨rfl, rfl, fun _ => rfl⟩
  | disconnect c c2 =>
    simp only [editSp]
    split <;> exact ⟨rfl, rfl, fun _ => rfl⟩
  | setCap c k =>
    simp only [editSp]
    split <;> exact ⟨rfl, rfl, fun h => nomatch h⟩

theorem InvB.edit {sp : Space} {B : Cid → Nat} {s : State} (h : InvB sp B s) {e : DOp} (he : e.isSetCap = false) :
    InvB (editSp sp e).1 B s := by
  refine h.transfer (editSp_same sp e).1 (editSp_same sp e).2.1 ?_
  rw [(editSp_same sp e).2.2 he]
  exact h.cap

theorem editSp_conn_setCap (sp : Space) (c : Cid) (k : Option Nat) : (editSp sp (.setCap c k)).1.conn = sp.conn := by
  simp only [editSp]
  split <;> rfl

theorem editSp_ok {sp : Space} (hsp : SpaceOK sp) (e : DOp) : SpaceOK (editSp sp e).1 := by
  refine ⟨?_, by rw [(editSp_same sp e).1]; exact hsp.nodup⟩
  cases e with
  | op o => exact hsp.closed
  | connect c c2 key =>
    simp only [editSp]
    split
    · rename_i hcc
      split
      · rename_i k _
        intro x hx kk c' hm
        simp only [connectSp, connectConn] at hx hm ⊢
        split at hm
        · rcases mem_dictSet_imp hm with h1 | h1
          · simp only [Prod.mk.injEq] at h1
            exact h1.2 ▸ hcc.2
          · exact hsp.closed c hcc.1 kk c' h1
        · exact hsp.closed x hx kk c' hm
      · exact hsp.closed
    · exact hsp.closed
  | disconnect c c2 =>
    simp only [editSp]
    split
    · rename_i hcc
      intro x hx kk c' hm
      simp only [disconnectSp, disconnectConn] at hx hm ⊢
      split at hm
      · exact hsp.closed c hcc.1 kk c' ((mem_dictDropValue _ _ _).mp hm).1
      · exact hsp.closed x hx kk c' hm
    · exact hsp.closed
  | setCap c k =>
    simp only [editSp]
    split <;> exact hsp.closed

theorem dstep_space (sp : Space) (s : State) (o : DOp) : (dstep sp s o).1.1 = (editSp sp o).1 := by
  cases o <;> rfl

theorem dstep_ok {sp : Space} (hsp : SpaceOK sp) (s : State) (o : DOp) : SpaceOK (dstep sp s o).1.1 := by
  rw [dstep_space]
  exact editSp_ok hsp o

/-- the occupancy invariant (with the occupancy itself as the bound) looks neither at the connections nor at the
    capacities -/
theorem dstep_inv {sp : Space} (hsp : SpaceOK sp) {s : State} (h : Inv sp s) (o : DOp) :
    Inv (dstep sp s o).1.1 (dstep sp s o).1.2 := by
  cases o with
  | op o => exact step_inv hsp.closed h o
  | connect c c2 key | disconnect c c2 | setCap c k =>
    exact h.transfer (editSp_same sp _).1 (editSp_same sp _).2.1 fun _ _ _ => Or.inr (Nat.le_refl _)

theorem dstep_same {sp : Space} (s : State) (o : DOp) :
    (dstep sp s o).1.1.cells = sp.cells ∧ (dstep sp s o).1.1.isGrid = sp.isGrid ∧
    (o.isSetCap = false → (dstep sp s o).1.1.cap = sp.cap) := by
  rw [dstep_space]
  exact editSp_same sp o

theorem drun_inv {sp : Space} (hsp : SpaceOK sp) {s : State} (h : Inv sp s) (ops : List DOp) :
    SpaceOK (drun sp s ops).1 ∧ Inv (drun sp s ops).1 (drun sp s ops).2 ∧
    (drun sp s ops).1.cells = sp.cells ∧ (drun sp s ops).1.isGrid = sp.isGrid ∧
    ((∀ o ∈ ops, o.isSetCap = false) → (drun sp s ops).1.cap = sp.cap) := by
  induction ops generalizing sp s with
  | nil => exact ⟨hsp, h, rfl, rfl, fun _ => rfl⟩
  | cons o ops ih =>
    obtain ⟨h1, h2, h3, h4, h5⟩ := ih (dstep_ok hsp s o) (dstep_inv hsp h o)
    obtain ⟨e1, e2, e3⟩ := dstep_same (sp := sp) s o
    exact ⟨h1, h2, h3.trans e1, h4.trans e2, fun hno =>
      (h5 fun o' ho' => hno o' (List.mem_cons_of_mem _ ho')).trans (e3 (hno o List.mem_cons_self))⟩

/-- an operation that is not a capacity write going under the occupancy the cell has now -/
def DOp.respects (s : State) : DOp → Bool
  | .setCap c (some k) => decide ((s.occ c).length ≤ k)
  | _ => true

/-- a history never lowers a capacity under the occupancy of the cell at that moment (raising it, lifting it — `None` —
    and lowering it down to the number of occupants are all allowed) -/
def CapRespecting (sp : Space) (s : State) : List DOp → Bool
  | [] => true
  | o :: os => o.respects s && CapRespecting (dstep sp s o).1.1 (dstep sp s o).1.2 os

/-- `B = 0` is the plain capacity bound -/
theorem dstep_inv0 {sp : Space} (hsp : SpaceOK sp) {s : State} (h : InvB sp (fun _ => 0) s) (o : DOp)
    (hr : o.respects s = true) : InvB (dstep sp s o).1.1 (fun _ => 0) (dstep sp s o).1.2 := by
  cases o with
  | op o => exact step_invB hsp.closed h o
  | connect c c2 key | disconnect c c2 =>
    exact h.edit rfl
  | setCap c k =>
    show InvB (editSp sp (.setCap c k)).1 (fun _ => 0) s
    simp only [editSp]
    split
    · show InvB (setCapSp sp c k) _ s
      refine h.transfer rfl rfl fun x k' hk' => ?_
      simp only [setCapSp] at hk'
      by_cases hx : x = c
      · subst hx
        rw [upd_same] at hk'
        subst hk'
        simp only [DOp.respects, decide_eq_true_eq] at hr
        exact Or.inl hr
      · rw [upd_other _ _ _ hx] at hk'
        exact h.cap x k' hk'
    · exact h

theorem drun_inv0 {sp : Space} (hsp : SpaceOK sp) {s : State} (h : InvB sp (fun _ => 0) s) (ops : List DOp)
    (hr : CapRespecting sp s ops = true) : InvB (drun sp s ops).1 (fun _ => 0) (drun sp s ops).2 := by
  induction ops generalizing sp s with
  | nil => exact h
  | cons o ops ih =>
    simp only [CapRespecting, Bool.and_eq_true] at hr
    exact ih (dstep_ok hsp s o) (dstep_inv0 hsp h o hr.1) hr.2

theorem drun_ops (sp : Space) (s : State) (ops : List Op) : drun sp s (ops.map .op) = (sp, run sp s ops) := by
  induction ops generalizing s with
  | nil => rfl
  | cons o ops ih =>
    simp only [List.map_cons, drun, dstep, run]
    exact ih _

theorem drun_append (sp : Space) (s : State) (l : List DOp) (o : DOp) :
    drun sp s (l ++ [o]) = (dstep (drun sp s l).1 (drun sp s l).2 o).1 := by
  induction l generalizing sp s with
  | nil => rfl
  | cons x l ih =>
    simp only [List.cons_append, drun]
    exact ih _ _

end Mesa.Cells
