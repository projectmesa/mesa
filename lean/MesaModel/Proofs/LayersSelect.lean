import MesaModel.Model.Layers
/-!
Helper lemmas for C11: the coordinate list, `extremum`, and the stages of the `select_cells` pipeline.
-/
namespace Mesa.Layers

theorem mem_cells {dims : List Nat} {c : Coord} : c ∈ cells dims ↔ inBounds dims c = true := by
  induction dims generalizing c with
  | nil => cases c <;> simp [cells, inBounds]
  | cons d ds ih =>
    cases c with
    | nil => simp [cells, inBounds]
    | cons i c' =>
      simp only [cells, List.mem_flatMap, List.mem_range, List.mem_map, inBounds, Bool.and_eq_true,
        decide_eq_true_eq]
      constructor
      · rintro ⟨j, hj, x, hx, hxe⟩
        injection hxe with h1 h2
        subst h1
        subst h2
        exact ⟨hj, ih.mp hx⟩
      · rintro ⟨hi, hc⟩
        exact ⟨i, hi, c', ih.mpr hc, rfl⟩

theorem cells_nodup (dims : List Nat) : (cells dims).Nodup := by
  induction dims with
  | nil => simp [cells]
  | cons d ds ih =>
    simp only [cells, List.Nodup]
    rw [List.pairwise_flatMap]
    refine ⟨?_, ?_⟩
    · intro i _
      rw [List.pairwise_map]
      exact List.Pairwise.imp (fun hab h => hab (by injection h)) ih
    · refine List.Pairwise.imp ?_ (List.nodup_range (n := d))
      intro i j hij x hx y hy hxy
      obtain ⟨a, _, rfl⟩ := List.mem_map.mp hx
      obtain ⟨b, _, rfl⟩ := List.mem_map.mp hy
      injection hxy with h1 _
      exact hij h1

/-- the list form is exactly the coordinates at which the mask form is true -/
theorem filter_eq_zip_map {α : Type} (l : List α) (m : α → Bool) :
    l.filter m = ((l.zip (l.map m)).filter (·.2)).map (·.1) := by
  induction l with
  | nil => rfl
  | cons x xs ih =>
    cases h : m x <;> simp [List.filter, h, ih]

/-- `np.sum` as the code's left fold -/
theorem foldl_add_eq_sum (l : List Int) (a : Int) : l.foldl (· + ·) a = a + l.sum := by
  induction l generalizing a with
  | nil => simp
  | cons x xs ih =>
    simp [List.foldl, ih]
    omega

/-! ### `extremum` -/

theorem extremum_eq_none {hi : Bool} {l : List Int} : extremum hi l = none ↔ l = [] := by
  cases l with
  | nil => simp [extremum]
  | cons x xs =>
    simp only [extremum]
    cases extremum hi xs <;> simp

theorem extremum_mem {hi : Bool} {l : List Int} {t : Int} (h : extremum hi l = some t) : t ∈ l := by
  induction l generalizing t with
  | nil => simp [extremum] at h
  | cons x xs ih =>
    simp only [extremum] at h
    cases hx : extremum hi xs with
    | none =>
      rw [hx] at h
      simp at h
      simp [h]
    | some y =>
      rw [hx] at h
      simp only [Option.some.injEq] at h
      have := ih hx
      cases hi <;> simp only [Bool.false_eq_true, if_true, if_false] at h <;> split at h <;> subst h <;> simp [this]

/-- `x` does not beat the extreme value `t`: `x ≤ t` for a maximum (`hi`), `t ≤ x` for a minimum -/
def notBeyond (hi : Bool) (x t : Int) : Prop := if hi then x ≤ t else t ≤ x

theorem extremum_bound {hi : Bool} {l : List Int} {t : Int} (h : extremum hi l = some t) :
    ∀ x ∈ l, notBeyond hi x t := by
  induction l generalizing t with
  | nil => simp
  | cons x xs ih =>
    simp only [extremum] at h
    cases hx : extremum hi xs with
    | none =>
      rw [hx] at h
      simp only [Option.some.injEq] at h
      subst h
      have : xs = [] := extremum_eq_none.mp hx
      subst this
      intro y hy
      simp at hy
      subst hy
      unfold notBeyond
      split <;> omega
    | some y =>
      rw [hx] at h
      simp only [Option.some.injEq] at h
      have hb := ih hx
      intro z hz
      rcases List.mem_cons.mp hz with rfl | hz
      · unfold notBeyond
        cases hi <;> simp only [Bool.false_eq_true, if_true, if_false] at h ⊢ <;> split at h <;> omega
      · have := hb z hz
        unfold notBeyond at this ⊢
        cases hi <;> simp only [Bool.false_eq_true, if_true, if_false] at h this ⊢ <;> split at h <;> omega

theorem notBeyond_antisymm {hi : Bool} {x t : Int} (h1 : notBeyond hi x t) (h2 : notBeyond hi t x) : x = t := by
  unfold notBeyond at h1 h2
  cases hi <;> simp only [Bool.false_eq_true, if_true, if_false] at h1 h2 <;> omega

theorem extremum_eq_some {hi : Bool} {l : List Int} {t : Int} :
    extremum hi l = some t ↔ t ∈ l ∧ ∀ x ∈ l, notBeyond hi x t := by
  refine ⟨fun h => ⟨extremum_mem h, extremum_bound h⟩, fun ⟨hm, hb⟩ => ?_⟩
  cases hx : extremum hi l with
  | none =>
    rw [extremum_eq_none.mp hx] at hm
    cases hm
  | some u => rw [notBeyond_antisymm (extremum_bound hx t hm) (hb u (extremum_mem hx))]

/-! ### the stages of `select_cells` -/

theorem applyMasks_spec (ks : List (Coord → Bool)) (m : Coord → Bool) (c : Coord) :
    applyMasks ks m c = true ↔ m c = true ∧ ∀ k ∈ ks, k c = true := by
  induction ks generalizing m with
  | nil => simp [applyMasks]
  | cons k ks ih =>
    simp only [applyMasks, ih, Bool.and_eq_true, List.mem_cons, forall_eq_or_imp]
    exact and_assoc

theorem applyConds_spec (s : State) (conds : List (String × (Int → Bool))) (m m' : Coord → Bool)
    (h : applyConds s conds m = .ok m') (c : Coord) :
    m' c = true ↔ m c = true ∧ ∀ np ∈ conds, ∃ a, s.namedArr? np.1 = some a ∧ np.2 (a c) = true := by
  induction conds generalizing m with
  | nil =>
    simp only [applyConds, Except.ok.injEq] at h
    subst h
    simp
  | cons np rest ih =>
    obtain ⟨n, p⟩ := np
    simp only [applyConds] at h
    cases ha : s.namedArr? n with
    | none =>
      rw [ha] at h
      simp at h
    | some a =>
      rw [ha] at h
      simp only at h
      rw [ih _ h]
      simp only [Bool.and_eq_true, List.mem_cons, forall_eq_or_imp, ha, Option.some.injEq, exists_eq_left']
      exact and_assoc

/-- Specification of the `extreme_values` stage, independent of how the code computes it:
    `c` satisfies the incoming predicate `P`, and for each entry in turn its property value is
    extreme (`highest`: no selected cell of the grid has a larger one) among the cells of the grid
    that satisfy `P` and the entries before it. -/
def ExtSpec (s : State) : List (String × Option Bool) → (Coord → Prop) → Coord → Prop
  | [], P, c => P c
  | (n, mode) :: rest, P, c =>
    ∃ a hi, s.namedArr? n = some a ∧ mode = some hi ∧
      ExtSpec s rest (fun c => P c ∧ ∀ c' ∈ cells s.dims, P c' → notBeyond hi (a c') (a c)) c

theorem ExtSpec_base {s : State} {exts : List (String × Option Bool)} {P : Coord → Prop} {c : Coord}
    (h : ExtSpec s exts P c) : P c := by
  induction exts generalizing P with
  | nil => exact h
  | cons e rest ih =>
    obtain ⟨n, mode⟩ := e
    obtain ⟨a, hi, _, _, h⟩ := h
    exact (ih h).1

theorem ExtSpec_congr {s : State} {exts : List (String × Option Bool)} {P Q : Coord → Prop}
    (hPQ : ∀ c ∈ cells s.dims, P c ↔ Q c) {c : Coord} (hc : c ∈ cells s.dims) :
    ExtSpec s exts P c ↔ ExtSpec s exts Q c := by
  induction exts generalizing P Q with
  | nil => exact hPQ c hc
  | cons e rest ih =>
    obtain ⟨n, mode⟩ := e
    simp only [ExtSpec]
    have key : ∀ (a : Arr) (hi : Bool), ∀ c ∈ cells s.dims,
        (P c ∧ ∀ c' ∈ cells s.dims, P c' → notBeyond hi (a c') (a c)) ↔
        (Q c ∧ ∀ c' ∈ cells s.dims, Q c' → notBeyond hi (a c') (a c)) := by
      intro a hi c hc
      constructor
      · rintro ⟨h1, h2⟩
        exact ⟨(hPQ c hc).mp h1, fun c' hc' hq => h2 c' hc' ((hPQ c' hc').mpr hq)⟩
      · rintro ⟨h1, h2⟩
        exact ⟨(hPQ c hc).mpr h1, fun c' hc' hp => h2 c' hc' ((hPQ c' hc').mp hp)⟩
    constructor
    · rintro ⟨a, hi, h1, h2, h3⟩
      exact ⟨a, hi, h1, h2, (ih (key a hi)).mp h3⟩
    · rintro ⟨a, hi, h1, h2, h3⟩
      exact ⟨a, hi, h1, h2, (ih (key a hi)).mpr h3⟩

theorem applyExtremes_spec (s : State) (exts : List (String × Option Bool)) (m m' : Coord → Bool)
    (h : applyExtremes s exts m = .ok m') (c : Coord) (hc : c ∈ cells s.dims) :
    m' c = true ↔ ExtSpec s exts (fun c => m c = true) c := by
  induction exts generalizing m with
  | nil =>
    simp only [applyExtremes, Except.ok.injEq] at h
    subst h
    simp [ExtSpec]
  | cons e rest ih =>
    obtain ⟨n, mode⟩ := e
    simp only [applyExtremes] at h
    cases ha : s.namedArr? n with
    | none =>
      rw [ha] at h
      simp at h
    | some a =>
      rw [ha] at h
      cases mode with
      | none => simp at h
      | some hi =>
        simp only at h
        simp only [ExtSpec, ha, Option.some.injEq, exists_and_left, exists_eq_left']
        cases hx : extremum hi (((cells s.dims).filter m).map a) with
        | none =>
          rw [hx] at h
          simp only at h
          rw [ih _ h]
          have hnil : (cells s.dims).filter m = [] := by
            simpa using extremum_eq_none.mp hx
          refine ExtSpec_congr (fun c hc => iff_of_false Bool.false_ne_true fun ⟨h1, _⟩ => ?_) hc
          have hmem : c ∈ (cells s.dims).filter m := List.mem_filter.mpr ⟨hc, h1⟩
          rw [hnil] at hmem
          cases hmem
        | some t =>
          rw [hx] at h
          simp only at h
          rw [ih _ h]
          refine ExtSpec_congr (fun c hc => ?_) hc
          rw [Bool.and_eq_true, beq_iff_eq]
          refine and_congr_right fun h1 => ?_
          -- `a c` is the target iff it is the extreme value of the selected cells
          have : a c = t ↔ extremum hi (((cells s.dims).filter m).map a) = some (a c) := by
            rw [hx, Option.some.injEq]
            exact eq_comm
          rw [this, extremum_eq_some, List.forall_mem_map]
          constructor
          · exact fun ⟨_, hb⟩ c' hc' hm' => hb c' (List.mem_filter.mpr ⟨hc', hm'⟩)
          · exact fun hb => ⟨List.mem_map.mpr ⟨c, List.mem_filter.mpr ⟨hc, h1⟩, rfl⟩,
              fun c' hc' => hb c' (List.mem_filter.mp hc').1 (List.mem_filter.mp hc').2⟩

end Mesa.Layers
