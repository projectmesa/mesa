import MesaModel.Model.VizInputs
import MesaModel.Proofs.Viz
/-!
Helper lemmas and spec functions for the `ModelCreator` / `UserInputs` part of C20 (`Model/VizInputs.lean`).
-/
namespace Mesa.Viz

theorem splitParams_perm (ps : List (String × ParamVal)) :
    ((splitParams ps).2 ++ (splitParams ps).1).Perm ps := by
  unfold splitParams
  have := List.filter_append_perm (fun kv : String × ParamVal => isFixed kv.2.toPy) ps
  simpa using this

theorem initialParams_keys (ps : List (String × ParamVal)) :
    (initialParams ps).map (·.1) = (splitParams ps).2.map (·.1) ++ (splitParams ps).1.map (·.1) := by
  simp [initialParams, List.map_append, List.map_map, Function.comp_def]

theorem initialParams_eq (ps : List (String × ParamVal)) :
    initialParams ps = ((splitParams ps).2 ++ (splitParams ps).1).map fun kv => (kv.1, kv.2.initial) := by
  simp [initialParams]

/-- the input `UserInputs` creates for one user-adjustable parameter (`none`: it raises) -/
def widgetOf (name : String) : ParamVal → Option Widget
  | .slider isFloat label value => some ⟨if isFloat then .sliderFloat else .sliderInt, name, label, some value⟩
  | .spec type value label => (widgetKind? type).map fun k => ⟨k, name, label.getD name, value⟩
  | .plainDict => none
  | .plain _ => none

theorem widgetOf_name {name : String} {v : ParamVal} {w : Widget} (h : widgetOf name v = some w) : w.name = name := by
  cases v with
  | slider isFloat label value =>
    cases h
    rfl
  | spec type value label =>
    obtain ⟨k, _, rfl⟩ := Option.map_eq_some_iff.mp h
    rfl
  | plainDict => cases h
  | plain x => cases h

theorem userInputs_cons (name : String) (v : ParamVal) (rest : List (String × ParamVal)) :
    userInputs ((name, v) :: rest) =
      match widgetOf name v with
      | none => .error (match v with | .spec type _ _ => type | _ => "None")
      | some w =>
        match userInputs rest with
        | .error t => .error t
        | .ok ws => .ok (w :: ws) := by
  cases v with
  | spec type value label =>
    simp only [userInputs, widgetOf]
    cases widgetKind? type <;> rfl
  | slider isFloat label value =>
    simp only [userInputs, widgetOf]
    cases userInputs rest <;> rfl
  | plainDict => simp only [userInputs, widgetOf]
  | plain x => simp only [userInputs, widgetOf]

theorem userInputs_ok : ∀ (us : List (String × ParamVal)) (ws : List Widget), userInputs us = .ok ws →
    ws.map (·.name) = us.map (·.1) ∧ us.map (fun kv => widgetOf kv.1 kv.2) = ws.map some
  | [], ws, h => by
    cases h
    exact ⟨rfl, rfl⟩
  | (name, v) :: rest, ws, h => by
    rw [userInputs_cons] at h
    cases hw : widgetOf name v with
    | none =>
      rw [hw] at h
      cases h
    | some w =>
      cases hr : userInputs rest with
      | error t =>
        rw [hw, hr] at h
        cases h
      | ok ws' =>
        rw [hw, hr] at h
        cases h
        obtain ⟨h1, h2⟩ := userInputs_ok rest ws' hr
        exact ⟨by rw [List.map_cons, List.map_cons, h1, widgetOf_name hw], by rw [List.map_cons, List.map_cons, h2, hw]⟩

theorem userInputs_error : ∀ (us : List (String × ParamVal)) (t : String), userInputs us = .error t →
    ∃ kv ∈ us, widgetOf kv.1 kv.2 = none
  | [], t, h => by cases h
  | (name, v) :: rest, t, h => by
    rw [userInputs_cons] at h
    cases hw : widgetOf name v with
    | none => exact ⟨_, List.mem_cons_self, hw⟩
    | some w =>
      cases hr : userInputs rest with
      | ok ws =>
        rw [hw, hr] at h
        cases h
      | error t' =>
        obtain ⟨kv, hm, hn⟩ := userInputs_error rest t' hr
        exact ⟨kv, List.mem_cons_of_mem _ hm, hn⟩

theorem modelCreator_ok_iff (sig : List Param) (ps : List (String × ParamVal)) (extra : List String)
    (r : List (String × Option Val) × List Widget) :
    modelCreator sig ps extra = .ok r ↔
      r.1 = initialParams ps ∧ userInputs (splitParams ps).1 = .ok r.2 ∧
        creatorCheck sig (ps.map fun kv => (kv.1, kv.2.toPy)) extra = .ok () := by
  unfold modelCreator
  cases userInputs (splitParams ps).1 with
  | error t => exact ⟨fun h => (nomatch h), fun h => (nomatch h.2.1)⟩
  | ok ws =>
    cases creatorCheck sig (ps.map fun kv => (kv.1, kv.2.toPy)) extra with
    | error e => exact ⟨fun h => (nomatch h), fun h => (nomatch h.2.2)⟩
    | ok u =>
      obtain ⟨mp, ws'⟩ := r
      constructor
      · intro h
        cases h
        exact ⟨rfl, rfl, rfl⟩
      · rintro ⟨rfl, h2, _⟩
        cases h2
        rfl

theorem onChange_keys (params : List (String × Option Val)) (name : String) (value : Val)
    (h : name ∈ params.map (·.1)) : (onChange params name value).map (·.1) = params.map (·.1) := by
  unfold onChange
  rw [if_pos (any_key_of_mem h)]
  exact map_set_keys name (some value) params

theorem onChange_spec (params : List (String × Option Val)) (name : String) (value : Val)
    (h : name ∈ params.map (·.1)) :
    (∀ kv ∈ onChange params name value, kv.1 = name → kv.2 = some value) ∧
    (∀ kv, kv.1 ≠ name → (kv ∈ onChange params name value ↔ kv ∈ params)) := by
  unfold onChange
  rw [if_pos (any_key_of_mem h)]
  refine ⟨fun kv hm he => ?_, fun kv hne => ⟨fun hm => ?_, fun hm => ?_⟩⟩
  · obtain ⟨kv', _, e⟩ := List.mem_map.mp hm
    by_cases hk : (kv'.1 == name) = true
    · rw [if_pos hk] at e
      rw [← e]
    · rw [if_neg hk] at e
      rw [e] at hk
      exact absurd (by simp [he]) hk
  · obtain ⟨kv', hm', e⟩ := List.mem_map.mp hm
    by_cases hk : (kv'.1 == name) = true
    · rw [if_pos hk] at e
      exact absurd (by rw [← e]) hne
    · rw [if_neg hk] at e
      rw [← e]
      exact hm'
  · refine List.mem_map.mpr ⟨kv, hm, ?_⟩
    rw [if_neg (by simpa using hne)]

end Mesa.Viz
