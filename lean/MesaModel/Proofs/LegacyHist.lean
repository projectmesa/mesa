import MesaModel.Proofs.LegacyChoose
/-! Rejected calls can be deleted from a history, whatever history follows (C18, legacy grids).  Defines `forget`, `accepted`
and `results`, which the C18 statements mention, and `Cong` / `andThen` for the proofs. -/
namespace Mesa.Legacy

open Grid

/-- the grid without its private `_empties` set -/
def forget (g : Grid) : Grid := { g with empties := none }

theorem obsEq_iff_forget (g g' : Grid) : ObsEq g g' ↔ forget g' = forget g := by
  unfold ObsEq forget
  cases g
  cases g'
  simp only [Grid.mk.injEq]
  constructor
  · rintro ⟨h1, h2, h3, h4, h5, h6, h7, h8⟩
    exact ⟨h1, h2, h3, h4, h5, h6, h7, trivial, h8⟩
  · rintro ⟨h1, h2, h3, h4, h5, h6, h7, _, h8⟩
    exact ⟨h1, h2, h3, h4, h5, h6, h7, h8⟩

theorem forget_forget (g : Grid) : forget (forget g) = forget g := rfl

theorem inv_forget (g : Grid) (hi : Inv g) : Inv (forget g) :=
  ⟨hi.pos_content, hi.in_grid, hi.nodup, hi.single, hi.mask, by intro e h; cases h⟩

/-- a call whose result and observable effect do not depend on `_empties` -/
def Cong (f : Grid → Grid × Res) : Prop :=
  ∀ g g', forget g' = forget g → (f g').2 = (f g).2 ∧ forget (f g').1 = forget (f g).1

theorem cong_of_forget (f : Grid → Grid × Res)
    (h : ∀ g, (f (forget g)).2 = (f g).2 ∧ forget (f (forget g)).1 = forget (f g).1) : Cong f := by
  intro g g' hgg
  have h1 := h g
  have h2 := h g'
  rw [hgg] at h2
  exact ⟨h2.1.symm.trans h1.1, h2.2.symm.trans h1.2⟩

theorem place_cong (a : Aid) (p : Coord) : Cong (fun g => g.place a p) := by
  apply cong_of_forget
  intro g
  unfold Grid.place forget Grid.isCellEmpty
  simp only []
  split
  · split <;> simp
  · split <;> simp

theorem remove_cong (a : Aid) : Cong (fun g => g.remove a) := by
  apply cong_of_forget
  intro g
  unfold Grid.remove forget
  simp only []
  split
  · split <;> simp
  · split
    · split
      · split <;> simp
      · simp
    · simp

/-- sequencing as the movers do it: go on only if the first call did not raise -/
def andThen (f : Grid → Grid × Res) (k : Grid → Grid × Res) (g : Grid) : Grid × Res :=
  match f g with
  | (g1, .err e) => (g1, .err e)
  | (g1, .ok) => k g1

theorem andThen_cong (f k : Grid → Grid × Res) (hf : Cong f) (hk : Cong k) : Cong (andThen f k) := by
  intro g g' hgg
  obtain ⟨h1, h2⟩ := hf g g' hgg
  unfold andThen
  rcases hr : f g with ⟨g1, r⟩
  rcases hr' : f g' with ⟨g1', r'⟩
  rw [hr, hr'] at h1 h2
  simp only [] at h1 h2
  subst h1
  cases r' with
  | err e => exact ⟨rfl, h2⟩
  | ok => exact hk g1 g1' h2

theorem const_cong (r : Res) : Cong (fun g => (g, r)) := fun _ _ h => ⟨rfl, h⟩

theorem forget_fields {g g' : Grid} (h : forget g' = forget g) :
    g'.w = g.w ∧ g'.h = g.h ∧ g'.torus = g.torus ∧ g'.multi = g.multi ∧ g'.cutoff = g.cutoff ∧
    g'.content = g.content ∧ g'.pos = g.pos ∧ g'.mask = g.mask :=
  (obsEq_iff_forget g g').mpr h

/-- a read that does not look at `_empties` agrees on grids that differ only there -/
theorem read_congr {β : Type} (f : Grid → β) (hf : ∀ g, f (forget g) = f g) {g g' : Grid} (h : forget g' = forget g) :
    f g' = f g := by
  rw [← hf g', ← hf g, h]

theorem torusAdj_forget {g g' : Grid} (h : forget g' = forget g) (p : Coord) : g'.torusAdj p = g.torusAdj p :=
  read_congr (·.torusAdj p) (fun _ => rfl) h

theorem moveBase_cong (a : Aid) (p : Coord) : Cong (fun g => g.moveBase a p) := by
  intro g g' hgg
  have ht := torusAdj_forget hgg p
  show ((g'.moveBase a p).2 = (g.moveBase a p).2 ∧ forget (g'.moveBase a p).1 = forget (g.moveBase a p).1)
  rw [moveBase_eq, moveBase_eq, ht]
  cases g.torusAdj p with
  | error e => exact ⟨rfl, hgg⟩
  | ok q => exact andThen_cong _ _ (remove_cong a) (place_cong a q) g g' hgg

theorem move_cong (a : Aid) (p : Coord) : Cong (fun g => g.move a p) := by
  intro g g' hgg
  have ht := torusAdj_forget hgg p
  obtain ⟨_, _, _, hm, _, hc, _, _⟩ := forget_fields hgg
  show ((g'.move a p).2 = (g.move a p).2 ∧ forget (g'.move a p).1 = forget (g.move a p).1)
  unfold Grid.move
  rw [hm, ht]
  split
  · exact moveBase_cong a p g g' hgg
  · cases g.torusAdj p with
    | error e => exact ⟨rfl, hgg⟩
    | ok q =>
      have e1 : g'.isCellEmpty q = g.isCellEmpty q := by unfold Grid.isCellEmpty; rw [hc]
      simp only [e1, hc]
      by_cases hb : (!g.isCellEmpty q && g.content q != [a]) = true
      · simp only [hb, ↓reduceIte]
        exact ⟨trivial, hgg⟩
      · simp only [hb]
        exact moveBase_cong a q g g' hgg

theorem swap_cong (a b : Aid) : Cong (fun g => g.swap a b) := by
  intro g g' hgg
  obtain ⟨_, _, _, _, _, _, hp, _⟩ := forget_fields hgg
  show ((g'.swap a b).2 = (g.swap a b).2 ∧ forget (g'.swap a b).1 = forget (g.swap a b).1)
  unfold Grid.swap
  rw [hp]
  cases g.pos a with
  | none => exact ⟨rfl, hgg⟩
  | some pa =>
    cases g.pos b with
    | none => exact ⟨rfl, hgg⟩
    | some pb =>
      simp only []
      split
      · exact ⟨rfl, hgg⟩
      · exact andThen_cong _ _ (remove_cong a) (andThen_cong _ _ (remove_cong b)
          (andThen_cong _ _ (place_cong a pb) (place_cong b pa))) g g' hgg

theorem chooseOneOf_forget {g g' : Grid} (h : forget g' = forget g) (a : Aid) (ps : List Coord) (sel : Selection) (s : Script) :
    g'.chooseOneOf a ps sel s = g.chooseOneOf a ps sel s := by
  obtain ⟨h1, h2, h3, _, _, _, hp, _⟩ := forget_fields h
  have hd : g'.distSq = g.distSq := by funext p q; unfold Grid.distSq; rw [h1, h2, h3]
  have hc : g'.isClosest = g.isClosest := by
    funext cur ps p
    unfold Grid.isClosest
    rw [hd]
  unfold Grid.chooseOneOf
  simp only [hp, closestScan_filter, hc]

theorem moveToOneOf_cong (a : Aid) (ps : List Coord) (sel : Selection) (he : HandleEmpty) (s : Script) :
    Cong (fun g => g.moveToOneOf a ps sel he s) := by
  intro g g' hgg
  show ((g'.moveToOneOf a ps sel he s).2 = (g.moveToOneOf a ps sel he s).2 ∧
    forget (g'.moveToOneOf a ps sel he s).1 = forget (g.moveToOneOf a ps sel he s).1)
  unfold Grid.moveToOneOf
  rw [chooseOneOf_forget hgg]
  split
  · split <;> exact ⟨rfl, hgg⟩
  · cases g.chooseOneOf a ps sel s with
    | error e => exact ⟨rfl, hgg⟩
    | ok q => exact move_cong a q g g' hgg

theorem buildEmpties_forget {g g' : Grid} (h : forget g' = forget g) : g'.buildEmpties = g.buildEmpties :=
  read_congr (·.buildEmpties) (fun _ => rfl) h

theorem forget_readEmpties (g : Grid) : forget g.readEmpties.1 = forget g :=
  (obsEq_iff_forget g _).mp (readEmpties_obs g)

theorem pickLoop_forget {g g' : Grid} (h : forget g' = forget g) (s : Script) : g'.pickLoop s = g.pickLoop s :=
  pickLoop_obs ((obsEq_iff_forget g g').mpr h) s

/-- `move_to_empty` reads `_empties`: on states whose views agree it gets the same set either way -/
theorem moveToEmpty_cong (a : Aid) (s : Script) (g g' : Grid) (hi : Inv g) (hi' : Inv g') (hgg : forget g' = forget g) :
    (g'.moveToEmpty a s).2 = (g.moveToEmpty a s).2 ∧ forget (g'.moveToEmpty a s).1 = forget (g.moveToEmpty a s).1 := by
  have h00 : forget g'.readEmpties.1 = forget g.readEmpties.1 := by
    rw [forget_readEmpties, forget_readEmpties, hgg]
  rw [moveToEmpty_unfold g hi, moveToEmpty_unfold g' hi', buildEmpties_forget hgg, (forget_fields hgg).2.2.2.2.1,
    pickLoop_forget hgg]
  split
  · exact ⟨rfl, h00⟩
  · split
    · exact ⟨rfl, h00⟩
    · rename_i q _
      exact andThen_cong _ _ (remove_cong a) (place_cong a q) _ _ h00

theorem step_cong (op : Op) (g g' : Grid) (hi : Inv g) (hi' : Inv g') (hgg : forget g' = forget g) :
    (step g' op).2 = (step g op).2 ∧ forget (step g' op).1 = forget (step g op).1 := by
  cases op with
  | place a p => exact place_cong a p g g' hgg
  | remove a => exact remove_cong a g g' hgg
  | move a p => exact move_cong a p g g' hgg
  | swap a b => exact swap_cong a b g g' hgg
  | moveToEmpty a s => exact moveToEmpty_cong a s g g' hi hi' hgg
  | moveToOneOf a ps sel he s => exact moveToOneOf_cong a ps sel he s g g' hgg
  | readEmpties =>
    exact ⟨rfl, by show forget g'.readEmpties.1 = forget g.readEmpties.1; rw [forget_readEmpties, forget_readEmpties, hgg]⟩

def accepted (g : Grid) : List Op → List Op
  | [] => []
  | op :: ops =>
    match (step g op).2 with
    | .ok => op :: accepted (step g op).1 ops
    | .err _ => accepted (step g op).1 ops

theorem opOk_forget {g g' : Grid} (h : forget g' = forget g) (op : Op) (hok : OpOk g op) : OpOk g' op := by
  obtain ⟨h1, h2, _, _, _, _, hp, _⟩ := forget_fields h
  cases op with
  | place a p => exact ⟨by rw [hp]; exact hok.1, by unfold Grid.inGrid; rw [h1, h2]; exact hok.2⟩
  | _ => trivial

theorem ObsEq.refl (g : Grid) : ObsEq g g := ⟨rfl, rfl, rfl, rfl, rfl, rfl, rfl, rfl⟩

/-- a rejected call changes nothing a caller can observe (`move_to_empty` may have built `_empties`) -/
theorem step_err_obs (g : Grid) (hw : 0 < g.w) (hh : 0 < g.h) (hi : Inv g) (op : Op) (e : Err)
    (h : (step g op).2 = .err e) : ObsEq g (step g op).1 := by
  cases op with
  | place a p =>
    simp only [step] at h ⊢
    rw [place_err g a p e h]
    exact .refl g
  | remove a =>
    simp only [step] at h ⊢
    rw [remove_err g a e h]
    exact .refl g
  | move a p =>
    simp only [step] at h ⊢
    rw [move_err g a p hi e h]
    exact .refl g
  | swap a b =>
    simp only [step] at h ⊢
    rw [swap_err g a b hi e h]
    exact .refl g
  | moveToEmpty a s =>
    simp only [step] at h ⊢
    rw [moveToEmpty_err g a s hw hh hi e h]
    exact readEmpties_obs g
  | moveToOneOf a ps sel he s =>
    simp only [step] at h ⊢
    rw [moveToOneOf_err g a ps sel he s hi e h]
    exact .refl g
  | readEmpties => simp [step] at h

theorem run_accepted (ops : List Op) : ∀ (g g' : Grid), 0 < g.w → 0 < g.h → Inv g → Inv g' → forget g' = forget g →
    HistOk g ops → forget (run g' (accepted g ops)) = forget (run g ops) ∧ HistOk g' (accepted g ops) := by
  induction ops with
  | nil =>
    intro g g' _ _ _ _ hgg _
    exact ⟨hgg, trivial⟩
  | cons op ops ih =>
    intro g g' hw hh hi hi' hgg hok
    obtain ⟨hok1, hok2⟩ := hok
    obtain ⟨i1, c1⟩ := step_inv_cfg g op hw hh hi hok1
    have hw1 : 0 < (step g op).1.w := by rw [c1.1]; exact hw
    have hh1 : 0 < (step g op).1.h := by rw [c1.2.1]; exact hh
    simp only [run, accepted]
    cases hr : (step g op).2 with
    | err e =>
      simp only []
      have hun := (obsEq_iff_forget _ _).mp (step_err_obs g hw hh hi op e hr)
      exact ih (step g op).1 g' hw1 hh1 i1 hi' (by rw [hgg, hun]) hok2
    | ok =>
      simp only [run]
      have hok1' := opOk_forget hgg op hok1
      have hw' : 0 < g'.w := by rw [(forget_fields hgg).1]; exact hw
      have hh' : 0 < g'.h := by rw [(forget_fields hgg).2.1]; exact hh
      obtain ⟨i1', _⟩ := step_inv_cfg g' op hw' hh' hi' hok1'
      obtain ⟨_, hst⟩ := step_cong op g g' hi hi' hgg
      have := ih (step g op).1 (step g' op).1 hw1 hh1 i1 i1' hst hok2
      exact ⟨this.1, hok1', this.2⟩

/-! ### deleting the rejected calls, followed by any later history -/

def results (g : Grid) : List Op → List Res
  | [] => []
  | op :: ops => (step g op).2 :: results (step g op).1 ops

theorem run_cong (later : List Op) : ∀ (g g' : Grid), 0 < g.w → 0 < g.h → Inv g → Inv g' → forget g' = forget g →
    HistOk g later →
    forget (run g' later) = forget (run g later) ∧ results g' later = results g later ∧ HistOk g' later := by
  induction later with
  | nil =>
    intro g g' _ _ _ _ hgg _
    exact ⟨hgg, rfl, trivial⟩
  | cons op ops ih =>
    intro g g' hw hh hi hi' hgg hok
    obtain ⟨hok1, hok2⟩ := hok
    obtain ⟨i1, c1⟩ := step_inv_cfg g op hw hh hi hok1
    have hw1 : 0 < (step g op).1.w := by rw [c1.1]; exact hw
    have hh1 : 0 < (step g op).1.h := by rw [c1.2.1]; exact hh
    have hok1' := opOk_forget hgg op hok1
    have hw' : 0 < g'.w := by rw [(forget_fields hgg).1]; exact hw
    have hh' : 0 < g'.h := by rw [(forget_fields hgg).2.1]; exact hh
    obtain ⟨i1', _⟩ := step_inv_cfg g' op hw' hh' hi' hok1'
    obtain ⟨hres, hst⟩ := step_cong op g g' hi hi' hgg
    obtain ⟨h1, h2, h3⟩ := ih (step g op).1 (step g' op).1 hw1 hh1 i1 i1' hst hok2
    exact ⟨h1, by simp only [results, hres, h2], hok1', h3⟩

end Mesa.Legacy
