import MesaModel.Proofs.LegacySet
import MesaModel.Proofs.LegacyAgree
import MesaModel.Proofs.TorusDist
/-! The mutating calls of the legacy grids (C08 / C18-legacy): what `remove_agent`, `place_agent`, `move_agent`, `swap_pos` and
the random movers do and return, that every call keeps the representation invariant, `_distance_squared` on a torus, and the
agents of a list of cells.  Defines `SameCfg` and `removePlace`, which property theorems mention (the rest of the
specification vocabulary is in `LegacyDefs.lean`). -/
namespace Mesa.Legacy

open Grid

@[simp] theorem upd_same {β : Type} (f : Coord → β) (p : Coord) (v : β) : upd f p v p = v := by simp [upd]
theorem upd_other {β : Type} (f : Coord → β) (p q : Coord) (v : β) (h : q ≠ p) : upd f p v q = f q := by simp [upd, h]
@[simp] theorem updA_same {β : Type} (f : Aid → β) (a : Aid) (v : β) : updA f a v a = v := by simp [updA]
theorem updA_other {β : Type} (f : Aid → β) (a b : Aid) (v : β) (h : b ≠ a) : updA f a v b = f b := by simp [updA, h]

/-! ### the cells of the grid -/

theorem mem_allCells (g : Grid) (p : Coord) : p ∈ g.allCells ↔ g.inGrid p := by
  simp only [allCells, List.mem_flatMap, List.mem_range, List.mem_map, inGrid]
  constructor
  · rintro ⟨x, hx, y, hy, rfl⟩
    simp only [Int.ofNat_eq_natCast]
    omega
  · intro ⟨h1, h2, h3, h4⟩
    refine ⟨p.1.toNat, by omega, p.2.toNat, by omega, ?_⟩
    apply Prod.ext <;> simp only [Int.ofNat_eq_natCast] <;> omega

theorem sorted_range_map (n : Nat) (x : Int) :
    SortedSet ((List.range n).map fun (y : Nat) => ((x, Int.ofNat y) : Coord)) := by
  unfold SortedSet
  rw [List.pairwise_map]
  have : (List.range n).Pairwise (· < ·) := List.pairwise_lt_range
  refine List.Pairwise.imp ?_ this
  intro a b hab
  simp only [clt, Int.ofNat_eq_natCast, Bool.or_eq_true, decide_eq_true_eq, Bool.and_eq_true, beq_iff_eq, true_and]
  omega

theorem sorted_allCells (g : Grid) : SortedSet g.allCells := by
  unfold allCells SortedSet
  rw [List.pairwise_flatMap]
  refine ⟨fun x _ => sorted_range_map _ _, ?_⟩
  have : (List.range g.w.toNat).Pairwise (· < ·) := List.pairwise_lt_range
  refine List.Pairwise.imp ?_ this
  intro a b hab p hp q hq
  simp only [List.mem_map, List.mem_range] at hp hq
  obtain ⟨y, _, rfl⟩ := hp
  obtain ⟨y', _, rfl⟩ := hq
  simp only [clt, Int.ofNat_eq_natCast, Bool.or_eq_true, decide_eq_true_eq, Bool.and_eq_true, beq_iff_eq]
  omega

theorem oob_iff (g : Grid) (p : Coord) : g.oob p = false ↔ g.inGrid p := oob_eq_false g.dim p

theorem inGrid_emod (g : Grid) (hw : 0 < g.w) (hh : 0 < g.h) (x y : Int) : g.inGrid (x % g.w, y % g.h) :=
  ⟨Int.emod_nonneg _ (by omega), Int.emod_lt_of_pos _ hw, Int.emod_nonneg _ (by omega), Int.emod_lt_of_pos _ hh⟩

theorem mem_buildEmpties (g : Grid) (p : Coord) : p ∈ g.buildEmpties ↔ g.inGrid p ∧ g.content p = [] := by
  simp [buildEmpties, mem_allCells, isCellEmpty]

theorem sorted_buildEmpties (g : Grid) : SortedSet g.buildEmpties :=
  List.Pairwise.filter _ (sorted_allCells g)

/-! ### the configuration and the initial grid -/

/-- the fields no call ever changes -/
def SameCfg (g g' : Grid) : Prop :=
  g'.w = g.w ∧ g'.h = g.h ∧ g'.torus = g.torus ∧ g'.multi = g.multi ∧ g'.cutoff = g.cutoff

theorem SameCfg.refl (g : Grid) : SameCfg g g := ⟨rfl, rfl, rfl, rfl, rfl⟩
theorem SameCfg.trans {g g' g'' : Grid} (h : SameCfg g g') (h' : SameCfg g' g'') : SameCfg g g'' := by
  obtain ⟨a, b, c, d, e⟩ := h
  obtain ⟨a', b', c', d', e'⟩ := h'
  exact ⟨a'.trans a, b'.trans b, c'.trans c, d'.trans d, e'.trans e⟩
theorem SameCfg.inGrid {g g' : Grid} (h : SameCfg g g') (p : Coord) : g'.inGrid p ↔ g.inGrid p := by
  unfold SameCfg at h
  unfold Grid.inGrid
  rw [h.1, h.2.1]

theorem inv_init (w h : Int) (torus multi : Bool) (cutoff : Nat) : Inv (init w h torus multi cutoff) where
  pos_content := by simp [init]
  in_grid := by simp [init]
  nodup := by simp [init]
  single := by simp [init]
  mask := by simp [init]
  empties := by simp [init]

/-! ### one cell and one agent's `pos` change at a time -/

/-- cell `p` holds `c` and agent `a` has position `pa`; `_empties` and `_empty_mask` follow the cell -/
def Grid.setCell (g : Grid) (p : Coord) (c : List Aid) (a : Aid) (pa : Option Coord) : Grid :=
  { g with content := upd g.content p c, pos := updA g.pos a pa,
           empties := g.empties.map (if c.isEmpty then sadd p else sdiscard p),
           mask := upd g.mask p c.isEmpty }

section
variable (g : Grid) (p q : Coord) (c : List Aid) (a b : Aid) (pa : Option Coord)

@[simp] theorem setCell_content_self : (g.setCell p c a pa).content p = c := upd_same ..
theorem setCell_content_other (h : q ≠ p) : (g.setCell p c a pa).content q = g.content q := upd_other _ _ _ _ h
@[simp] theorem setCell_pos_self : (g.setCell p c a pa).pos a = pa := updA_same ..
theorem setCell_pos_other (h : b ≠ a) : (g.setCell p c a pa).pos b = g.pos b := updA_other _ _ _ _ h
theorem setCell_cfg : SameCfg g (g.setCell p c a pa) := SameCfg.refl g
end

/-- the invariant is local to the touched cell -/
theorem Inv.setCell {g : Grid} (hi : Inv g) {p : Coord} {c : List Aid} {a : Aid} {pa : Option Coord}
    (hp : g.inGrid p) (hnd : c.Nodup) (hs : g.multi = false → c.length ≤ 1)
    (hc : ∀ b, b ≠ a → (b ∈ c ↔ b ∈ g.content p)) (hao : ∀ q, q ≠ p → a ∉ g.content q)
    (ha : a ∈ c ↔ pa = some p) (hpa : ∀ q, pa = some q → q = p) : Inv (g.setCell p c a pa) := by
  have hag : Agree (g.setCell p c a pa).pos (g.setCell p c a pa).content :=
    hi.agree.set (k := p) (a := a) (fun q hq => setCell_content_other _ _ _ _ _ _ hq)
      (fun b hb => setCell_pos_other _ _ _ _ _ _ hb) (by rwa [setCell_content_self])
      (by rw [setCell_content_self]; exact hc) hao (by rw [setCell_content_self, setCell_pos_self]; exact ha)
      (by rw [setCell_pos_self]; exact hpa)
  refine ⟨hag.pos_content, fun q => ?_, hag.nodup, fun hm q => ?_, fun q hq' => ?_, fun e he => ?_⟩
  · by_cases hq : q = p
    · subst hq
      exact fun _ => hp
    · rw [setCell_content_other _ _ _ _ _ _ hq]
      exact hi.in_grid q
  · by_cases hq : q = p
    · subst hq
      rw [setCell_content_self]
      exact hs hm
    · rw [setCell_content_other _ _ _ _ _ _ hq]
      exact hi.single hm q
  · by_cases hq : q = p
    · subst hq
      simp [Grid.setCell]
    · rw [setCell_content_other _ _ _ _ _ _ hq]
      simp only [Grid.setCell, upd, hq, if_false]
      exact hi.mask q hq'
  · simp only [Grid.setCell, Option.map_eq_some_iff] at he
    obtain ⟨e0, he0, rfl⟩ := he
    obtain ⟨hs0, hmem⟩ := hi.empties e0 he0
    have hcell : ∀ q, q ≠ p → (q ∈ e0 ↔ g.inGrid q ∧ upd g.content p c q = []) := fun q hq => by
      rw [upd_other _ _ _ _ hq]
      exact hmem q
    by_cases hce : c = []
    · subst hce
      refine ⟨sorted_sadd p e0 hs0, fun q => ?_⟩
      simp only [List.isEmpty_nil, if_true, mem_sadd]
      by_cases hq : q = p
      · subst hq
        simp
        exact hp
      · simp only [hq, false_or]
        exact hcell q hq
    · refine ⟨by rw [if_neg (by simpa using hce)]; exact sorted_sdiscard p e0 hs0, fun q => ?_⟩
      rw [if_neg (by simpa using hce), mem_sdiscard]
      by_cases hq : q = p
      · subst hq
        simp [hce]
      · simp only [hq, ne_eq, not_false_eq_true, and_true]
        exact hcell q hq

theorem Inv.mem_content {g : Grid} (hi : Inv g) {a : Aid} {p : Coord} (hp : g.pos a = some p) :
    a ∈ g.content p ∧ g.inGrid p ∧ ∀ q, q ≠ p → a ∉ g.content q := by
  obtain ⟨hap, huniq⟩ := hi.agree.mem_content hp
  exact ⟨hap, hi.in_grid p (List.ne_nil_of_mem hap), fun q hq h => hq (huniq q h)⟩

theorem Inv.not_mem_content {g : Grid} (hi : Inv g) {a : Aid} (hp : g.pos a = none) (q : Coord) : a ∉ g.content q :=
  (hi.agree.pos_eq_none a).mp hp q

theorem Inv.single_eq {g : Grid} (hi : Inv g) (hm : g.multi = false) {a : Aid} {p : Coord} (h : a ∈ g.content p) :
    g.content p = [a] := by
  have hl := hi.single hm p
  match hc : g.content p, h, hl with
  | [x], h, _ => rw [List.mem_singleton.mp h]
  | _ :: _ :: _, _, hl => simp at hl

/-! ### what `remove_agent` / `place_agent` can touch, in any state -/

theorem remove_frame (g : Grid) (a : Aid) :
    (∃ r, g.remove a = (g, r) ∧ (r = .ok → g.pos a = none)) ∨
    ∃ p c e m, g.pos a = some p ∧ g.remove a =
      ({ g with content := upd g.content p c, pos := updA g.pos a none, empties := e, mask := m }, .ok) := by
  unfold remove
  split
  · rename_i hp
    left
    split <;> exact ⟨_, rfl, fun _ => hp⟩
  · rename_i p hp
    split
    · split
      · simp only []
        split <;> exact Or.inr ⟨p, _, _, _, hp, rfl⟩
      · exact Or.inl ⟨_, rfl, fun h => by cases h⟩
    · exact Or.inr ⟨p, _, _, _, hp, rfl⟩

theorem place_frame (g : Grid) (a : Aid) (p : Coord) :
    (∃ r, g.place a p = (g, r) ∧ (r = .ok → g.pos a ≠ none)) ∨
    ∃ c e m, g.place a p =
      ({ g with content := upd g.content p c, pos := updA g.pos a (some p), empties := e, mask := m }, .ok) := by
  unfold place
  split
  · split
    · exact Or.inr ⟨_, _, _, rfl⟩
    · rename_i h
      exact Or.inl ⟨_, rfl, fun _ hn => h (Or.inl hn)⟩
  · split
    · exact Or.inr ⟨_, _, _, rfl⟩
    · exact Or.inl ⟨_, rfl, fun h => by cases h⟩

theorem place_cfg (g : Grid) (a : Aid) (p : Coord) : SameCfg g (g.place a p).1 := by
  rcases place_frame g a p with ⟨r, h, _⟩ | ⟨c, e, m, h⟩ <;> rw [h] <;> exact SameCfg.refl g

theorem remove_cfg (g : Grid) (a : Aid) : SameCfg g (g.remove a).1 := by
  rcases remove_frame g a with ⟨r, h, _⟩ | ⟨p, c, e, m, _, h⟩ <;> rw [h] <;> exact SameCfg.refl g

theorem remove_err (g : Grid) (a : Aid) (e : Err) (h : (g.remove a).2 = .err e) : (g.remove a).1 = g := by
  rcases remove_frame g a with ⟨r, h', _⟩ | ⟨p, c, e', m, _, h'⟩ <;> rw [h'] at h ⊢
  cases h

theorem remove_ok_pos (g : Grid) (a : Aid) (h : (g.remove a).2 = .ok) : (g.remove a).1.pos a = none := by
  rcases remove_frame g a with ⟨r, h', hr⟩ | ⟨p, c, e', m, _, h'⟩ <;> rw [h'] at h ⊢
  · exact hr h
  · exact updA_same ..

theorem remove_pos_other (g : Grid) (a b : Aid) (hb : b ≠ a) : (g.remove a).1.pos b = g.pos b := by
  rcases remove_frame g a with ⟨r, h', _⟩ | ⟨p, c, e', m, _, h'⟩ <;> rw [h']
  exact updA_other _ _ _ _ hb

theorem remove_content_other (g : Grid) (a : Aid) (q : Coord) (hq : g.pos a ≠ some q) :
    (g.remove a).1.content q = g.content q := by
  rcases remove_frame g a with ⟨r, h', _⟩ | ⟨p, c, e', m, hp, h'⟩ <;> rw [h']
  exact upd_other _ _ _ _ fun e => hq (e ▸ hp)

theorem place_err (g : Grid) (a : Aid) (p : Coord) (e : Err) (h : (g.place a p).2 = .err e) : (g.place a p).1 = g := by
  rcases place_frame g a p with ⟨r, h', _⟩ | ⟨c, e', m, h'⟩ <;> rw [h'] at h ⊢
  cases h

theorem place_ok_pos (g : Grid) (a : Aid) (p : Coord) (hpos : g.pos a = none) (h : (g.place a p).2 = .ok) :
    (g.place a p).1.pos a = some p := by
  rcases place_frame g a p with ⟨r, h', hr⟩ | ⟨c, e', m, h'⟩ <;> rw [h'] at h ⊢
  · exact absurd hpos (hr h)
  · exact updA_same ..

theorem place_pos_other (g : Grid) (a b : Aid) (p : Coord) (hb : b ≠ a) : (g.place a p).1.pos b = g.pos b := by
  rcases place_frame g a p with ⟨r, h', _⟩ | ⟨c, e', m, h'⟩ <;> rw [h']
  exact updA_other _ _ _ _ hb

theorem place_content_other (g : Grid) (a : Aid) (p q : Coord) (hq : q ≠ p) : (g.place a p).1.content q = g.content q := by
  rcases place_frame g a p with ⟨r, h', _⟩ | ⟨c, e', m, h'⟩ <;> rw [h']
  exact upd_other _ _ _ _ hq

/-! ### `remove_agent` and `place_agent`, case by case -/

theorem remove_none (g : Grid) (a : Aid) (hp : g.pos a = none) :
    g.remove a = (g, if g.multi then .err .type else .ok) := by
  unfold remove
  rw [hp]
  cases g.multi <;> rfl

theorem remove_eq {g : Grid} (hi : Inv g) {a : Aid} {p : Coord} (hp : g.pos a = some p) :
    g.remove a = (g.setCell p ((g.content p).erase a) a none, .ok) := by
  obtain ⟨hap, hpg, _⟩ := hi.mem_content hp
  unfold remove
  rw [hp]
  simp only []
  by_cases hm : g.multi = true
  · rw [if_pos hm, if_pos hap]
    by_cases hc : ((g.content p).erase a).isEmpty = true
    · simp only [Grid.setCell, hc, if_true]
    · -- the cell stays occupied: it was not in `_empties`, its mask bit was already off
      have hm : upd g.mask p false = g.mask := by
        funext q
        by_cases hq : q = p
        · subst hq
          rw [upd_same, hi.mask q hpg]
          simpa using List.ne_nil_of_mem hap
        · exact upd_other _ _ _ _ hq
      have he : g.empties.map (sdiscard p) = g.empties := by
        cases he : g.empties with
        | none => rfl
        | some e =>
          have hpe : p ∉ e := fun h => List.ne_nil_of_mem hap (((hi.empties e he).2 p).mp h).2
          simp only [Option.map_some, sdiscard, Option.some.injEq, List.filter_eq_self, bne_iff_ne]
          rintro q hq rfl
          exact hpe hq
      simp only [Grid.setCell, hc, Bool.false_eq_true, if_false, hm, he]
  · rw [if_neg hm]
    simp [Grid.setCell, hi.single_eq (by simpa using hm) hap]

theorem place_eq {g : Grid} {a : Aid} {p : Coord} (hpos : g.pos a = none) (h : g.multi = true ∨ g.content p = []) :
    g.place a p = (g.setCell p (g.content p ++ [a]) a (some p), .ok) := by
  have he : (g.content p ++ [a]).isEmpty = false := by simp
  unfold place
  by_cases hm : g.multi = true
  · rw [if_pos hm, if_pos (Or.inl hpos)]
    simp [Grid.setCell, he]
  · have hc : g.content p = [] := h.resolve_left hm
    rw [if_neg hm, if_pos (by simp [isCellEmpty, hc])]; simp [Grid.setCell, hc]

theorem place_full {g : Grid} (a : Aid) {p : Coord} (hm : g.multi = false) (hc : g.content p ≠ []) :
    g.place a p = (g, .err .full) := by
  unfold place
  simp [hm, isCellEmpty, hc]

theorem remove_inv (g : Grid) (a : Aid) (hi : Inv g) : Inv (g.remove a).1 := by
  cases hp : g.pos a with
  | none =>
    rw [remove_none g a hp]
    exact hi
  | some p =>
    obtain ⟨hap, hpg, hao⟩ := hi.mem_content hp
    have hnd := hi.nodup p
    rw [remove_eq hi hp]
    exact hi.setCell hpg (hnd.erase a) (fun hm => Nat.le_trans (List.length_erase_le ..) (hi.single hm p))
      (fun b hb => List.mem_erase_of_ne hb) hao (by simp [hnd.mem_erase_iff]) (by simp)

theorem place_inv (g : Grid) (a : Aid) (p : Coord) (hi : Inv g) (hpos : g.pos a = none) (hp : g.inGrid p) :
    Inv (g.place a p).1 := by
  have hnot := hi.not_mem_content hpos
  by_cases h : g.multi = true ∨ g.content p = []
  · rw [place_eq hpos h]
    refine hi.setCell hp ?_ (fun hm => ?_) (fun b hb => by simp [hb]) (fun q _ => hnot q) (by simp) (by simp)
    · exact List.nodup_append.mpr ⟨hi.nodup p, by simp, by simp; exact fun x hx e => hnot p (e ▸ hx)⟩
    · have : g.content p = [] := by simpa [hm] using h
      simp [this]
  · rw [place_full a (by simpa using fun hm => h (Or.inl hm)) (fun hc => h (Or.inr hc))]; exact hi

/-! ### what `remove_agent` / `place_agent` / `torus_adj` return -/

theorem remove_single_content (g : Grid) (a : Aid) (p : Coord) (hm : g.multi = false) (hp : g.pos a = some p) :
    (g.remove a).1.content p = [] := by
  unfold remove
  rw [hp]
  simp [hm]

/-- `remove_agent` raises only for an unplaced agent on a MultiGrid (TypeError) -/
theorem remove_res (g : Grid) (hi : Inv g) (a : Aid) :
    (g.remove a).2 = if g.pos a = none ∧ g.multi = true then .err .type else .ok := by
  cases hp : g.pos a with
  | none =>
    rw [remove_none g a hp]
    cases g.multi <;> simp
  | some p =>
    rw [remove_eq hi hp]
    simp

theorem remove_content (g : Grid) (hi : Inv g) (a : Aid) (q : Coord) :
    (g.remove a).1.content q = (g.content q).erase a := by
  cases hp : g.pos a with
  | none => rw [remove_none g a hp, List.erase_of_not_mem (hi.not_mem_content hp q)]
  | some p =>
    rw [remove_eq hi hp]
    by_cases hq : q = p
    · subst hq
      exact setCell_content_self ..
    · rw [List.erase_of_not_mem ((hi.mem_content hp).2.2 q hq)]
      exact setCell_content_other _ _ _ _ _ _ hq

theorem place_res (g : Grid) (a : Aid) (p : Coord) :
    (g.place a p).2 = if g.multi = false ∧ g.content p ≠ [] then .err .full else .ok := by
  unfold place
  by_cases hm : g.multi = true
  · simp [hm]
    split <;> rfl
  · simp only [Bool.not_eq_true] at hm
    simp only [hm, Bool.false_eq_true, if_false, isCellEmpty, true_and]
    by_cases hc : g.content p = [] <;> simp [hc]

theorem place_ok_iff (g : Grid) (a : Aid) (p : Coord) : (g.place a p).2 = .ok ↔ g.multi = true ∨ g.content p = [] := by
  rw [place_res]
  by_cases hm : g.multi = true <;> by_cases hc : g.content p = [] <;> simp [hm, hc]

theorem place_content_self (g : Grid) (a : Aid) (p : Coord) (hpos : g.pos a = none) (hok : (g.place a p).2 = .ok) :
    (g.place a p).1.content p = g.content p ++ [a] := by
  rw [place_eq hpos ((place_ok_iff g a p).mp hok)]
  exact setCell_content_self ..

theorem torusAdj_eq (g : Grid) (p : Coord) :
    g.torusAdj p = if g.inGrid p then .ok p else if g.torus then .ok (p.1 % g.w, p.2 % g.h) else .error .oob := by
  unfold torusAdj
  by_cases hin : g.inGrid p
  · rw [if_pos hin, (oob_iff g p).mpr hin]
    rfl
  · have ho : g.oob p = true := by simpa using fun h => hin ((oob_iff g p).mp h)
    rw [if_neg hin, ho]
    cases g.torus <;> rfl

theorem torusAdj_inGrid (g : Grid) (p : Coord) (h : g.inGrid p) : g.torusAdj p = .ok p := by
  rw [torusAdj_eq, if_pos h]

theorem torusAdj_error_iff (g : Grid) (p : Coord) : g.torusAdj p = .error .oob ↔ ¬ g.inGrid p ∧ g.torus = false := by
  rw [torusAdj_eq]
  by_cases hin : g.inGrid p
  · simp [hin]
  · cases g.torus <;> simp [hin]

theorem torusAdj_ok (g : Grid) (hw : 0 < g.w) (hh : 0 < g.h) (p q : Coord) (h : g.torusAdj p = .ok q) :
    g.inGrid q ∧ ((g.inGrid p ∧ q = p) ∨ (¬ g.inGrid p ∧ g.torus = true ∧ q = (p.1 % g.w, p.2 % g.h))) := by
  rw [torusAdj_eq] at h
  split at h
  · cases h
    exact ⟨‹_›, Or.inl ⟨‹_›, rfl⟩⟩
  · split at h
    · cases h
      exact ⟨inGrid_emod g hw hh _ _, Or.inr ⟨‹_›, ‹_›, rfl⟩⟩
    · cases h

theorem torusAdj_idem (g : Grid) (p q : Coord) (h : g.torusAdj p = .ok q) : g.torusAdj q = .ok q := by
  unfold torusAdj at h ⊢
  split at h
  · rename_i ho
    cases h
    rw [if_pos ho]
  · split at h
    · cases h
    · rename_i ht
      cases h
      rw [if_neg ht]
      split
      · rfl
      · simp only [Int.emod_emod]

/-! ### reading `empties` -/

theorem readEmpties_spec (g : Grid) (hi : Inv g) :
    SortedSet g.readEmpties.2 ∧ ∀ p, p ∈ g.readEmpties.2 ↔ g.inGrid p ∧ g.content p = [] := by
  unfold readEmpties
  cases he : g.empties with
  | some e => exact hi.empties e he
  | none => exact ⟨sorted_buildEmpties g, mem_buildEmpties g⟩

/-- a set built earlier and maintained since is the list a fresh `build_empties` gives now -/
theorem readEmpties_eq_build (g : Grid) (hi : Inv g) : g.readEmpties.2 = g.buildEmpties := by
  have hs := readEmpties_spec g hi
  exact SortedSet.ext hs.1 (sorted_buildEmpties g) (fun c => by rw [hs.2 c, mem_buildEmpties])

theorem readEmpties_obs (g : Grid) : ObsEq g g.readEmpties.1 := by
  unfold readEmpties ObsEq
  cases g.empties <;> simp

theorem readEmpties_cfg (g : Grid) : SameCfg g g.readEmpties.1 := by
  have := readEmpties_obs g
  exact ⟨this.1, this.2.1, this.2.2.1, this.2.2.2.1, this.2.2.2.2.1⟩

theorem readEmpties_inv (g : Grid) (hi : Inv g) : Inv g.readEmpties.1 := by
  unfold readEmpties
  cases he : g.empties with
  | some e => exact hi
  | none =>
    refine ⟨hi.pos_content, hi.in_grid, hi.nodup, hi.single, hi.mask, ?_⟩
    intro e h
    simp only [Option.some.injEq] at h
    subst h
    exact ⟨sorted_buildEmpties g, mem_buildEmpties g⟩

theorem readEmpties_built (g : Grid) : g.readEmpties.1.empties = some g.readEmpties.2 := by
  unfold readEmpties
  cases he : g.empties <;> simp [he]

/-- the sampling loop draws pairs `(x, y)` — `x` first — and stops at the first pair whose cell `(x % w, y % h)` is empty:
    the cell found is the one of attempt `k`, every earlier attempt hit an occupied cell -/
theorem pickLoop_draws (g : Grid) (s : Script) (q : Coord) (h : g.pickLoop s = some q) :
    ∃ (k x y : Nat), s[2 * k]? = some x ∧ s[2 * k + 1]? = some y ∧ q = ((x : Int) % g.w, (y : Int) % g.h) ∧ g.isCellEmpty q = true ∧
      ∀ j, j < k → ∃ (x' y' : Nat), s[2 * j]? = some x' ∧ s[2 * j + 1]? = some y' ∧
        g.isCellEmpty ((x' : Int) % g.w, (y' : Int) % g.h) = false := by
  induction s using pickLoop.induct g with
  | case1 x y rest p hp =>
    rw [pickLoop, if_pos hp] at h
    cases h
    exact ⟨0, x, y, by simp, by simp, rfl, hp, fun j hj => by omega⟩
  | case2 x y rest p hp ih =>
    rw [pickLoop, if_neg hp] at h
    obtain ⟨k, x', y', h1, h2, h3, h4, h5⟩ := ih h
    refine ⟨k + 1, x', y', ?_, ?_, h3, h4, fun j hj => ?_⟩
    · rw [show 2 * (k + 1) = 2 * k + 1 + 1 by omega]; simpa using h1
    · rw [show 2 * (k + 1) + 1 = 2 * k + 1 + 1 + 1 by omega]; simpa using h2
    · cases j with
      | zero => exact ⟨x, y, by simp, by simp, by simpa using hp⟩
      | succ j =>
        obtain ⟨x'', y'', g1, g2, g3⟩ := h5 j (by omega)
        refine ⟨x'', y'', ?_, ?_, g3⟩
        · rw [show 2 * (j + 1) = 2 * j + 1 + 1 by omega]; simpa using g1
        · rw [show 2 * (j + 1) + 1 = 2 * j + 1 + 1 + 1 by omega]; simpa using g2
  | case3 s hs =>
    unfold pickLoop at h
    split at h
    · exact absurd rfl (hs _ _ _)
    · cases h

theorem pickLoop_spec (g : Grid) (hw : 0 < g.w) (hh : 0 < g.h) (s : Script) (q : Coord) (h : g.pickLoop s = some q) :
    g.inGrid q ∧ g.content q = [] := by
  obtain ⟨_, x, y, _, _, rfl, he, _⟩ := pickLoop_draws g s q h
  exact ⟨inGrid_emod g hw hh _ _, by simpa [isCellEmpty] using he⟩

/-! ### `remove_agent` followed by `place_agent` -/

/-- the tail shared by `_Grid.move_agent` and `move_to_empty` -/
def removePlace (g : Grid) (a : Aid) (q : Coord) : Grid × Res :=
  match g.remove a with
  | (g1, .err e) => (g1, .err e)
  | (g1, .ok) => g1.place a q

theorem moveBase_eq (g : Grid) (a : Aid) (p : Coord) :
    g.moveBase a p = match g.torusAdj p with
      | .error e => (g, .err e)
      | .ok q => removePlace g a q := by
  unfold moveBase removePlace
  rfl

theorem removePlace_of_err {g : Grid} {a : Aid} {e : Err} (q : Coord) (h : (g.remove a).2 = .err e) :
    removePlace g a q = (g, .err e) := by
  have h1 := remove_err g a e h
  unfold removePlace
  rcases hr : g.remove a with ⟨g1, r⟩
  rw [hr] at h h1
  simp only [] at h h1
  subst h h1
  rfl

theorem removePlace_of_ok {g : Grid} {a : Aid} (q : Coord) (h : (g.remove a).2 = .ok) :
    removePlace g a q = (g.remove a).1.place a q := by
  unfold removePlace
  rcases hr : g.remove a with ⟨g1, r⟩
  rw [hr] at h
  simp only [] at h
  subst h
  rfl

theorem removePlace_inv (g : Grid) (a : Aid) (q : Coord) (hi : Inv g) (hq : g.inGrid q) : Inv (removePlace g a q).1 := by
  cases hr : (g.remove a).2 with
  | err e =>
    rw [removePlace_of_err q hr]
    exact hi
  | ok =>
    rw [removePlace_of_ok q hr]
    exact place_inv _ a q (remove_inv g a hi) (remove_ok_pos g a hr) (((remove_cfg g a).inGrid q).mpr hq)

theorem removePlace_cfg (g : Grid) (a : Aid) (q : Coord) : SameCfg g (removePlace g a q).1 := by
  cases hr : (g.remove a).2 with
  | err e =>
    rw [removePlace_of_err q hr]
    exact SameCfg.refl g
  | ok =>
    rw [removePlace_of_ok q hr]
    exact (remove_cfg g a).trans (place_cfg _ a q)

theorem removePlace_ok_pos (g : Grid) (a : Aid) (q : Coord) (h : (removePlace g a q).2 = .ok) :
    (removePlace g a q).1.pos a = some q := by
  cases hr : (g.remove a).2 with
  | err e =>
    rw [removePlace_of_err q hr] at h
    cases h
  | ok =>
    rw [removePlace_of_ok q hr] at h ⊢
    exact place_ok_pos _ a q (remove_ok_pos g a hr) h

theorem removePlace_pos_other (g : Grid) (a b : Aid) (q : Coord) (hb : b ≠ a) :
    (removePlace g a q).1.pos b = g.pos b := by
  cases hr : (g.remove a).2 with
  | err e => rw [removePlace_of_err q hr]
  | ok => rw [removePlace_of_ok q hr, place_pos_other _ a b q hb, remove_pos_other g a b hb]

theorem erase_eq_nil_iff {l : List Aid} (h : l.length ≤ 1) (a : Aid) : l.erase a = [] ↔ l = [] ∨ l = [a] := by
  match l, h with
  | [], _ => simp
  | [x], _ => by_cases hx : x = a <;> simp [hx]

/-- rejected exactly for an unplaced agent on a MultiGrid (TypeError) and for a SingleGrid cell that holds
    somebody else (`Cell not empty`) -/
theorem removePlace_res (g : Grid) (hi : Inv g) (a : Aid) (q : Coord) :
    (removePlace g a q).2 =
      if g.pos a = none ∧ g.multi = true then .err .type
      else if g.multi = false ∧ g.content q ≠ [] ∧ g.content q ≠ [a] then .err .full else .ok := by
  have hr := remove_res g hi a
  by_cases h : g.pos a = none ∧ g.multi = true
  · rw [if_pos h] at hr ⊢
    rw [removePlace_of_err q hr]
  · rw [if_neg h] at hr ⊢
    rw [removePlace_of_ok q hr, place_res, (remove_cfg g a).2.2.2.1, remove_content g hi a q]
    by_cases hm : g.multi = false
    · simp only [hm, true_and, ne_eq, erase_eq_nil_iff (hi.single hm q), not_or]
    · simp [hm]

/-- if the target is free (or holds only the mover itself) the pair never half-fails:
    an error means `remove_agent` raised before changing anything -/
theorem removePlace_err (g : Grid) (a : Aid) (q : Coord) (hi : Inv g)
    (hfree : g.multi = true ∨ g.content q = [] ∨ g.content q = [a]) (e : Err)
    (h : (removePlace g a q).2 = .err e) : (removePlace g a q).1 = g := by
  rw [removePlace_res g hi] at h
  by_cases hu : g.pos a = none ∧ g.multi = true
  · rw [removePlace_of_err (e := .type) q (by rw [remove_res g hi, if_pos hu])]
  · rw [if_neg hu] at h
    split at h
    · rename_i hocc
      rcases hfree with hf | hf | hf
      · rw [hocc.1] at hf
        cases hf
      · exact absurd hf hocc.2.1
      · exact absurd hf hocc.2.2
    · cases h

/-- the cell lists after the pair: the order inside a MultiGrid cell list is observable (iteration,
    `get_cell_list_contents`, `get_neighbors`), so they are specified as lists: the mover goes to the end of the target's -/
theorem removePlace_contents (g : Grid) (hi : Inv g) (a : Aid) (q cur : Coord) (hcur : g.pos a = some cur)
    (hok : (removePlace g a q).2 = .ok) :
    (removePlace g a q).1.content q = (g.content q).erase a ++ [a] ∧
    (cur ≠ q → (removePlace g a q).1.content cur = (g.content cur).erase a) ∧
    ∀ x, x ≠ cur → x ≠ q → (removePlace g a q).1.content x = g.content x := by
  have hr : (g.remove a).2 = .ok := by rw [remove_res g hi, if_neg (by rw [hcur]; simp)]
  rw [removePlace_of_ok q hr] at hok ⊢
  refine ⟨?_, fun hne => ?_, fun x _ hx => ?_⟩
  · rw [place_content_self _ a q (remove_ok_pos g a hr) hok, remove_content g hi]
  · rw [place_content_other _ a q cur hne, remove_content g hi]
  · rw [place_content_other _ a q x hx, remove_content g hi,
      List.erase_of_not_mem ((hi.mem_content hcur).2.2 x ‹x ≠ cur›)]

/-! ### `move_agent` -/

theorem move_eq (g : Grid) (a : Aid) (p : Coord) :
    g.move a p = match g.torusAdj p with
      | .error e => (g, .err e)
      | .ok q => if g.multi = false ∧ g.content q ≠ [] ∧ g.content q ≠ [a] then (g, .err .full)
                 else removePlace g a q := by
  unfold move
  cases ht : g.torusAdj p with
  | error e =>
    rw [moveBase_eq, ht]
    split <;> rfl
  | ok q =>
    simp only []
    by_cases hm : g.multi = true
    · rw [if_pos hm, moveBase_eq, ht, if_neg (by simp [hm])]
    · have hmf : g.multi = false := by simpa using hm
      rw [if_neg hm, moveBase_eq, torusAdj_idem g p q ht]
      by_cases hocc : g.content q ≠ [] ∧ g.content q ≠ [a]
      · rw [if_pos (by simpa [isCellEmpty] using hocc), if_pos ⟨hmf, hocc⟩]
      · rw [if_neg (by simpa [isCellEmpty] using hocc), if_neg (fun h => hocc h.2)]

theorem move_inv (g : Grid) (a : Aid) (p : Coord) (hw : 0 < g.w) (hh : 0 < g.h) (hi : Inv g) :
    Inv (g.move a p).1 := by
  rw [move_eq]
  cases ht : g.torusAdj p with
  | error e => exact hi
  | ok q =>
    simp only []
    split
    · exact hi
    · exact removePlace_inv g a q hi (torusAdj_ok g hw hh p q ht).1

theorem move_cfg (g : Grid) (a : Aid) (p : Coord) : SameCfg g (g.move a p).1 := by
  rw [move_eq]
  cases g.torusAdj p with
  | error e => exact SameCfg.refl g
  | ok q =>
    simp only []
    split
    · exact SameCfg.refl g
    · exact removePlace_cfg g a q

theorem move_ok_eq (g : Grid) (a : Aid) (p : Coord) (h : (g.move a p).2 = .ok) :
    ∃ q, g.torusAdj p = .ok q ∧ g.move a p = removePlace g a q := by
  rw [move_eq] at h ⊢
  cases ht : g.torusAdj p with
  | error e =>
    rw [ht] at h
    cases h
  | ok q =>
    rw [ht] at h
    simp only [] at h ⊢
    split at h
    · cases h
    · rename_i hocc
      exact ⟨q, rfl, if_neg hocc⟩

theorem move_ok_pos (g : Grid) (a : Aid) (p : Coord) (h : (g.move a p).2 = .ok) :
    ∃ q, g.torusAdj p = .ok q ∧ (g.move a p).1.pos a = some q := by
  obtain ⟨q, hq, heq⟩ := move_ok_eq g a p h
  rw [heq] at h ⊢
  exact ⟨q, hq, removePlace_ok_pos g a q h⟩

theorem move_pos_other (g : Grid) (a b : Aid) (p : Coord) (hb : b ≠ a) : (g.move a p).1.pos b = g.pos b := by
  rw [move_eq]
  cases g.torusAdj p with
  | error e => rfl
  | ok q =>
    simp only []
    split
    · rfl
    · exact removePlace_pos_other g a b q hb

theorem move_res (g : Grid) (hi : Inv g) (a : Aid) (p : Coord) :
    (g.move a p).2 =
      match g.torusAdj p with
      | .error e => .err e
      | .ok q =>
        if g.pos a = none ∧ g.multi = true then .err .type
        else if g.multi = false ∧ g.content q ≠ [] ∧ g.content q ≠ [a] then .err .full else .ok := by
  rw [move_eq]
  cases g.torusAdj p with
  | error e => rfl
  | ok q =>
    simp only []
    by_cases hocc : g.multi = false ∧ g.content q ≠ [] ∧ g.content q ≠ [a]
    · rw [if_pos hocc, if_neg (fun h => by rw [hocc.1] at h; cases h.2), if_pos hocc]
    · rw [if_neg hocc]
      exact removePlace_res g hi a q

/-- a rejected `move_agent` leaves the grid exactly as it was (S2 repair) -/
theorem move_err (g : Grid) (a : Aid) (p : Coord) (hi : Inv g) (e : Err)
    (h : (g.move a p).2 = .err e) : (g.move a p).1 = g := by
  rw [move_eq] at h ⊢
  cases ht : g.torusAdj p with
  | error e => rfl
  | ok q =>
    rw [ht] at h
    simp only [] at h ⊢
    split
    · rfl
    · rename_i hocc
      rw [if_neg hocc] at h
      refine removePlace_err g a q hi ?_ e h
      by_cases hm : g.multi = true
      · exact Or.inl hm
      · by_cases hc : g.content q = []
        · exact Or.inr (Or.inl hc)
        · exact Or.inr (Or.inr (Classical.byContradiction fun hn => hocc ⟨by simpa using hm, hc, hn⟩))

/-! ### `swap_pos` -/

theorem remove_step {g : Grid} (hi : Inv g) {a : Aid} {p : Coord} (hp : g.pos a = some p) :
    ∃ g1, g.remove a = (g1, .ok) ∧ Inv g1 ∧ SameCfg g g1 ∧ g1.pos = updA g.pos a none ∧
      g1.content = upd g.content p ((g.content p).erase a) :=
  ⟨_, remove_eq hi hp, by have := remove_inv g a hi; rwa [remove_eq hi hp] at this, setCell_cfg .., rfl, rfl⟩

theorem place_step {g : Grid} (hi : Inv g) {a : Aid} {p : Coord} (hpos : g.pos a = none) (hp : g.inGrid p)
    (h : g.multi = true ∨ g.content p = []) :
    ∃ g1, g.place a p = (g1, .ok) ∧ Inv g1 ∧ SameCfg g g1 ∧ g1.pos = updA g.pos a (some p) ∧
      g1.content = upd g.content p (g.content p ++ [a]) :=
  ⟨_, place_eq hpos h, by have := place_inv g a p hi hpos hp; rwa [place_eq hpos h] at this, setCell_cfg .., rfl, rfl⟩

theorem swap_noPos (g : Grid) (a b : Aid) (h : g.pos a = none ∨ g.pos b = none) : g.swap a b = (g, .err .noPos) := by
  unfold swap
  rcases h with h | h
  · rw [h]
  · rw [h]
    cases g.pos a <;> rfl

theorem swap_same (g : Grid) (a b : Aid) (p : Coord) (ha : g.pos a = some p) (hb : g.pos b = some p) :
    g.swap a b = (g, .ok) := by
  unfold swap
  rw [ha, hb]
  exact if_pos rfl

/-- `swap_pos` of two agents on different cells: the four calls `remove_agent(a)`, `remove_agent(b)`,
    `place_agent(a, pb)`, `place_agent(b, pa)` all succeed (on a SingleGrid both cells are free by then) -/
theorem swap_placed (g : Grid) (hi : Inv g) (a b : Aid) (pa pb : Coord) (hpa : g.pos a = some pa)
    (hpb : g.pos b = some pb) (hne : pa ≠ pb) :
    (g.swap a b).2 = .ok ∧ Inv (g.swap a b).1 ∧ SameCfg g (g.swap a b).1 ∧
    (g.swap a b).1.pos = updA (updA g.pos a (some pb)) b (some pa) ∧
    (g.swap a b).1.content pb = (g.content pb).erase b ++ [a] ∧
    (g.swap a b).1.content pa = (g.content pa).erase a ++ [b] ∧
    ∀ x, x ≠ pa → x ≠ pb → (g.swap a b).1.content x = g.content x := by
  have hab : a ≠ b := fun e => hne (by subst e; rw [hpa] at hpb; exact Option.some.inj hpb)
  have hga := (hi.mem_content hpa).2.1
  have hgb := (hi.mem_content hpb).2.1
  have hsingle : g.multi = false → (g.content pa).erase a = [] ∧ (g.content pb).erase b = [] := fun hm => by
    rw [hi.single_eq hm (hi.mem_content hpa).1, hi.single_eq hm (hi.mem_content hpb).1]
    simp
  obtain ⟨g1, r1, i1, c1, p1, k1⟩ := remove_step hi hpa
  have hb1 : g1.pos b = some pb := by rw [p1, updA_other _ _ _ _ hab.symm]; exact hpb
  obtain ⟨g2, r2, i2, c2, p2, k2⟩ := remove_step i1 hb1
  have c12 := c1.trans c2
  have ha2 : g2.pos a = none := by rw [p2, updA_other _ _ _ _ hab, p1, updA_same]
  have e2b : g2.content pb = (g.content pb).erase b := by rw [k2, upd_same, k1, upd_other _ _ _ _ hne.symm]
  have e2a : g2.content pa = (g.content pa).erase a := by rw [k2, upd_other _ _ _ _ hne, k1, upd_same]
  have hfree (x : Grid) (hx : x.multi = g.multi) {c : List Aid} (hc : g.multi = false → c = []) :
      x.multi = true ∨ c = [] := by
    rw [hx]
    cases hm : g.multi with
    | true => exact Or.inl rfl
    | false => exact Or.inr (hc hm)
  obtain ⟨g3, r3, i3, c3, p3, k3⟩ := place_step i2 ha2 ((c12.inGrid pb).mpr hgb)
    (hfree g2 c12.2.2.2.1 (fun hm => by rw [e2b]; exact (hsingle hm).2))
  have c123 := c12.trans c3
  have hb3 : g3.pos b = none := by rw [p3, updA_other _ _ _ _ hab.symm, p2, updA_same]
  have e3a : g3.content pa = (g.content pa).erase a := by rw [k3, upd_other _ _ _ _ hne, e2a]
  obtain ⟨g4, r4, i4, c4, p4, k4⟩ := place_step i3 hb3 ((c123.inGrid pa).mpr hga)
    (hfree g3 c123.2.2.2.1 (fun hm => by rw [e3a]; exact (hsingle hm).1))
  have hs : g.swap a b = (g4, .ok) := by
    unfold swap
    rw [hpa, hpb]
    simp only [if_neg hne, r1, r2, r3, r4]
  rw [hs]
  refine ⟨rfl, i4, c123.trans c4, ?_, ?_, ?_, fun x hxa hxb => ?_⟩
  · funext c
    simp only [p4, p3, p2, p1, updA]
    by_cases hcb : c = b <;> by_cases hca : c = a <;> simp [hcb, hca]
  · show g4.content pb = _
    rw [k4, upd_other _ _ _ _ hne.symm, k3, upd_same, e2b]
  · show g4.content pa = _
    rw [k4, upd_same, e3a]
  · show g4.content x = _
    rw [k4, upd_other _ _ _ _ hxa, k3, upd_other _ _ _ _ hxb, k2, upd_other _ _ _ _ hxb, k1, upd_other _ _ _ _ hxa]

/-- `swap_pos` leaves the grid as it is (unplaced agent, or both on one cell) unless the agents stand on two cells -/
theorem swap_cases (g : Grid) (a b : Aid) :
    (∃ r, g.swap a b = (g, r) ∧ r = if g.pos a = none ∨ g.pos b = none then .err .noPos else .ok) ∨
    ∃ pa pb, g.pos a = some pa ∧ g.pos b = some pb ∧ pa ≠ pb := by
  cases hpa : g.pos a with
  | none => exact Or.inl ⟨_, swap_noPos g a b (Or.inl hpa), by simp⟩
  | some pa =>
    cases hpb : g.pos b with
    | none => exact Or.inl ⟨_, swap_noPos g a b (Or.inr hpb), by simp⟩
    | some pb =>
      by_cases hne : pa = pb
      · subst hne
        exact Or.inl ⟨_, swap_same g a b pa hpa hpb, by simp⟩
      · exact Or.inr ⟨pa, pb, rfl, rfl, hne⟩

theorem swap_inv_cfg (g : Grid) (a b : Aid) (hi : Inv g) : Inv (g.swap a b).1 ∧ SameCfg g (g.swap a b).1 := by
  rcases swap_cases g a b with ⟨r, h, _⟩ | ⟨pa, pb, hpa, hpb, hne⟩
  · rw [h]
    exact ⟨hi, SameCfg.refl g⟩
  · have := swap_placed g hi a b pa pb hpa hpb hne
    exact ⟨this.2.1, this.2.2.1⟩

theorem swap_res (g : Grid) (hi : Inv g) (a b : Aid) :
    (g.swap a b).2 = if g.pos a = none ∨ g.pos b = none then .err .noPos else .ok := by
  rcases swap_cases g a b with ⟨r, h, hr⟩ | ⟨pa, pb, hpa, hpb, hne⟩
  · rw [h]
    exact hr
  · rw [(swap_placed g hi a b pa pb hpa hpb hne).1, if_neg (by simp [hpa, hpb])]

/-- `swap_pos` raises only for an unplaced agent, before changing anything -/
theorem swap_err (g : Grid) (a b : Aid) (hi : Inv g) (e : Err) (h : (g.swap a b).2 = .err e) : (g.swap a b).1 = g := by
  rw [swap_res g hi] at h
  split at h
  · rename_i hn
    rw [swap_noPos g a b hn]
  · cases h

/-! ### `move_to_empty` -/

/-- the sampling loop reads the sizes and the cell lists only -/
theorem pickLoop_obs {g g' : Grid} (h : ObsEq g g') (s : Script) : g'.pickLoop s = g.pickLoop s := by
  obtain ⟨h1, h2, _, _, _, hc, _, _⟩ := h
  induction s using Grid.pickLoop.induct g with
  | case1 x y rest p hp =>
    have hp' : g'.isCellEmpty (((x : Int) % g'.w, (y : Int) % g'.h)) = true := by
      unfold Grid.isCellEmpty at hp ⊢
      rw [h1, h2, hc]
      exact hp
    rw [Grid.pickLoop, Grid.pickLoop, if_pos hp, if_pos hp', h1, h2]
  | case2 x y rest p hp ih =>
    have hp' : ¬ g'.isCellEmpty (((x : Int) % g'.w, (y : Int) % g'.h)) = true := by
      unfold Grid.isCellEmpty at hp ⊢
      rw [h1, h2, hc]
      exact hp
    rw [Grid.pickLoop, Grid.pickLoop, if_neg hp, if_neg hp', ih]
  | case3 s hs =>
    unfold Grid.pickLoop
    split
    · exact absurd rfl (hs _ _ _)
    · rfl

/-- `move_to_empty` with the lazily built set read off: the branch by the cutoff, the target taken from the script -/
theorem moveToEmpty_unfold (g : Grid) (hi : Inv g) (a : Aid) (s : Script) :
    g.moveToEmpty a s =
      if g.buildEmpties.length = 0 then (g.readEmpties.1, .err .noEmpty)
      else
        match (if g.buildEmpties.length > g.cutoff then g.pickLoop s
               else match below s g.buildEmpties.length with
                 | none => none
                 | some (i, _) => g.buildEmpties[i]?) with
        | none => (g.readEmpties.1, .err .script)
        | some q => removePlace g.readEmpties.1 a q := by
  have hre : g.readEmpties.2 = g.buildEmpties := readEmpties_eq_build g hi
  have hcut : g.readEmpties.1.cutoff = g.cutoff := (readEmpties_obs g).2.2.2.2.1
  have hpick : ∀ s, g.readEmpties.1.pickLoop s = g.pickLoop s := pickLoop_obs (readEmpties_obs g)
  have hpair : g.readEmpties = (g.readEmpties.1, g.buildEmpties) := by rw [← hre]
  unfold moveToEmpty
  rw [hpair]
  simp only [hcut, hpick, removePlace]
  rfl

theorem moveToEmpty_cases (g : Grid) (a : Aid) (s : Script) (hw : 0 < g.w) (hh : 0 < g.h) (hi : Inv g) :
    (g.moveToEmpty a s = (g.readEmpties.1, .err .noEmpty) ∧ ∀ p, g.inGrid p → g.content p ≠ [])
    ∨ (g.moveToEmpty a s = (g.readEmpties.1, .err .script) ∧ ∃ p, g.inGrid p ∧ g.content p = [])
    ∨ ∃ q, g.inGrid q ∧ g.content q = [] ∧ g.moveToEmpty a s = removePlace g.readEmpties.1 a q := by
  rw [moveToEmpty_unfold g hi a s]
  by_cases hlen : g.buildEmpties.length = 0
  · left
    rw [if_pos hlen]
    refine ⟨rfl, fun p hp hcp => ?_⟩
    have hmem := (mem_buildEmpties g p).mpr ⟨hp, hcp⟩
    rw [List.eq_nil_of_length_eq_zero hlen] at hmem
    cases hmem
  · right
    rw [if_neg hlen]
    split
    · left
      refine ⟨rfl, ?_⟩
      cases hb : g.buildEmpties with
      | nil =>
        rw [hb] at hlen
        exact absurd rfl hlen
      | cons p ps => exact ⟨p, (mem_buildEmpties g p).mp (by rw [hb]; simp)⟩
    · rename_i q htg
      right
      have hq : g.inGrid q ∧ g.content q = [] := by
        split at htg
        · exact pickLoop_spec g hw hh s q htg
        · split at htg
          · cases htg
          · exact (mem_buildEmpties g q).mp (List.mem_of_getElem? htg)
      exact ⟨q, hq.1, hq.2, rfl⟩

theorem moveToEmpty_inv_cfg (g : Grid) (a : Aid) (s : Script) (hw : 0 < g.w) (hh : 0 < g.h) (hi : Inv g) :
    Inv (g.moveToEmpty a s).1 ∧ SameCfg g (g.moveToEmpty a s).1 := by
  have i0 := readEmpties_inv g hi
  have c0 := readEmpties_cfg g
  rcases moveToEmpty_cases g a s hw hh hi with ⟨h, _⟩ | ⟨h, _⟩ | ⟨q, hq, _, h⟩
  · rw [h]
    exact ⟨i0, c0⟩
  · rw [h]
    exact ⟨i0, c0⟩
  · rw [h]
    exact ⟨removePlace_inv _ a q i0 ((c0.inGrid q).mpr hq), c0.trans (removePlace_cfg _ a q)⟩

theorem moveToOneOf_nonempty (g : Grid) (a : Aid) {ps : List Coord} (hne : ps ≠ []) (sel : Selection) (he : HandleEmpty)
    (s : Script) :
    g.moveToOneOf a ps sel he s = match g.chooseOneOf a ps sel s with
      | .error e => (g, .err e)
      | .ok q => g.move a q := by
  unfold moveToOneOf
  rw [if_neg (by rw [List.isEmpty_eq_false_iff.mpr hne]; simp)]
  cases g.chooseOneOf a ps sel s <;> rfl

theorem moveToOneOf_inv_cfg (g : Grid) (a : Aid) (ps : List Coord) (sel : Selection) (he : HandleEmpty) (s : Script)
    (hw : 0 < g.w) (hh : 0 < g.h) (hi : Inv g) :
    Inv (g.moveToOneOf a ps sel he s).1 ∧ SameCfg g (g.moveToOneOf a ps sel he s).1 := by
  unfold moveToOneOf
  split
  · split <;> exact ⟨hi, SameCfg.refl g⟩
  · split
    · exact ⟨hi, SameCfg.refl g⟩
    · exact ⟨move_inv g a _ hw hh hi, move_cfg g a _⟩

/-! ### `_distance_squared` on a torus -/

theorem iabs_nonneg (z : Int) : 0 ≤ iabs z := by unfold iabs; split <;> omega

theorem iabs_eq (z : Int) : (0 ≤ z ∧ iabs z = z) ∨ (z < 0 ∧ iabs z = -z) := by
  unfold iabs
  split <;> omega

/-- the per-axis distance `_distance_squared` uses on a torus is the least distance between the residue classes -/
theorem torusDist_axis (w a b : Int) (hw : 0 < w) :
    IsTorusDist w a b (min (iabs (a - b) % w) (w - iabs (a - b) % w)) :=
  torus_least iabs_eq w a b hw

theorem IsTorusDist.unique {w a b m m' : Int} (h : IsTorusDist w a b m) (h' : IsTorusDist w a b m') : m = m' := by
  obtain ⟨⟨k, hk⟩, hmin⟩ := h
  obtain ⟨⟨k', hk'⟩, hmin'⟩ := h'
  have := hmin k'
  have := hmin' k
  omega

theorem IsTorusDist.wrap {w a b m : Int} : IsTorusDist w (a % w) b m ↔ IsTorusDist w a b m := by
  have hdef : a % w = a - (a / w) * w := by rw [Int.emod_def, Int.mul_comm]
  have e1 : ∀ k : Int, a % w - b + k * w = a - b + (k - a / w) * w := by
    intro k
    rw [hdef, Int.sub_mul]
    omega
  have e2 : ∀ k : Int, a - b + k * w = a % w - b + (k + a / w) * w := by
    intro k
    rw [hdef, Int.add_mul]
    omega
  constructor
  · rintro ⟨⟨k, hk⟩, hmin⟩
    refine ⟨⟨k - a / w, by rw [← e1]; exact hk⟩, fun k' => ?_⟩
    rw [e2]
    exact hmin _
  · rintro ⟨⟨k, hk⟩, hmin⟩
    refine ⟨⟨k + a / w, by rw [← e2]; exact hk⟩, fun k' => ?_⟩
    rw [e1]
    exact hmin _

/-- on a torus `_distance_squared` is the squared length of the shortest displacement between the cells
    the two coordinates denote -/
theorem distSq_torus_spec (g : Grid) (hw : 0 < g.w) (hh : 0 < g.h) (ht : g.torus = true) (p q : Coord) :
    ∃ mx my, IsTorusDist g.w p.1 q.1 mx ∧ IsTorusDist g.h p.2 q.2 my ∧ g.distSq p q = mx * mx + my * my := by
  refine ⟨_, _, torusDist_axis g.w p.1 q.1 hw, torusDist_axis g.h p.2 q.2 hh, ?_⟩
  simp [distSq, ht]

theorem distSq_wrap (g : Grid) (hw : 0 < g.w) (hh : 0 < g.h) (ht : g.torus = true) (p q : Coord) :
    g.distSq (p.1 % g.w, p.2 % g.h) q = g.distSq p q := by
  obtain ⟨mx, my, hx, hy, he⟩ := distSq_torus_spec g hw hh ht p q
  obtain ⟨mx', my', hx', hy', he'⟩ := distSq_torus_spec g hw hh ht (p.1 % g.w, p.2 % g.h) q
  have := (IsTorusDist.wrap.mp hx').unique hx
  have := (IsTorusDist.wrap.mp hy').unique hy
  rw [he, he']
  subst_vars
  rfl

/-! ### every call keeps the invariant: histories -/

theorem step_inv_cfg (g : Grid) (op : Op) (hw : 0 < g.w) (hh : 0 < g.h) (hi : Inv g) (hok : OpOk g op) :
    Inv (step g op).1 ∧ SameCfg g (step g op).1 := by
  cases op with
  | place a p => exact ⟨place_inv g a p hi hok.1 hok.2, place_cfg g a p⟩
  | remove a => exact ⟨remove_inv g a hi, remove_cfg g a⟩
  | move a p => exact ⟨move_inv g a p hw hh hi, move_cfg g a p⟩
  | swap a b => exact swap_inv_cfg g a b hi
  | moveToEmpty a s => exact moveToEmpty_inv_cfg g a s hw hh hi
  | moveToOneOf a ps sel he s => exact moveToOneOf_inv_cfg g a ps sel he s hw hh hi
  | readEmpties => exact ⟨readEmpties_inv g hi, readEmpties_cfg g⟩

theorem run_inv_cfg (g : Grid) (ops : List Op) (hw : 0 < g.w) (hh : 0 < g.h) (hi : Inv g) (hok : HistOk g ops) :
    Inv (run g ops) ∧ SameCfg g (run g ops) := by
  induction ops generalizing g with
  | nil => exact ⟨hi, SameCfg.refl g⟩
  | cons op ops ih =>
    obtain ⟨h1, h2⟩ := hok
    obtain ⟨i1, c1⟩ := step_inv_cfg g op hw hh hi h1
    have := ih (step g op).1 (by rw [c1.1]; exact hw) (by rw [c1.2.1]; exact hh) i1 h2
    exact ⟨this.1, c1.trans this.2⟩

/-! ### rejected calls (C18) -/

theorem moveToOneOf_err (g : Grid) (a : Aid) (ps : List Coord) (sel : Selection) (he : HandleEmpty) (s : Script)
    (hi : Inv g) (e : Err) (h : (g.moveToOneOf a ps sel he s).2 = .err e) :
    (g.moveToOneOf a ps sel he s).1 = g := by
  unfold moveToOneOf at h ⊢
  split
  · split <;> rfl
  · rename_i hne
    rw [if_neg hne] at h
    split
    · rfl
    · rename_i q hq
      rw [hq] at h
      exact move_err g a q hi e h

theorem moveToEmpty_err (g : Grid) (a : Aid) (s : Script) (hw : 0 < g.w) (hh : 0 < g.h) (hi : Inv g) (e : Err)
    (h : (g.moveToEmpty a s).2 = .err e) : (g.moveToEmpty a s).1 = g.readEmpties.1 := by
  have i0 := readEmpties_inv g hi
  have o0 := readEmpties_obs g
  rcases moveToEmpty_cases g a s hw hh hi with ⟨h', _⟩ | ⟨h', _⟩ | ⟨q, hq, hcq, h'⟩
  · rw [h']
  · rw [h']
  · rw [h'] at h ⊢
    exact removePlace_err _ a q i0 (Or.inr (Or.inl (by rw [o0.2.2.2.2.2.1]; exact hcq))) e h

/-! ### agents in a list of cells (C09: `get_neighbors`, `get_cell_list_contents`) -/

theorem flatMap_filter_nonempty {α β : Type} (f : α → List β) (l : List α) :
    (l.filter fun c => !(f c).isEmpty).flatMap f = l.flatMap f := by
  induction l with
  | nil => rfl
  | cons x xs ih =>
    simp only [List.filter_cons, List.flatMap_cons]
    cases hx : f x with
    | nil => simp [ih]
    | cons y ys => simp [ih, hx]

theorem filterMap_head_eq_flatMap {α β : Type} (f : α → List β) (l : List α) (h : ∀ c, (f c).length ≤ 1) :
    l.filterMap (fun c => (f c).head?) = l.flatMap f := by
  induction l with
  | nil => rfl
  | cons x xs ih =>
    simp only [List.filterMap_cons, List.flatMap_cons]
    have := h x
    match hx : f x with
    | [] => simp [ih]
    | [y] => simp [ih]
    | _ :: _ :: _ =>
      rw [hx] at this
      simp at this

/-- both grid kinds return the concatenation of the contents of the listed cells -/
theorem cellsContents_eq (g : Grid) (hi : Inv g) (cells : List Coord) : cellsContents g cells = cells.flatMap g.content := by
  unfold cellsContents
  by_cases hm : g.multi = true
  · simp only [hm, if_true]
    exact flatMap_filter_nonempty g.content cells
  · simp only [hm, Bool.false_eq_true, if_false]
    exact filterMap_head_eq_flatMap g.content cells (hi.single (by simpa using hm))

theorem cellsContents_spec (g : Grid) (hi : Inv g) (cells : List Coord) (hnd : cells.Nodup) :
    (cellsContents g cells).Nodup ∧ ∀ a, a ∈ cellsContents g cells ↔ ∃ c ∈ cells, g.pos a = some c := by
  rw [cellsContents_eq g hi]
  exact ⟨hi.agree.flatMap_nodup hnd, hi.agree.mem_flatMap cells⟩

theorem mem_dedup (l : List Aid) (y : Aid) : y ∈ dedup l ↔ y ∈ l := by
  unfold dedup
  rw [mem_foldl_ins fun l x y => mem_addNew l x y]
  simp

theorem nodup_dedup (l : List Aid) : (dedup l).Nodup :=
  foldl_keeps List.Nodup (fun acc x h => nodup_addNew acc x h) l [] List.nodup_nil

theorem foldl_dedup_of_nodup (l acc : List Aid) (h : (acc ++ l).Nodup) :
    l.foldl (fun acc x => if x ∈ acc then acc else acc ++ [x]) acc = acc ++ l := by
  induction l generalizing acc with
  | nil => simp
  | cons x xs ih =>
    simp only [List.foldl_cons]
    have hx : x ∉ acc := by
      intro hx
      have := List.nodup_append.mp h
      exact this.2.2 x hx x (by simp) rfl
    rw [if_neg hx, ih (acc ++ [x]) (by simpa using h)]
    simp

/-- within the property's quantifier nothing is dropped: the `AgentSet` is the flattened contents -/
theorem agentsList_eq (g : Grid) (hi : Inv g) : g.agentsList = g.allCells.flatMap g.content := by
  unfold agentsList dedup
  have hnd := hi.agree.flatMap_nodup (sorted_allCells g).nodup
  have := foldl_dedup_of_nodup (g.allCells.flatMap g.content) [] (by simpa using hnd)
  simpa using this

theorem agentsList_spec (g : Grid) (hi : Inv g) :
    g.agentsList.Nodup ∧ ∀ a, a ∈ g.agentsList ↔ g.pos a ≠ none := by
  refine ⟨nodup_dedup _, ?_⟩
  intro a
  unfold agentsList
  simp only [mem_dedup, List.mem_flatMap, mem_allCells]
  constructor
  · rintro ⟨c, _, ha⟩ h
    have := (hi.pos_content a c).mpr ha
    rw [h] at this
    cases this
  · intro h
    cases hp : g.pos a with
    | none => exact absurd hp h
    | some c =>
      have ha := (hi.pos_content a c).mp hp
      exact ⟨c, hi.in_grid c (List.ne_nil_of_mem ha), ha⟩

end Mesa.Legacy
