/-!
Looking every item of a list up in a table, stopping at the first key the table lacks: the common shape of
`relocate` (`Model/VizNet.lean`: entries and a layout) and `plotLines` (`Model/VizPlot.lean`: requests and the collected
measures).
-/
namespace Mesa.Viz

variable {α β κ υ ε : Type} [BEq κ]

/-- every item completed with what the table holds under its key, or the error of the first key the table lacks -/
def lookupAll (tbl : List (κ × υ)) (key : α → κ) (err : κ → ε) (mk : α → υ → β) : List α → Except ε (List β)
  | [] => .ok []
  | x :: xs =>
    match tbl.lookup (key x) with
    | none => .error (err (key x))
    | some v =>
      match lookupAll tbl key err mk xs with
      | .error e => .error e
      | .ok ys => .ok (mk x v :: ys)

variable {tbl : List (κ × υ)} {key : α → κ} {err : κ → ε} {mk : α → υ → β}

theorem lookupAll_ok_map {γ : Type} {p : β → γ} {q : α → γ} (hp : ∀ x v, tbl.lookup (key x) = some v → p (mk x v) = q x) :
    ∀ {xs : List α} {ys : List β}, lookupAll tbl key err mk xs = .ok ys → ys.map p = xs.map q
  | [], ys, h => by
    injection h with h
    subst h
    rfl
  | x :: xs, ys, h => by
    unfold lookupAll at h
    cases hl : tbl.lookup (key x) with
    | none =>
      rw [hl] at h
      cases h
    | some v =>
      cases hr : lookupAll tbl key err mk xs with
      | error e =>
        rw [hl, hr] at h
        cases h
      | ok ys' =>
        rw [hl, hr] at h
        injection h with h
        subst h
        rw [List.map_cons, List.map_cons, hp x v hl, lookupAll_ok_map hp hr]

theorem lookupAll_error : ∀ {xs : List α} {e : ε}, lookupAll tbl key err mk xs = .error e →
    ∃ before x after, xs = before ++ x :: after ∧ e = err (key x) ∧ tbl.lookup (key x) = none ∧
      ∀ b ∈ before, (tbl.lookup (key b)).isSome
  | [], _, h => by cases h
  | x :: xs, e, h => by
    unfold lookupAll at h
    cases hl : tbl.lookup (key x) with
    | none =>
      rw [hl] at h
      injection h with h
      exact ⟨[], x, xs, rfl, h.symm, hl, fun _ hb => nomatch hb⟩
    | some v =>
      cases hr : lookupAll tbl key err mk xs with
      | ok ys =>
        rw [hl, hr] at h
        cases h
      | error e' =>
        rw [hl, hr] at h
        injection h with h
        obtain ⟨before, y, after, hs, he, hn, hb⟩ := lookupAll_error hr
        refine ⟨x :: before, y, after, hs ▸ rfl, h ▸ he, hn, fun b hm => ?_⟩
        rcases List.mem_cons.mp hm with rfl | hm
        · rw [hl]
          rfl
        · exact hb b hm

theorem lookupAll_append_missing {x : α} {after : List α} (hx : tbl.lookup (key x) = none) :
    ∀ {before : List α}, (∀ b ∈ before, (tbl.lookup (key b)).isSome) →
      lookupAll tbl key err mk (before ++ x :: after) = .error (err (key x))
  | [], _ => by simp only [List.nil_append, lookupAll, hx]
  | b :: bs, hb => by
    obtain ⟨v, hv⟩ := Option.isSome_iff_exists.mp (hb b List.mem_cons_self)
    simp only [List.cons_append, lookupAll, hv, lookupAll_append_missing hx fun c hc => hb c (List.mem_cons_of_mem _ hc)]

theorem lookupAll_error_iff (hinj : ∀ k k', err k = err k' → k = k') (xs : List α) (k : κ) :
    lookupAll tbl key err mk xs = .error (err k) ↔
      ∃ before x after, xs = before ++ x :: after ∧ key x = k ∧ tbl.lookup k = none ∧
        ∀ b ∈ before, (tbl.lookup (key b)).isSome := by
  constructor
  · intro h
    obtain ⟨before, x, after, hs, he, hn, hb⟩ := lookupAll_error h
    have hk := hinj _ _ he
    exact ⟨before, x, after, hs, hk.symm, hk ▸ hn, hb⟩
  · rintro ⟨before, x, after, rfl, rfl, hn, hb⟩
    exact lookupAll_append_missing hn hb

theorem lookupAll_ok_iff (xs : List α) (ys : List β) :
    lookupAll tbl key err mk xs = .ok ys ↔ xs.map (fun x => (tbl.lookup (key x)).map (mk x)) = ys.map some := by
  have fwd : ∀ {ys}, lookupAll tbl key err mk xs = .ok ys → xs.map (fun x => (tbl.lookup (key x)).map (mk x)) = ys.map some :=
    fun h => (lookupAll_ok_map (p := some) (fun x v hl => hl ▸ rfl) h).symm
  refine ⟨fwd, fun h => ?_⟩
  cases hr : lookupAll tbl key err mk xs with
  | ok ys' => rw [(List.map_inj_right fun _ _ => Option.some.inj).mp ((fwd hr).symm.trans h)]
  | error e =>
    -- the item whose key is missing would be mapped to `none`
    obtain ⟨before, x, after, rfl, _, hn, _⟩ := lookupAll_error hr
    have : (none : Option β) ∈ ys.map some := by
      rw [← h]
      simp [hn]
    simp at this

end Mesa.Viz
