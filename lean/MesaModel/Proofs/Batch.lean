import MesaModel.Model.Batch
import MesaModel.Proofs.Collect
/-! The vocabulary of the C13 statements (`prodLen`, `Chooses`, `histOf`, `hand`, `stepsTaken`, `rowsOfColl`, `rowsOfSnap`,
    `rowsSpec`, `valuesT`, `runRowsT`) and the lemmas behind them: the kwargs product, the run loop as stepping by hand,
    which collections are reported, the rows of a run, parameter values, completion orders. -/
namespace Mesa.Batch
open Mesa.Collect

/-! ### the kwargs product -/

def prodLen : List (Nat × List κ) → Nat
  | [] => 1
  | (_, vs) :: rest => vs.length * prodLen rest

theorem length_flatMap_const (vs : List α) (f : α → List β) (n : Nat) (h : ∀ v ∈ vs, (f v).length = n) :
    (vs.flatMap f).length = vs.length * n := by
  induction vs with
  | nil => simp
  | cons v vs ih =>
    rw [List.flatMap_cons, List.length_append, h v (by simp), ih (fun x hx => h x (by simp [hx]))]
    simp [Nat.succ_mul, Nat.add_comm]

theorem product_length (l : List (Nat × List κ)) : (product l).length = prodLen l := by
  induction l with
  | nil => rfl
  | cons x xs ih =>
    obtain ⟨n, vs⟩ := x
    simp only [product, prodLen]
    rw [length_flatMap_const _ _ (prodLen xs)]
    intro v _
    simp [ih]

/-- a kwargs dict chooses, for every parameter in order, one of its values -/
def Chooses : Kwargs κ → List (Nat × List κ) → Prop
  | [], [] => True
  | (n, v) :: kw, (n', vs) :: rest => n = n' ∧ v ∈ vs ∧ Chooses kw rest
  | _, _ => False

theorem mem_product (l : List (Nat × List κ)) (kw : Kwargs κ) : kw ∈ product l ↔ Chooses kw l := by
  induction l generalizing kw with
  | nil => cases kw <;> simp [product, Chooses]
  | cons x xs ih =>
    obtain ⟨n, vs⟩ := x
    simp only [product, List.mem_flatMap, List.mem_map]
    constructor
    · rintro ⟨v, hv, kw', hkw', rfl⟩
      exact ⟨rfl, hv, (ih kw').mp hkw'⟩
    · intro h
      cases kw with
      | nil => exact absurd h (by simp [Chooses])
      | cons e kw' =>
        obtain ⟨n', v⟩ := e
        obtain ⟨rfl, hv, hc⟩ := h
        exact ⟨v, hv, kw', (ih kw').mpr hc, rfl⟩

theorem product_nodup (l : List (Nat × List κ)) (h : ∀ p ∈ l, p.2.Nodup) : (product l).Nodup := by
  induction l with
  | nil => simp [product]
  | cons x xs ih =>
    obtain ⟨n, vs⟩ := x
    have hvs : vs.Nodup := h (n, vs) (by simp)
    have hrest : (product xs).Nodup := ih (fun p hp => h p (by simp [hp]))
    -- dicts with the same first value differ in their tails, dicts with different first values differ there
    rw [product, List.Nodup, List.pairwise_flatMap]
    refine ⟨fun v _ => List.pairwise_map.mpr (hrest.imp fun hne e => hne (List.cons.inj e).2), hvs.imp ?_⟩
    intro v v' hne a ha b hb e
    obtain ⟨kw, _, rfl⟩ := List.mem_map.mp ha
    obtain ⟨kw', _, rfl⟩ := List.mem_map.mp hb
    exact hne (by simpa using (List.cons.inj e).1)

/-! ### the run list -/

theorem number_runIds (i : Nat) (l : List (Nat × Kwargs κ)) :
    (number i l).map (·.runId) = List.range' i l.length := by
  induction l generalizing i with
  | nil => rfl
  | cons x xs ih => simp [number, ih, List.range'_succ]

theorem number_pairs (i : Nat) (l : List (Nat × Kwargs κ)) :
    (number i l).map (fun r => (r.iteration, r.kwargs)) = l := by
  induction l generalizing i with
  | nil => rfl
  | cons x xs ih =>
    obtain ⟨it, kw⟩ := x
    simp [number, ih]

/-! ### stepping -/

theorem run_append (cfg : Cfg) (s : State) (a b : List Op) : run cfg s (a ++ b) = run cfg (run cfg s a) b :=
  List.foldl_append

theorem run_steps_le (cfg : Cfg) (s : State) (ops : List Op) : s.steps ≤ (run cfg s ops).steps := by
  induction ops generalizing s with
  | nil => exact Nat.le_refl _
  | cons op rest ih => exact Nat.le_trans (apply_steps_le cfg s op) (ih _)

theorem apply_steps_eq (cfg : Cfg) (s : State) (op : Op) (h : op ≠ .step) : (apply cfg s op).1.steps = s.steps := by
  cases op <;> simp only [apply]
  case step => exact absurd rfl h
  case mapp => split <;> simp
  case mdel => split <;> simp
  case collect => exact (collect_agents cfg s).2.2
  case row => rw [addTableRow_frame]

theorem run_steps_eq (cfg : Cfg) (s : State) (ops : List Op) (h : Op.step ∉ ops) : (run cfg s ops).steps = s.steps := by
  induction ops generalizing s with
  | nil => rfl
  | cons op rest ih =>
    simp only [List.mem_cons, not_or] at h
    show (run cfg (apply cfg s op).1 rest).steps = s.steps
    rw [ih _ h.2, apply_steps_eq cfg s op (fun e => h.1 e.symm)]

theorem stepOnce_eq_run (p : Prog) (s : State) : stepOnce p s = run p.cfg s (.step :: p.body) := rfl

theorem stepOnce_steps_lt (p : Prog) (s : State) : s.steps < (stepOnce p s).steps := by
  have := run_steps_le p.cfg { s with steps := s.steps + 1 } p.body
  simp only [stepOnce]
  simp only at this
  omega

theorem stepOnce_steps_eq (p : Prog) (s : State) (h : Op.step ∉ p.body) : (stepOnce p s).steps = s.steps + 1 := by
  simp only [stepOnce]
  rw [run_steps_eq _ _ _ h]

/-- the history of a model constructed and then stepped `k` times by hand -/
def histOf (p : Prog) (k : Nat) : List Op := p.init ++ (List.replicate k (Op.step :: p.body)).flatten

/-- the loop condition of `_model_run_func` -/
def goOn (maxSteps : Nat) (s : State) : Bool := s.running && decide (s.steps < maxSteps)

theorem goOn_eq_true {maxSteps : Nat} {s : State} : goOn maxSteps s = true ↔ s.running = true ∧ s.steps < maxSteps := by
  simp [goOn]

theorem goOn_eq_false {maxSteps : Nat} {s : State} : goOn maxSteps s = false ↔ s.running = false ∨ maxSteps ≤ s.steps := by
  unfold goOn
  cases s.running <;> simp

def handFrom (p : Prog) (s : State) (j : Nat) : State := run p.cfg s (List.replicate j (Op.step :: p.body)).flatten

theorem handFrom_succ (p : Prog) (s : State) (j : Nat) : handFrom p s (j + 1) = handFrom p (stepOnce p s) j := by
  simp only [handFrom, List.replicate_succ, List.flatten_cons, run_append, stepOnce_eq_run]

theorem handFrom_steps_le (p : Prog) (s : State) (j : Nat) : s.steps + j ≤ (handFrom p s j).steps := by
  induction j generalizing s with
  | zero => exact Nat.le_refl _
  | succ j ih =>
    have := ih (stepOnce p s)
    have := stepOnce_steps_lt p s
    rw [handFrom_succ]
    omega

theorem handFrom_steps_eq (p : Prog) (h : Op.step ∉ p.body) (s : State) (j : Nat) :
    (handFrom p s j).steps = s.steps + j := by
  induction j generalizing s with
  | zero => rfl
  | succ j ih =>
    rw [handFrom_succ, ih, stepOnce_steps_eq p s h]
    omega

/-- the loop steps exactly while the loop condition holds: it ends at the *first* hand-stepped state at which the
    model has stopped or reached `maxSteps`, or when the fuel is used up -/
theorem loop_eq_handFrom (p : Prog) (maxSteps : Nat) (f : Nat) (s : State) :
    ∃ k ≤ f, loop p maxSteps f s = handFrom p s k ∧ (∀ j < k, goOn maxSteps (handFrom p s j) = true) ∧
      (k < f → goOn maxSteps (handFrom p s k) = false) := by
  induction f generalizing s with
  | zero => exact ⟨0, Nat.le_refl _, rfl, fun j hj => absurd hj (Nat.not_lt_zero _), fun h => absurd h (Nat.lt_irrefl _)⟩
  | succ f ih =>
    cases hc : goOn maxSteps s with
    | false => exact ⟨0, Nat.zero_le _, if_neg (Bool.eq_false_iff.mp hc), fun j hj => absurd hj (Nat.not_lt_zero _), fun _ => hc⟩
    | true =>
      obtain ⟨k, hk, he, hmin, hstop⟩ := ih (stepOnce p s)
      refine ⟨k + 1, by omega, (if_pos hc).trans (he.trans (handFrom_succ p s k).symm), fun j hj => ?_,
        fun h => (handFrom_succ p s k).symm ▸ hstop (by omega)⟩
      cases j with
      | zero => exact hc
      | succ j =>
        rw [handFrom_succ]
        exact hmin j (by omega)

theorem loop_done (p : Prog) (maxSteps : Nat) (f : Nat) (s : State) (hf : maxSteps - s.steps ≤ f) :
    (loop p maxSteps f s).running = false ∨ maxSteps ≤ (loop p maxSteps f s).steps := by
  obtain ⟨k, hk, he, _, hstop⟩ := loop_eq_handFrom p maxSteps f s
  rw [he]
  by_cases h : k < f
  · exact goOn_eq_false.mp (hstop h)
  · -- the fuel is used up: every unit of it was a step
    have := handFrom_steps_le p s k
    exact Or.inr (by omega)

/-- the model constructed and stepped by hand `j` times -/
def hand (p : Prog) (j : Nat) : State := run p.cfg (Collect.init p.cfg p.tables) (histOf p j)

theorem hand_eq (p : Prog) (j : Nat) : hand p j = handFrom p (construct p) j := by
  rw [hand, histOf, run_append]
  rfl

/-- the number of steps `_model_run_func` takes, computed by stepping by hand: the first `j` at which the hand-stepped
    model has stopped or reached `maxSteps` -/
def stepsTaken (p : Prog) (maxSteps : Nat) : Nat :=
  ((List.range (maxSteps + 1)).find? fun j => !goOn maxSteps (hand p j)).getD maxSteps

theorem runModel_eq_hand (p : Prog) (maxSteps : Nat) :
    stepsTaken p maxSteps ≤ maxSteps ∧ runModel p maxSteps = hand p (stepsTaken p maxSteps) ∧
    (∀ j < stepsTaken p maxSteps, goOn maxSteps (hand p j) = true) ∧
    goOn maxSteps (hand p (stepsTaken p maxSteps)) = false := by
  obtain ⟨k, hk, he, hmin, _⟩ := loop_eq_handFrom p maxSteps maxSteps (construct p)
  simp only [← hand_eq] at he hmin
  have hstop : goOn maxSteps (hand p k) = false :=
    goOn_eq_false.mpr (he ▸ loop_done p maxSteps maxSteps (construct p) (by omega))
  have hk' : stepsTaken p maxSteps = k := by
    rw [stepsTaken, (List.find?_range_eq_some (i := k)).mpr
      ⟨by simp [hstop], List.mem_range.mpr (by omega), fun j hj => by simp [hmin j hj]⟩]
    rfl
  rw [hk']
  exact ⟨hk, he, hmin, hstop⟩

theorem construct_steps (p : Prog) (hi : Op.step ∉ p.init) : (construct p).steps = 0 := by
  rw [construct, run_steps_eq _ _ _ hi]
  rfl

theorem runModel_steps_le (p : Prog) (maxSteps : Nat) (hb : Op.step ∉ p.body) :
    (runModel p maxSteps).steps ≤ max maxSteps (construct p).steps := by
  obtain ⟨_, he, hmin, _⟩ := runModel_eq_hand p maxSteps
  rw [he, hand_eq, handFrom_steps_eq p hb]
  -- no step was taken, or the step before the last was still below `maxSteps`
  cases hk0 : stepsTaken p maxSteps with
  | zero => omega
  | succ k =>
    have := (goOn_eq_true.mp (hmin k (by omega))).2
    rw [hand_eq, handFrom_steps_eq p hb] at this
    omega

theorem runModel_eq_run (p : Prog) (maxSteps : Nat) :
    runModel p maxSteps = run p.cfg (Collect.init p.cfg p.tables) (histOf p (stepsTaken p maxSteps)) :=
  (runModel_eq_hand p maxSteps).2.1

/-! ### which collections are reported -/

theorem filter_range_withLast (A : Nat → Bool) (n : Nat) :
    (if n ≠ 0 ∧ ((List.range n).filter A).getLast? ≠ some (n - 1) then (List.range n).filter A ++ [n - 1]
      else (List.range n).filter A) = (List.range n).filter fun i => A i || i == n - 1 := by
  cases n with
  | zero => simp
  | succ m =>
    have hB : (List.range m).filter (fun i => A i || i == m) = (List.range m).filter A :=
      List.filter_congr fun i hi => by
        have : i ≠ m := Nat.ne_of_lt (List.mem_range.mp hi)
        simp [this]
    simp only [Nat.add_sub_cancel, List.range_succ, List.filter_append, hB]
    have hm : [m].filter (fun i => A i || i == m) = [m] := by simp
    rw [hm]
    cases hA : A m
    · -- position `m` is not in the filtered list, whose members lie below `m`: it is appended
      have hlast : ((List.range m).filter A).getLast? ≠ some m := fun h =>
        Nat.lt_irrefl m (List.mem_range.mp (List.mem_filter.mp (List.mem_of_getLast? h)).1)
      have h1 : [m].filter A = [] := by simp [hA]
      rw [h1, List.append_nil, if_pos ⟨Nat.succ_ne_zero m, hlast⟩]
    · have h1 : [m].filter A = [m] := by simp [hA]
      rw [h1, if_neg fun h => h.2 List.getLast?_concat]

theorem picks_eq_filter (n : Nat) (per : Int) (hp : per ≠ 0) :
    picks n per = .ok ((List.range n).filter fun i => decide (0 < per ∧ i % per.toNat = 0) || i == n - 1) := by
  have hbase : (if per < 0 then [] else (List.range n).filter fun i => i % per.toNat = 0) =
      (List.range n).filter fun i => decide (0 < per ∧ i % per.toNat = 0) := by
    split
    · exact (List.filter_eq_nil_iff.mpr fun i _ => by simp; omega).symm
    · exact List.filter_congr fun i _ => by
        have : 0 < per := by omega
        simp [this]
  rw [picks, if_neg hp]
  simp only [hbase]
  rw [filter_range_withLast]

theorem picks_spec (n : Nat) (per : Int) (hp : per ≠ 0) :
    ∃ ps, picks n per = .ok ps ∧
      (∀ i, i ∈ ps ↔ i < n ∧ ((0 < per ∧ i % per.toNat = 0) ∨ i = n - 1)) ∧ ps.Pairwise (· < ·) :=
  ⟨_, picks_eq_filter n per hp, fun i => by simp [List.mem_filter],
    List.pairwise_lt_range.sublist List.filter_sublist⟩

/-! ### reading one collection -/

theorem mapM_getElem?_columns (l : List MRep) (snaps : List Snap) (i : Nat) (sn : Snap) (h : snaps[i]? = some sn) :
    (l.map fun r => snaps.map r.eval).mapM (·[i]?) = some (l.map fun r => r.eval sn) := by
  induction l with
  | nil => rfl
  | cons r rs ih =>
    simp only [List.map_cons, List.mapM_cons, ih, List.getElem?_map, h, Option.map_some]
    rfl

/-- the rows reported for one collection -/
def rowsOfColl (r : Run κ) (st : Nat) (mv : List Val) (ags : List Row) : List (BRow κ) :=
  if ags.isEmpty then
    [{ runId := r.runId, iteration := r.iteration, step := st, kwargs := r.kwargs, model := mv, agent := none }]
  else ags.map fun row =>
    { runId := r.runId, iteration := r.iteration, step := st, kwargs := r.kwargs, model := mv,
      agent := some (row.id, row.vals) }

/-- what `_collect_data` finds for a stored snapshot: its model values and the agent rows recorded under its step -/
def rowsOfSnap (cfg : Cfg) (snaps : List Snap) (r : Run κ) (sn : Snap) : List (BRow κ) :=
  rowsOfColl r sn.steps (cfg.mreps.map fun m => m.eval sn)
    (if cfg.areps.isEmpty then []
     else ((lastWith (fun x => x.steps == sn.steps) snaps).map (agentRows cfg)).getD [])

theorem mem_rowsOfColl {r : Run κ} {st : Nat} {mv : List Val} {ags : List Row} {row : BRow κ}
    (h : row ∈ rowsOfColl r st mv ags) :
    row.runId = r.runId ∧ row.iteration = r.iteration ∧ row.kwargs = r.kwargs ∧ row.step = st ∧ row.model = mv ∧
    (row.agent = none ∨ ∃ a ∈ ags, row.agent = some (a.id, a.vals)) := by
  unfold rowsOfColl at h
  split at h
  · simp only [List.mem_singleton] at h
    subst h
    exact ⟨rfl, rfl, rfl, rfl, rfl, Or.inl rfl⟩
  · obtain ⟨a, ha, rfl⟩ := List.mem_map.mp h
    exact ⟨rfl, rfl, rfl, rfl, rfl, Or.inr ⟨a, ha, rfl⟩⟩

theorem rowsOfColl_ne_nil (r : Run κ) (st : Nat) (mv : List Val) (ags : List Row) : rowsOfColl r st mv ags ≠ [] := by
  unfold rowsOfColl
  split
  · exact List.cons_ne_nil _ _
  · simpa using ‹¬ ags.isEmpty = true›

theorem rowsOfColl_has_row (r : Run κ) (st : Nat) (mv : List Val) (ags : List Row) :
    ∃ row ∈ rowsOfColl r st mv ags, row.step = st ∧ row.model = mv := by
  obtain ⟨row, hrow⟩ := List.exists_mem_of_ne_nil _ (rowsOfColl_ne_nil r st mv ags)
  obtain ⟨_, _, _, h4, h5, _⟩ := mem_rowsOfColl hrow
  exact ⟨row, hrow, h4, h5⟩

theorem rowsAt_of_holds {cfg : Cfg} {snaps : List Snap} {s : State} (h : Holds cfg snaps s) (r : Run κ)
    (i : Nat) (sn : Snap) (hi : snaps[i]? = some sn) :
    rowsAt r s i = .ok (rowsOfSnap cfg snaps r sn) := by
  have h1 : s.collSteps[i]? = some sn.steps := by
    rw [h.collSteps]
    simp [hi]
  have h2 : s.modelVars.mapM (·[i]?) = some (cfg.mreps.map fun m => m.eval sn) := by
    rw [h.modelVars]
    exact mapM_getElem?_columns _ _ _ _ hi
  have h3 : (s.records.lookup sn.steps).getD [] =
      (if cfg.areps.isEmpty then []
       else ((lastWith (fun x => x.steps == sn.steps) snaps).map (agentRows cfg)).getD []) := by
    rw [h.records]
    split
    · simp
    · rw [lookup_assign]
  unfold rowsAt collectData
  simp only [h1, h2, h3]
  rfl

theorem mapME_eq_ok {f : α → Except Err β} {l : List α} {ys : List β} :
    mapME f l = .ok ys ↔ l.map f = ys.map .ok := by
  induction l generalizing ys with
  | nil => cases ys <;> simp [mapME]
  | cons x xs ih =>
    rw [mapME]
    cases hx : f x with
    | error e => cases ys <;> simp [hx]
    | ok y =>
      cases hxs : mapME f xs with
      | error e =>
        cases ys with
        | nil => simp
        | cons y' ys' =>
          have : ¬ xs.map f = ys'.map .ok := fun h => nomatch (ih.mpr h).symm.trans hxs
          simp [this]
      | ok ys0 =>
        cases ys with
        | nil => simp
        | cons y' ys' => simp [hx, ← ih, hxs]

theorem mapME_ok (f : α → Except Err β) (g : α → β) (l : List α) (h : ∀ x ∈ l, f x = .ok (g x)) :
    mapME f l = .ok (l.map g) :=
  mapME_eq_ok.mpr ((List.map_congr_left h).trans List.map_map.symm)

theorem mapME_mem {f : α → Except Err β} {l : List α} {ys : List β} (h : mapME f l = .ok ys) :
    ∀ y ∈ ys, ∃ x ∈ l, f x = .ok y := by
  intro y hy
  have : Except.ok y ∈ l.map f := mapME_eq_ok.mp h ▸ List.mem_map_of_mem hy
  exact List.mem_map.mp this

theorem runRows_of_holds (cls : Kwargs κ → Prog) (maxSteps : Nat) (per : Int) (hp : per ≠ 0) (r : Run κ)
    (snaps : List Snap) (h : Holds (cls r.kwargs).cfg snaps (runModel (cls r.kwargs) maxSteps)) :
    ∃ ps, picks snaps.length per = .ok ps ∧
      runRows cls maxSteps per r = .ok (ps.flatMap fun i => match snaps[i]? with
        | some sn => rowsOfSnap (cls r.kwargs).cfg snaps r sn
        | none => []) := by
  obtain ⟨ps, hps, hmem, _⟩ := picks_spec snaps.length per hp
  refine ⟨ps, hps, ?_⟩
  unfold runRows
  have hl : (runModel (cls r.kwargs) maxSteps).collSteps.length = snaps.length := by
    rw [h.collSteps]
    simp
  simp only [hl, hps]
  rw [mapME_ok _ (fun i => match snaps[i]? with
        | some sn => rowsOfSnap (cls r.kwargs).cfg snaps r sn
        | none => [])]
  · simp [List.flatMap]
  · intro i hi
    have hlt := ((hmem i).mp hi).1
    have : snaps[i]? = some snaps[i] := List.getElem?_eq_getElem hlt
    rw [this]
    exact rowsAt_of_holds h r i _ this

/-- the rows `_model_run_func` returns for a run, written out: the model is the one stepped by hand `stepsTaken` times;
    of its stored collections `snaps` the positions `picks` selects are reported, each as `rowsOfSnap` -/
def rowsSpec (cls : Kwargs κ → Prog) (maxSteps : Nat) (period : Int) (r : Run κ) : List (BRow κ) :=
  let p := cls r.kwargs
  let snaps := storedSnaps p.cfg (Collect.init p.cfg p.tables) (histOf p (stepsTaken p maxSteps))
  match picks snaps.length period with
  | .ok ps => ps.flatMap fun i => match snaps[i]? with
    | some sn => rowsOfSnap p.cfg snaps r sn
    | none => []
  | .error _ => []

theorem runRows_eq_rowsSpec (cls : Kwargs κ → Prog) (maxSteps : Nat) (per : Int) (hp : per ≠ 0) (r : Run κ)
    (hT : Total (cls r.kwargs).cfg) : runRows cls maxSteps per r = .ok (rowsSpec cls maxSteps per r) := by
  have hh := holds_history hT (cls r.kwargs).tables (histOf (cls r.kwargs) (stepsTaken (cls r.kwargs) maxSteps))
  rw [← runModel_eq_run] at hh
  obtain ⟨ps, hps, hr⟩ := runRows_of_holds cls maxSteps per hp r _ hh
  rw [hr]
  simp only [rowsSpec, hps]

theorem eq_rowsSpec_of_runRows {cls : Kwargs κ → Prog} {maxSteps : Nat} {per : Int} {r : Run κ} {rows : List (BRow κ)}
    (hT : Total (cls r.kwargs).cfg) (h : runRows cls maxSteps per r = .ok rows) :
    per ≠ 0 ∧ rows = rowsSpec cls maxSteps per r := by
  have hp : per ≠ 0 := by
    rintro rfl
    simp [runRows, picks] at h
  rw [runRows_eq_rowsSpec cls maxSteps per hp r hT] at h
  exact ⟨hp, (Except.ok.inj h).symm⟩

theorem rowsSpec_of_picks (cls : Kwargs κ → Prog) (maxSteps : Nat) (per : Int) (r : Run κ) {ps : List Nat} :
    let p := cls r.kwargs
    let snaps := storedSnaps p.cfg (Collect.init p.cfg p.tables) (histOf p (stepsTaken p maxSteps))
    picks snaps.length per = .ok ps →
    rowsSpec cls maxSteps per r = ps.flatMap fun i => match snaps[i]? with
      | some sn => rowsOfSnap p.cfg snaps r sn
      | none => [] := by
  simp only [rowsSpec]
  generalize storedSnaps (cls r.kwargs).cfg _ _ = snaps
  intro h
  rw [h]

theorem mem_rowsSpec {cls : Kwargs κ → Prog} {maxSteps : Nat} {per : Int} {r : Run κ} {row : BRow κ}
    (h : row ∈ rowsSpec cls maxSteps per r) :
    let p := cls r.kwargs
    let snaps := storedSnaps p.cfg (Collect.init p.cfg p.tables) (histOf p (stepsTaken p maxSteps))
    ∃ sn ∈ snaps, row ∈ rowsOfSnap p.cfg snaps r sn := by
  intro p snaps
  simp only [rowsSpec] at h
  split at h
  · obtain ⟨i, _, hrow⟩ := List.mem_flatMap.mp h
    split at hrow
    · exact ⟨_, List.mem_of_getElem? ‹_›, hrow⟩
    · simp at hrow
  · simp at h

theorem rowsSpec_last (cls : Kwargs κ → Prog) (maxSteps : Nat) {per : Int} (hp : per ≠ 0) (r : Run κ) :
    let p := cls r.kwargs
    let snaps := storedSnaps p.cfg (Collect.init p.cfg p.tables) (histOf p (stepsTaken p maxSteps))
    ∀ sn, snaps.getLast? = some sn → ∀ row ∈ rowsOfSnap p.cfg snaps r sn, row ∈ rowsSpec cls maxSteps per r := by
  simp only [rowsSpec]
  generalize storedSnaps (cls r.kwargs).cfg _ _ = snaps
  intro sn hlast row hrow
  obtain ⟨ps, hps, hmem, _⟩ := picks_spec snaps.length per hp
  have hget : snaps[snaps.length - 1]? = some sn := List.getLast?_eq_getElem? ▸ hlast
  have hlen := (List.getElem?_eq_some_iff.mp hget).1
  rw [hps]
  refine List.mem_flatMap.mpr ⟨_, (hmem _).mpr ⟨hlen, Or.inr rfl⟩, ?_⟩
  simp only [hget]
  exact hrow

theorem filter_key_eq (key : α → Nat) (l : List α) (h : (l.map key).Nodup) (x : α) (hx : x ∈ l) :
    l.filter (fun y => key y == key x) = [x] := by
  induction l with
  | nil => simp at hx
  | cons y ys ih =>
    simp only [List.map_cons, List.nodup_cons] at h
    rcases List.mem_cons.mp hx with rfl | hx
    · have : ys.filter (fun y => key y == key x) = [] := by
        rw [List.filter_eq_nil_iff]
        intro z hz hk
        exact h.1 (List.mem_map.mpr ⟨z, hz, by simpa using hk⟩)
      simp [this]
    · have hne : ¬ key y = key x := fun e => h.1 (e ▸ List.mem_map.mpr ⟨x, hx, rfl⟩)
      simp [hne, ih h.2 hx]

theorem lastWith_of_nodup_keys (key : α → Nat) (l : List α) (h : (l.map key).Nodup) (x : α) (hx : x ∈ l) :
    lastWith (fun y => key y == key x) l = some x := by
  simp [lastWith, filter_key_eq key l h x hx]

/-! ### parameter values -/

/-- the values a parameter contributes: a string or a non-iterable is one value, anything else is iterated -/
def PVal.valuesT : PVal κ → List κ
  | .str v => [v]
  | .sized vs => vs
  | .iter vs => vs
  | .scalar v => [v]
  | .once vs => vs

theorem PVal.values_ok (pv : PVal κ) (h : pv ≠ .sized []) : pv.values = .ok pv.valuesT := by
  cases pv with
  | str v => rfl
  | sized vs => cases vs with
    | nil => exact absurd rfl h
    | cons v vs => rfl
  | iter vs => rfl
  | scalar v => rfl
  | once vs => rfl

theorem paramLists_ok (params : List (Nat × PVal κ)) (h : ∀ p ∈ params, p.2 ≠ .sized []) :
    paramLists params = .ok (params.map fun p => (p.1, p.2.valuesT)) := by
  induction params with
  | nil => rfl
  | cons x xs ih =>
    obtain ⟨n, pv⟩ := x
    simp only [paramLists, PVal.values_ok pv (h (n, pv) (by simp)), ih (fun p hp => h p (by simp [hp])), List.map_cons]

theorem paramLists_err (params : List (Nat × PVal κ)) (h : ∃ p ∈ params, p.2 = .sized []) :
    paramLists params = .error .value := by
  induction params with
  | nil => simp at h
  | cons x xs ih =>
    obtain ⟨n, pv⟩ := x
    by_cases hx : pv = .sized []
    · subst hx
      rfl
    · obtain ⟨p, hp, he⟩ := h
      have hp' : p ∈ xs := (List.mem_cons.mp hp).resolve_left (fun e => hx ((congrArg Prod.snd e).symm.trans he))
      rw [paramLists, ih ⟨p, hp', he⟩, PVal.values_ok pv hx]

/-! ### `batch_run` never fails for a period ≠ 0, whatever the reporters do

A reporter that raises inside a collect the model swallows leaves `model_vars` ragged, but every column stays at
least as long as `_collection_steps`: `_collect_data` finds a value at every reported position. -/

/-- total version of `runRows` (the rows when it succeeds) -/
def runRowsT (cls : Kwargs κ → Prog) (maxSteps : Nat) (period : Int) (r : Run κ) : List (BRow κ) :=
  match runRows cls maxSteps period r with
  | .ok rows => rows
  | .error _ => []

theorem mOk_eq_all (cfg : Cfg) (sn : Snap) : mOk cfg sn = cfg.mreps.all (·.passes sn) := by
  rw [Bool.eq_iff_iff, mOk_iff, List.all_eq_true]

theorem colsOf_length_ge (l : List MRep) (snaps : List Snap) :
    ∀ col ∈ colsOf l snaps, (snaps.filter fun sn => l.all (·.passes sn)).length ≤ col.length := by
  induction l generalizing snaps with
  | nil => simp [colsOf]
  | cons r rs ih =>
    intro col hc
    have hff : (snaps.filter fun sn => (r :: rs).all (·.passes sn)) =
        (snaps.filter r.passes).filter fun sn => rs.all (·.passes sn) := by
      rw [List.filter_filter]
      apply List.filter_congr
      intro sn _
      simp [Bool.and_comm]
    simp only [colsOf, List.mem_cons] at hc
    rcases hc with rfl | hc
    · rw [hff, List.length_map]
      exact List.length_filter_le _ _
    · rw [hff]
      exact ih _ col hc

theorem colsLong_of_holdsG {cfg : Cfg} {snaps : List Snap} {s : State} (h : HoldsG cfg snaps s) :
    ∀ col ∈ s.modelVars, s.collSteps.length ≤ col.length := by
  intro col hc
  rw [h.modelVars] at hc
  have := colsOf_length_ge cfg.mreps snaps col hc
  rw [h.collSteps, List.length_map]
  have he : snaps.filter (mOk cfg) = snaps.filter fun sn => cfg.mreps.all (·.passes sn) :=
    List.filter_congr (fun sn _ => mOk_eq_all cfg sn)
  rw [he]
  exact this

theorem mapM_getElem?_isSome (cols : List (List Val)) (i : Nat) (h : ∀ col ∈ cols, i < col.length) :
    ∃ vs, cols.mapM (·[i]?) = some vs := by
  induction cols with
  | nil => exact ⟨[], rfl⟩
  | cons c cs ih =>
    obtain ⟨vs, hvs⟩ := ih (fun col hc => h col (by simp [hc]))
    have hlt : i < c.length := h c (by simp)
    have hc : c[i]? = some c[i] := List.getElem?_eq_getElem hlt
    exact ⟨c[i] :: vs, by simp [List.mapM_cons, hc, hvs]⟩

theorem rowsAt_isOk {cfg : Cfg} {snaps : List Snap} {s : State} (h : HoldsG cfg snaps s) (r : Run κ) {i : Nat}
    (hi : i < s.collSteps.length) : ∃ rows, rowsAt r s i = .ok rows := by
  obtain ⟨vs, hvs⟩ := mapM_getElem?_isSome s.modelVars i
    (fun col hc => Nat.lt_of_lt_of_le hi (colsLong_of_holdsG h col hc))
  unfold rowsAt collectData
  simp only [List.getElem?_eq_getElem hi, hvs]
  exact ⟨_, rfl⟩

theorem runRows_total (cls : Kwargs κ → Prog) (maxSteps : Nat) (per : Int) (hp : per ≠ 0) (r : Run κ) :
    runRows cls maxSteps per r = .ok (runRowsT cls maxSteps per r) := by
  have hG := holdsG_history (cls r.kwargs).cfg (cls r.kwargs).tables
    (histOf (cls r.kwargs) (stepsTaken (cls r.kwargs) maxSteps))
  rw [← runModel_eq_run] at hG
  obtain ⟨ps, hps, hmem, _⟩ := picks_spec (runModel (cls r.kwargs) maxSteps).collSteps.length per hp
  have hys := mapME_ok (rowsAt r (runModel (cls r.kwargs) maxSteps))
    (fun i => match rowsAt r (runModel (cls r.kwargs) maxSteps) i with | .ok rows => rows | .error _ => [])
    ps (fun i hi => (rowsAt_isOk hG r ((hmem i).mp hi).1).elim fun rows h => by rw [h])
  unfold runRowsT runRows
  simp only [hps, hys]

theorem batchOrder_total (cls : Kwargs κ → Prog) (maxSteps : Nat) (per : Int) (hp : per ≠ 0) (order : List (Run κ)) :
    batchOrder cls maxSteps per order = .ok (order.flatMap (runRowsT cls maxSteps per)) := by
  unfold batchOrder
  rw [mapME_ok _ (runRowsT cls maxSteps per) _ (fun r _ => runRows_total cls maxSteps per hp r)]
  simp [List.flatMap]

/-! ### one call of `_make_model_kwargs` per iteration; one-shot iterators -/

theorem product_empty_factor (l : List (Nat × List κ)) (h : ∃ p ∈ l, p.2 = []) : product l = [] := by
  induction l with
  | nil => simp at h
  | cons x xs ih =>
    obtain ⟨n, vs⟩ := x
    obtain ⟨p, hp, he⟩ := h
    rcases List.mem_cons.mp hp with rfl | hp
    · cases he
      rfl
    · rw [product, ih ⟨p, hp, he⟩]
      simp

theorem no_empty_sized_of_ok {params : List (Nat × PVal κ)} {kws : List (Kwargs κ)} (h : makeKwargs params = .ok kws) :
    ∀ p ∈ params, p.2 ≠ .sized [] := by
  intro p hp he
  have := paramLists_err params ⟨p, hp, he⟩
  simp [makeKwargs, this] at h

theorem makeKwargs_eq_product {params : List (Nat × PVal κ)} (h : ∀ p ∈ params, p.2 ≠ .sized []) :
    makeKwargs params = .ok (product (params.map fun p => (p.1, p.2.valuesT))) := by
  simp only [makeKwargs, paramLists_ok params h]

theorem iterLoop_reiterable (params : List (Nat × PVal κ)) (kws : List (Kwargs κ))
    (hre : ∀ p ∈ params, p.2.spent = p.2) (hk : makeKwargs params = .ok kws) (n it : Nat) :
    iterLoop n it params = .ok ((List.range n).flatMap fun i => kws.map fun kw => (it + i, kw)) := by
  have hmap : (params.map fun p => (p.1, p.2.spent)) = params :=
    (List.map_congr_left (f := fun p => (p.1, p.2.spent)) (g := id) fun p hp => Prod.ext rfl (hre p hp)).trans (List.map_id _)
  induction n generalizing it with
  | zero => rfl
  | succ n ih =>
    simp only [iterLoop, hk, hmap, ih (it + 1)]
    rw [List.range_succ_eq_map, List.flatMap_cons, List.flatMap_map]
    simp only [Nat.add_zero, Nat.add_assoc, Nat.add_comm 1]

theorem spent_spent (pv : PVal κ) : pv.spent.spent = pv.spent := by
  cases pv <;> rfl

theorem PVal.spent_of_not_once {pv : PVal κ} (h : ∀ vs, pv ≠ .once vs) : pv.spent = pv := by
  cases pv with
  | once vs => exact absurd rfl (h vs)
  | _ => rfl

theorem PVal.spent_ne_sized_nil {pv : PVal κ} (h : pv ≠ .sized []) : pv.spent ≠ .sized [] := by
  cases pv with
  | once vs => exact fun e => nomatch e
  | _ => exact h

theorem makeKwargs_spent {params : List (Nat × PVal κ)} {kws : List (Kwargs κ)} (hk : makeKwargs params = .ok kws)
    (hone : ∃ p ∈ params, ∃ vs, p.2 = .once vs) :
    makeKwargs (params.map fun p => (p.1, p.2.spent)) = .ok [] := by
  have hne := no_empty_sized_of_ok hk
  have hne' : ∀ p ∈ params.map (fun p => (p.1, p.2.spent)), p.2 ≠ .sized [] := by
    intro p hp
    obtain ⟨q, hq, rfl⟩ := List.mem_map.mp hp
    exact PVal.spent_ne_sized_nil (hne q hq)
  rw [makeKwargs_eq_product hne', product_empty_factor]
  obtain ⟨p, hp, vs, hv⟩ := hone
  refine ⟨(p.1, (PVal.once ([] : List κ)).valuesT), ?_, rfl⟩
  simp only [List.map_map, List.mem_map]
  exact ⟨p, hp, by simp [Function.comp, hv, PVal.spent]⟩

theorem iterLoop_oneshot (params : List (Nat × PVal κ)) (kws : List (Kwargs κ)) (hk : makeKwargs params = .ok kws)
    (hone : ∃ p ∈ params, ∃ vs, p.2 = .once vs) (n it : Nat) :
    iterLoop (n + 1) it params = .ok (kws.map fun kw => (it, kw)) := by
  have hs := makeKwargs_spent hk hone
  have hrest := iterLoop_reiterable (params.map fun p => (p.1, p.2.spent)) [] (by
      intro p hp
      obtain ⟨q, _, rfl⟩ := List.mem_map.mp hp
      exact spent_spent q.2) hs n (it + 1)
  simp only [iterLoop, hk, hrest]
  simp

/-! ### the rows of one run stay together, in the run's order -/

theorem rowsAt_runId {r : Run κ} {s : State} {i : Nat} {rows : List (BRow κ)} (h : rowsAt r s i = .ok rows) :
    ∀ b ∈ rows, b.runId = r.runId := by
  unfold rowsAt at h
  split at h
  · cases h
  · cases h
    exact fun b hb => (mem_rowsOfColl (r := r) hb).1

theorem runRowsT_runId (cls : Kwargs κ → Prog) (maxSteps : Nat) (per : Int) (r : Run κ) :
    ∀ b ∈ runRowsT cls maxSteps per r, b.runId = r.runId := by
  intro b hb
  simp only [runRowsT, runRows] at hb
  split at hb
  · rename_i rows hr
    split at hr
    · cases hr
    · split at hr
      · cases hr
      · rename_i chunks hm
        cases hr
        obtain ⟨chunk, hc, hbc⟩ := List.mem_flatten.mp hb
        obtain ⟨i, _, hi⟩ := mapME_mem hm chunk hc
        exact rowsAt_runId hi b hbc
  · simp at hb

theorem filter_flatMap_of_chunks {p : α → Bool} {q : β → Bool} {chunk : α → List β} (h : ∀ a, ∀ b ∈ chunk a, q b = p a)
    (l : List α) : (l.flatMap chunk).filter q = (l.filter p).flatMap chunk := by
  induction l with
  | nil => rfl
  | cons x xs ih =>
    rw [List.flatMap_cons, List.filter_append, ih, List.filter_cons]
    cases hp : p x
    · rw [List.filter_eq_nil_iff.mpr fun b hb => by simp [h x b hb, hp]]
      rfl
    · rw [List.filter_eq_self.mpr fun b hb => by rw [h x b hb, hp]]
      rfl

theorem filter_runId (cls : Kwargs κ → Prog) (maxSteps : Nat) (per : Int) (l : List (Run κ))
    (hnd : (l.map (·.runId)).Nodup) (r : Run κ) (hr : r ∈ l) :
    (l.flatMap (runRowsT cls maxSteps per)).filter (fun b => b.runId == r.runId) = runRowsT cls maxSteps per r := by
  rw [filter_flatMap_of_chunks (p := fun y => y.runId == r.runId)
      (fun y b hb => by rw [runRowsT_runId cls maxSteps per y b hb]),
    filter_key_eq Run.runId l hnd r hr, List.flatMap_singleton]

theorem byRunId_of_perm (cls : Kwargs κ → Prog) (maxSteps : Nat) (per : Int) {runs order : List (Run κ)}
    (h : order.Perm runs) {n : Nat} (hids : runs.map (·.runId) = List.range n) :
    byRunId n (order.flatMap (runRowsT cls maxSteps per)) = runs.flatMap (runRowsT cls maxSteps per) := by
  have hnd : (order.map (·.runId)).Nodup := (h.map _).nodup_iff.mpr (hids ▸ List.nodup_range)
  rw [byRunId, ← hids, List.flatMap_map, List.flatMap_def, List.flatMap_def]
  congr 1
  exact List.map_congr_left fun r hr => filter_runId cls maxSteps per order hnd r (h.mem_iff.mpr hr)

theorem lateOrder_perm [DecidableEq κ] (j : Nat) (runs : List (Run κ)) : (lateOrder j runs).Perm runs := by
  unfold lateOrder
  cases runs[j]? with
  | none => exact List.Perm.refl _
  | some r => exact List.perm_append_comm.trans (List.filter_append_perm (fun x => decide (x.kwargs = r.kwargs)) runs)

theorem filter_mod_range (n p : Nat) (hn : 0 < n) (hp : n ≤ p) : (List.range n).filter (fun i => i % p = 0) = [0] := by
  induction n with
  | zero => omega
  | succ n ih =>
    rw [List.range_succ, List.filter_append]
    by_cases h0 : n = 0
    · subst h0
      simp
    · rw [ih (by omega) (by omega)]
      have : n % p ≠ 0 := by
        rw [Nat.mod_eq_of_lt (by omega)]
        exact h0
      simp [this]

end Mesa.Batch
