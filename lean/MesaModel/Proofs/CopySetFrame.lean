import MesaModel.Proofs.CopySet
/-!
The frame lemma of `Model/CopySet.lean`: which records an operation leaves as they are (`SameOn`), and the congruence of
`view`: what a set shows depends only on the records of `deps`.
-/
namespace Mesa.CopySet

/-! ### the identities the view of a set depends on -/

theorem mem_deps {w : World} {s : Nat} {r : SetRec} (hr : w.sets s = some r) {x : Nat} :
    x ∈ deps w s ↔ x = s ∨ x = r.gen ∨ x ∈ r.members ∨ ∃ a, a ∈ r.members ∧ ∃ ar, w.agents a = some ar ∧ ar.model = x := by
  simp only [deps, hr, List.mem_cons, List.mem_append, List.mem_filterMap, Option.map_eq_some_iff]

theorem self_mem_deps (w : World) (s : Nat) : s ∈ deps w s := by
  unfold deps; split <;> simp

theorem gen_mem_deps {w : World} {s : Nat} {r : SetRec} (hr : w.sets s = some r) : r.gen ∈ deps w s :=
  (mem_deps hr).mpr (.inr (.inl rfl))

theorem member_mem_deps {w : World} {s : Nat} {r : SetRec} (hr : w.sets s = some r) {a : Nat} (ha : a ∈ r.members) :
    a ∈ deps w s :=
  (mem_deps hr).mpr (.inr (.inr (.inl ha)))

theorem model_mem_deps {w : World} {s : Nat} {r : SetRec} (hr : w.sets s = some r) {a : Nat} (ha : a ∈ r.members)
    {ar : AgentRec} (har : w.agents a = some ar) : ar.model ∈ deps w s :=
  (mem_deps hr).mpr (.inr (.inr (.inr ⟨a, ha, ar, har, rfl⟩)))

theorem deps_lt {w : World} (hw : WF w) {s : Nat} (hs : s < w.next) : ∀ x ∈ deps w s, x < w.next := by
  intro x hx
  cases hr : w.sets s with
  | none =>
    simp only [deps, hr, List.mem_singleton] at hx
    exact hx ▸ hs
  | some r =>
    obtain ⟨_, hg, hm, _⟩ := hw.setsLt s r hr
    rcases (mem_deps hr).mp hx with rfl | rfl | h | ⟨a, _, ar, har, rfl⟩
    · exact hs
    · exact hg
    · exact hm x h
    · exact (hw.agentsLt a ar har).2

/-! ### worlds with the same records on some identities -/

/-- `w'` has the records of `w` at every identity satisfying `Q`; for a model the record includes what keeps it alive -/
structure SameOn (Q : Nat → Prop) (w w' : World) : Prop where
  agents : ∀ x, Q x → w'.agents x = w.agents x
  models : ∀ x, Q x → w'.models x = w.models x ∧ w'.ids x = w.ids x ∧
    w'.heldM.contains x = w.heldM.contains x ∧ owned w' x = owned w x
  gens : ∀ x, Q x → w'.gens x = w.gens x
  sets : ∀ x, Q x → w'.sets x = w.sets x

theorem SameOn.refl (Q : Nat → Prop) (w : World) : SameOn Q w w :=
  ⟨fun _ _ => rfl, fun _ _ => ⟨rfl, rfl, rfl, rfl⟩, fun _ _ => rfl, fun _ _ => rfl⟩

theorem SameOn.mono {Q R : Nat → Prop} {w w' : World} (h : SameOn Q w w') (hrq : ∀ x, R x → Q x) : SameOn R w w' :=
  ⟨fun x hx => h.agents x (hrq x hx), fun x hx => h.models x (hrq x hx), fun x hx => h.gens x (hrq x hx),
    fun x hx => h.sets x (hrq x hx)⟩

/-! ### what a set shows depends only on the records of `deps` -/

/-- `w'` agrees with `w` on everything the view of `s` reads -/
def Agree (w w' : World) (s : Nat) : Prop := SameOn (· ∈ deps w s) w w'

theorem Agree.set {w w' : World} {s : Nat} (h : Agree w w' s) : w'.sets s = w.sets s := h.sets s (self_mem_deps w s)

theorem Agree.alive {w w' : World} {s : Nat} (h : Agree w w' s) {r : SetRec} (hr : w.sets s = some r) :
    ∀ a ∈ r.members, agentAlive w' a = agentAlive w a := by
  intro a ha
  unfold agentAlive
  rw [h.agents a (member_mem_deps hr ha)]
  cases har : w.agents a with
  | none => rfl
  | some ar =>
    obtain ⟨h1, h2, h3, h4⟩ := h.models _ (model_mem_deps hr ha har)
    simp only [modelAlive, h1, h2, h3, h4]

theorem Agree.view_eq {w w' : World} {s : Nat} (h : Agree w w' s) : view w' s = view w s := by
  unfold view
  rw [h.set]
  cases hr : w.sets s with
  | none => rfl
  | some r =>
    simp only
    have hal : aliveMembers w' r = aliveMembers w r := List.filter_congr (h.alive hr)
    rw [hal]
    unfold scriptOf
    rw [h.gens _ (gen_mem_deps hr)]
    congr 2
    apply filterMap_congr'
    intro a ha
    rw [h.agents a (member_mem_deps hr (mem_aliveMembers.mp ha).1)]

theorem Agree.deps_eq {w w' : World} {s : Nat} (h : Agree w w' s) : deps w' s = deps w s := by
  unfold deps
  rw [h.set]
  cases hr : w.sets s with
  | none => rfl
  | some r =>
    simp only
    congr 3
    apply filterMap_congr'
    intro a ha
    rw [h.agents a (member_mem_deps hr ha)]

/-! ### `owned` only reads the owners of the listed sets -/

theorem owned_congr {w w' : World} {m : Nat} (extra : List Nat)
    (hids : w'.setIds = w.setIds ++ extra)
    (hold : ∀ t ∈ w.setIds, ownersOf w' t = ownersOf w t)
    (hnew : ∀ t ∈ extra, m ∉ ownersOf w' t) :
    owned w' m = owned w m := by
  rw [Bool.eq_iff_iff]
  simp only [owned, hids, List.any_eq_true, List.mem_append, List.contains_iff_mem]
  constructor
  · rintro ⟨t, ht | ht, h⟩
    · exact ⟨t, ht, hold t ht ▸ h⟩
    · exact absurd h (hnew t ht)
  · rintro ⟨t, ht, h⟩
    exact ⟨t, .inl ht, (hold t ht).symm ▸ h⟩

theorem owned_same {w w' : World} (h1 : w'.sets = w.sets) (h2 : w'.setIds = w.setIds) (m : Nat) : owned w' m = owned w m := by
  unfold owned ownersOf
  rw [h1, h2]

theorem ownersOf_upd_ne {w : World} {t k : Nat} (r : SetRec) (h : t ≠ k) :
    ownersOf { w with sets := upd w.sets k r } t = ownersOf w t := by
  simp [ownersOf, upd_ne _ _ h]

/-- the generators are arbitrary: ownership does not read them -/
theorem owned_upd_members {w : World} {t : Nat} {r : SetRec} (hr : w.sets t = some r) (l : List Nat)
    (gens : Nat → Option Rng) (m : Nat) :
    owned { w with sets := upd w.sets t { r with members := l }, gens := gens } m = owned w m := by
  apply owned_congr [] (by simp)
  · intro t' _
    by_cases h : t' = t
    · subst h
      simp [ownersOf, hr]
    · exact ownersOf_upd_ne _ h
  · intro t' ht'
    simp at ht'

theorem owned_append {w : World} (hw : WF w) {w' : World} {k : Nat} {r : SetRec} (hk : w.next ≤ k)
    (hsets : w'.sets = upd w.sets k r) (hids : w'.setIds = w.setIds ++ [k]) {m : Nat} (hm : m ∉ r.owners) :
    owned w' m = owned w m := by
  apply owned_congr [k] hids
  · intro t ht
    have hne : t ≠ k := Nat.ne_of_lt (Nat.lt_of_lt_of_le (hw.setIdsLt t ht) hk)
    simp only [ownersOf, hsets, upd_ne _ _ hne]
  · intro t ht
    rw [List.mem_singleton.mp ht]
    simpa only [ownersOf, hsets, upd_same] using hm

/-! ### the operations -/

variable {w : World} {s : Nat}

theorem same_setMembers {t : Nat} {r : SetRec} (hr : w.sets t = some r) (l : List Nat) (gens : Nat → Option Rng)
    {Q : Nat → Prop} (ht : ¬ Q t) (hg : ∀ x, Q x → gens x = w.gens x) :
    SameOn Q w { w with sets := upd w.sets t { r with members := l }, gens := gens } :=
  ⟨fun _ _ => rfl, fun x _ => ⟨rfl, rfl, rfl, owned_upd_members hr l gens x⟩, hg,
    fun _ hx => upd_ne _ _ fun h => ht (h ▸ hx)⟩

/-- also for the code before S24 (`k = false`) -/
theorem same_copyWorld (hw : WF w) (t : Nat) (r : SetRec) (k : Bool) :
    SameOn (· < w.next) w (copyWorld w t r k) := by
  refine ⟨fun x hx => copyWorld_agents_old t r k hx,
    fun x hx => ⟨copyWorld_models_old t r k hx, rfl, rfl, owned_append hw (Nat.le_add_left _ _) rfl rfl ?_⟩,
    fun x hx => copyWorld_gens_old t r k hx, fun x hx => upd_ne _ _ (Nat.ne_of_lt (Nat.lt_add_left t hx))⟩
  cases k
  · simp
  · intro h
    obtain ⟨m, _, hm⟩ := List.mem_map.mp h
    have : x < w.next := hx
    omega

theorem same_step (hw : WF w) : ∀ op, SameOn (fun x => x ∉ writes w op ∧ x < w.next) w (step w op) := by
  refine step_cases (M := fun op w' => SameOn (fun x => x ∉ writes w op ∧ x < w.next) w w') w
    (fun _ => SameOn.refl _ _) ?newModel ?create ?remove ?setW ?mkSet ?add ?discard ?sortW ?shuffle ?copy
  case newModel =>
    intro sc
    refine ⟨fun _ _ => rfl, fun x hx => ?_, fun x hx => upd_ne _ _ (Nat.ne_of_lt hx.2), fun _ _ => rfl⟩
    have hne : x ≠ w.next + 1 := Nat.ne_of_lt (Nat.lt_succ_of_lt hx.2)
    exact ⟨upd_ne _ _ hne, rfl, by simp [newModel, hne], owned_same rfl rfl x⟩
  case create =>
    intro m v mr _ _
    refine ⟨fun x hx => upd_ne _ _ (Nat.ne_of_lt hx.2), fun x hx => ?_, fun _ _ => rfl, fun _ _ => rfl⟩
    have hne : x ≠ m := fun h => hx.1 (List.mem_singleton.mpr h)
    exact ⟨upd_ne _ _ hne, upd_ne _ _ hne, rfl, owned_same rfl rfl x⟩
  case remove =>
    intro a ar mr _ har _
    refine ⟨fun _ _ => rfl, fun x hx => ⟨upd_ne _ _ fun h => hx.1 ?_, rfl, rfl, owned_same rfl rfl x⟩,
      fun _ _ => rfl, fun _ _ => rfl⟩
    simp [writes, har, h]
  case setW =>
    intro a v ar _ _
    exact ⟨fun x hx => upd_ne _ _ fun h => hx.1 (List.mem_singleton.mpr h),
      fun x _ => ⟨rfl, rfl, rfl, owned_same rfl rfl x⟩, fun _ _ => rfl, fun _ _ => rfl⟩
  case mkSet =>
    intro m as mr _ _ _
    exact ⟨fun _ _ => rfl, fun x _ => ⟨rfl, rfl, rfl, owned_append hw (Nat.le_refl _) rfl rfl (by simp)⟩,
      fun _ _ => rfl, fun x hx => upd_ne _ _ (Nat.ne_of_lt hx.2)⟩
  case add =>
    intro t a r _ hr
    exact same_setMembers hr _ _ (fun h => h.1 (List.mem_singleton_self t)) fun _ _ => rfl
  case discard =>
    intro t a r _ hr
    exact same_setMembers hr _ _ (fun h => h.1 (List.mem_singleton_self t)) fun _ _ => rfl
  case sortW =>
    intro t r hr
    exact same_setMembers hr _ _ (fun h => h.1 (List.mem_singleton_self t)) fun _ _ => rfl
  case shuffle =>
    intro t r g hr _
    refine same_setMembers hr _ _ (fun h => h.1 List.mem_cons_self) fun x hx => upd_ne _ _ fun h => hx.1 ?_
    simp [writes, hr, h]
  case copy =>
    intro t r _
    exact (same_copyWorld hw t r true).mono fun _ hx => hx.2

theorem agree_copyWorld (hw : WF w) (hs : s < w.next) (t : Nat) (r : SetRec) (k : Bool) :
    Agree w (copyWorld w t r k) s :=
  (same_copyWorld hw t r k).mono (deps_lt hw hs)

theorem agree_copy (hw : WF w) (hs : s < w.next) (t : Nat) (k : Bool) {w' : World} {s' : Nat}
    (hc : copySet w t k = some (w', s')) : Agree w w' s := by
  obtain ⟨r, _, rfl, _⟩ := copySet_eq_some.mp hc
  exact agree_copyWorld hw hs t r k

theorem agree_step (hw : WF w) (hs : s < w.next) (op : Op) (hav : ∀ x ∈ writes w op, x ∉ deps w s) :
    Agree w (step w op) s :=
  (same_step hw op).mono fun x hx => ⟨fun h => hav x h hx, deps_lt hw hs x hx⟩

end Mesa.CopySet
