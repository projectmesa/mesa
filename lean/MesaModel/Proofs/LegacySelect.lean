import MesaModel.Model.LegacySelect
import MesaModel.Proofs.Legacy
import MesaModel.Proofs.LegacyOrth
/-! Helper lemmas for the C08 theorems about `coord_iter` and `select_cells` (Model/LegacySelect.lean).  Defines
`Extreme.valid` and `Grid.Candidate`, which the statements mention, and `extremeMask` for the proofs. -/
namespace Mesa.Legacy

open Grid

/-! ### coord_iter -/

theorem coordIter_coords (g : Grid) : g.coordIter.map (·.2) = g.allCells := by
  simp [coordIter, List.map_map, Function.comp_def]

theorem mem_coordIter (g : Grid) (l : List Aid) (c : Coord) : (l, c) ∈ g.coordIter ↔ g.inGrid c ∧ l = g.content c := by
  simp only [coordIter, List.mem_map, Prod.mk.injEq]
  constructor
  · rintro ⟨c', hc', h1, rfl⟩
    exact ⟨(mem_allCells g _).mp hc', h1.symm⟩
  · rintro ⟨hc, rfl⟩
    exact ⟨c, (mem_allCells g c).mpr hc, rfl, rfl⟩

theorem coordIter_pos (g : Grid) (hi : Inv g) (a : Aid) (p : Coord) :
    g.pos a = some p ↔ ∃ l, (l, p) ∈ g.coordIter ∧ a ∈ l := by
  constructor
  · intro hp
    have hm := (hi.pos_content a p).mp hp
    exact ⟨g.content p, (mem_coordIter g _ _).mpr ⟨hi.in_grid p (List.ne_nil_of_mem hm), rfl⟩, hm⟩
  · rintro ⟨l, hl, ha⟩
    obtain ⟨_, rfl⟩ := (mem_coordIter g _ _).mp hl
    exact (hi.pos_content a p).mpr ha

/-! ### conditions -/

theorem applyConds_ok (ls : Layers) (conds : List Cond) (m : CMask) (hv : ∀ c ∈ conds, c.layer < ls.n) :
    ∃ m', applyConds ls conds m = .ok m' ∧
      ∀ p, m' p = (m p && conds.all (fun c => c.cmp.holds (ls.data c.layer p) c.k)) := by
  induction conds generalizing m with
  | nil => exact ⟨m, rfl, fun p => by simp⟩
  | cons c cs ih =>
    have hc : c.layer < ls.n := hv c (by simp)
    obtain ⟨m', h1, h2⟩ := ih (fun p => m p && c.cmp.holds (ls.data c.layer p) c.k) (fun c' hc' => hv c' (by simp [hc']))
    refine ⟨m', by simp only [applyConds, hc, if_true]; exact h1, fun p => ?_⟩
    rw [h2 p]
    simp [Bool.and_assoc]

theorem applyConds_error (ls : Layers) (conds : List Cond) (m : CMask) :
    (∃ e, applyConds ls conds m = .error e) ↔ ∃ c ∈ conds, ¬ c.layer < ls.n := by
  induction conds generalizing m with
  | nil => simp [applyConds]
  | cons c cs ih =>
    by_cases hc : c.layer < ls.n
    · simp only [applyConds, hc, if_true, ih, List.mem_cons, exists_eq_or_imp, not_true_eq_false, false_or]
    · simp only [applyConds, hc, if_false, List.mem_cons, exists_eq_or_imp, not_false_eq_true, true_or, iff_true]
      exact ⟨_, rfl⟩

/-! ### the highest / lowest value of a list -/

theorem foldl_extreme_spec (hi : Bool) (xs : List Int) (x : Int) :
    xs.foldl (fun a b => if hi then (if a < b then b else a) else (if b < a then b else a)) x ∈ x :: xs ∧
    ∀ v ∈ x :: xs,
      if hi then v ≤ xs.foldl (fun a b => if hi then (if a < b then b else a) else (if b < a then b else a)) x
      else xs.foldl (fun a b => if hi then (if a < b then b else a) else (if b < a then b else a)) x ≤ v := by
  induction xs generalizing x with
  | nil => cases hi <;> simp
  | cons y ys ih =>
    rw [List.foldl_cons]
    -- a step keeps the more extreme of `x` and `y`
    have hstep : ∀ s, s = (if hi then (if x < y then y else x) else (if y < x then y else x)) →
        (s = x ∨ s = y) ∧ if hi then x ≤ s ∧ y ≤ s else s ≤ x ∧ s ≤ y := by
      rintro s rfl
      cases hi <;> simp only [if_true, Bool.false_eq_true, if_false] <;> split <;> omega
    obtain ⟨h1, h2⟩ := ih (if hi then (if x < y then y else x) else (if y < x then y else x))
    obtain ⟨hs1, hs2⟩ := hstep _ rfl
    generalize (if hi then (if x < y then y else x) else (if y < x then y else x)) = s at h1 h2 hs1 hs2 ⊢
    generalize ys.foldl _ s = r at h1 h2 ⊢
    have hsr := h2 s (List.mem_cons_self ..)
    constructor
    · rcases List.mem_cons.mp h1 with rfl | h
      · rcases hs1 with e | e <;> simp [e]
      · exact List.mem_cons_of_mem _ (List.mem_cons_of_mem _ h)
    · intro v hv
      rcases List.mem_cons.mp hv with rfl | hv
      · cases hi <;> simp only [if_true, Bool.false_eq_true, if_false] at hs2 hsr ⊢ <;> omega
      · rcases List.mem_cons.mp hv with rfl | hv
        · cases hi <;> simp only [if_true, Bool.false_eq_true, if_false] at hs2 hsr ⊢ <;> omega
        · exact h2 v (List.mem_cons_of_mem _ hv)

theorem extremeOf_none (hi : Bool) (vals : List Int) : extremeOf hi vals = none ↔ vals = [] := by
  cases vals <;> simp [extremeOf]

theorem extremeOf_spec (hi : Bool) (vals : List Int) (t : Int) (h : extremeOf hi vals = some t) :
    t ∈ vals ∧ ∀ v ∈ vals, if hi then v ≤ t else t ≤ v := by
  cases vals with
  | nil => cases h
  | cons x xs =>
    simp only [extremeOf, Option.some.injEq] at h
    rw [← h]
    exact foldl_extreme_spec hi xs x

/-! ### extreme values -/

/-- the mask after one extreme value (`high`: highest, else lowest) on layer `i`: the selected cells of the grid whose value
    is the extreme one among them -/
def extremeMask (g : Grid) (ls : Layers) (i : Nat) (high : Bool) (m : CMask) : CMask :=
  match extremeOf high ((g.allCells.filter m).map (ls.data i)) with
  | none => fun _ => false
  | some t => fun p => m p && decide (ls.data i p = t)

/-- both modes go on with `extremeMask` -/
theorem applyExtremes_cons (g : Grid) (ls : Layers) (i : Nat) (hi : i < ls.n) (high : Bool) (es : List Extreme) (m : CMask) :
    g.applyExtremes ls (⟨i, if high then .highest else .lowest⟩ :: es) m = g.applyExtremes ls es (extremeMask g ls i high m) := by
  cases high <;> simp only [applyExtremes, hi, if_true, Bool.false_eq_true, if_false, extremeMask] <;>
    generalize extremeOf _ _ = o <;> cases o <;> rfl

theorem extremeMask_sub (g : Grid) (ls : Layers) (i : Nat) (high : Bool) (m : CMask) (p : Coord)
    (h : extremeMask g ls i high m p = true) : m p = true := by
  unfold extremeMask at h
  generalize extremeOf _ _ = o at h
  cases o with
  | none => cases h
  | some t =>
    simp only [Bool.and_eq_true] at h
    exact h.1

/-- exactly the selected cells of the grid whose value no selected cell of the grid beats -/
theorem mem_extremeMask (g : Grid) (ls : Layers) (i : Nat) (high : Bool) (m : CMask) (p : Coord) (hp : g.inGrid p) :
    extremeMask g ls i high m p = true ↔ m p = true ∧ ∀ q, g.inGrid q → m q = true →
      if high then ls.data i q ≤ ls.data i p else ls.data i p ≤ ls.data i q := by
  unfold extremeMask
  cases hx : extremeOf high (List.map (ls.data i) (List.filter m g.allCells)) with
  | none =>
    have hnil := (extremeOf_none _ _).mp hx
    simp only [List.map_eq_nil_iff, List.filter_eq_nil_iff] at hnil
    simp only [Bool.false_eq_true, false_iff, not_and]
    intro hm
    exact absurd hm (hnil p ((mem_allCells g p).mpr hp))
  | some t =>
    obtain ⟨h1, h2⟩ := extremeOf_spec _ _ _ hx
    simp only [List.mem_map, List.mem_filter, mem_allCells] at h1 h2
    simp only [Bool.and_eq_true, decide_eq_true_eq]
    constructor
    · rintro ⟨hm, rfl⟩
      exact ⟨hm, fun q hq hmq => h2 _ ⟨q, ⟨hq, hmq⟩, rfl⟩⟩
    · rintro ⟨hm, hall⟩
      obtain ⟨q, ⟨hq, hmq⟩, rfl⟩ := h1
      have a := hall q hq hmq
      have b := h2 _ ⟨p, ⟨hp, hm⟩, rfl⟩
      exact ⟨hm, by cases high <;> simp only [if_true, Bool.false_eq_true, if_false] at a b <;> omega⟩

/-- a selected cell of the grid with the extreme value stays selected -/
theorem extremeMask_nonempty (g : Grid) (ls : Layers) (i : Nat) (high : Bool) (m : CMask)
    (h : ∃ p, g.inGrid p ∧ m p = true) : ∃ p, g.inGrid p ∧ extremeMask g ls i high m p = true := by
  obtain ⟨p, hp, hmp⟩ := h
  unfold extremeMask
  cases hx : extremeOf high (List.map (ls.data i) (List.filter m g.allCells)) with
  | none =>
    have hnil := (extremeOf_none _ _).mp hx
    simp only [List.map_eq_nil_iff, List.filter_eq_nil_iff] at hnil
    exact absurd hmp (hnil p ((mem_allCells g p).mpr hp))
  | some t =>
    have hmem := (extremeOf_spec _ _ _ hx).1
    simp only [List.mem_map, List.mem_filter, mem_allCells] at hmem
    obtain ⟨q, ⟨hq, hmq⟩, rfl⟩ := hmem
    exact ⟨q, hq, by simp [hmq]⟩

theorem applyExtremes_one (g : Grid) (ls : Layers) (i : Nat) (hi : i < ls.n) (high : Bool) (m : CMask) :
    ∃ m', g.applyExtremes ls [⟨i, if high then .highest else .lowest⟩] m = .ok m' ∧
      ∀ p, g.inGrid p → (m' p = true ↔ m p = true ∧ ∀ q, g.inGrid q → m q = true →
        if high then ls.data i q ≤ ls.data i p else ls.data i p ≤ ls.data i q) :=
  ⟨_, applyExtremes_cons g ls i hi high [] m, mem_extremeMask g ls i high m⟩

def Extreme.valid (ls : Layers) (e : Extreme) : Prop := e.layer < ls.n ∧ e.mode ≠ .other

theorem Extreme.valid_iff (ls : Layers) (e : Extreme) :
    e.valid ls ↔ e.layer < ls.n ∧ ∃ high : Bool, e = ⟨e.layer, if high then .highest else .lowest⟩ := by
  obtain ⟨i, mode⟩ := e
  cases mode <;> simp [Extreme.valid]

/-- any chain of extreme values only narrows the selection, and never narrows a non-empty selection to nothing -/
theorem applyExtremes_ok (g : Grid) (ls : Layers) (exts : List Extreme) (m : CMask) (hv : ∀ e ∈ exts, e.valid ls) :
    ∃ m', g.applyExtremes ls exts m = .ok m' ∧ (∀ p, m' p = true → m p = true) ∧
      ((∃ p, g.inGrid p ∧ m p = true) → ∃ p, g.inGrid p ∧ m' p = true) := by
  induction exts generalizing m with
  | nil => exact ⟨m, rfl, fun _ h => h, fun h => h⟩
  | cons e es ih =>
    obtain ⟨hl, high, he⟩ := (Extreme.valid_iff ls e).mp (hv e (by simp))
    rw [he, applyExtremes_cons g ls _ hl]
    obtain ⟨m', h1, h2, h3⟩ := ih (extremeMask g ls e.layer high m) (fun e' he' => hv e' (by simp [he']))
    exact ⟨m', h1, fun p hp => extremeMask_sub _ _ _ _ _ _ (h2 p hp), fun h => h3 (extremeMask_nonempty _ _ _ _ _ h)⟩

theorem applyExtremes_error (g : Grid) (ls : Layers) (exts : List Extreme) (m : CMask) :
    (∃ e, g.applyExtremes ls exts m = .error e) ↔ ∃ x ∈ exts, ¬ x.valid ls := by
  induction exts generalizing m with
  | nil => simp [applyExtremes]
  | cons x xs ih =>
    simp only [List.mem_cons, exists_eq_or_imp]
    by_cases hx : x.valid ls
    · obtain ⟨hl, high, he⟩ := (Extreme.valid_iff ls x).mp hx
      rw [he, applyExtremes_cons g ls _ hl, ih, ← he]
      exact ⟨Or.inr, fun h => h.resolve_left (fun h' => h' hx)⟩
    · refine ⟨fun _ => Or.inl hx, fun _ => ?_⟩
      obtain ⟨i, mode⟩ := x
      unfold applyExtremes
      by_cases hl : i < ls.n
      · cases mode with
        | other => exact ⟨_, by rw [if_pos hl]⟩
        | highest => exact absurd ⟨hl, by simp⟩ hx
        | lowest => exact absurd ⟨hl, by simp⟩ hx
      · exact ⟨_, by rw [if_neg hl]⟩

/-! ### select_cells -/

/-- the cells selected before any extreme value is applied -/
def Grid.Candidate (g : Grid) (ls : Layers) (masks : List CMask) (onlyEmpty : Bool) (conds : List Cond) (p : Coord) : Prop :=
  g.inGrid p ∧ (∀ m ∈ masks, m p = true) ∧ (onlyEmpty = true → g.content p = []) ∧
    ∀ c ∈ conds, c.cmp.holds (ls.data c.layer p) c.k = true

/-- with conditions on layers that exist, the conditions stage yields a mask that is exactly `Candidate` on the cells of the
    grid, and `select_cells` is the chain of extreme values applied to it -/
theorem selectMask_conds (g : Grid) (hinv : Inv g) (ls : Layers) (masks : List CMask) (oe : Bool) (conds : List Cond)
    (hv : ∀ c ∈ conds, c.layer < ls.n) :
    ∃ m, (∀ p, g.inGrid p → (m p = true ↔ g.Candidate ls masks oe conds p)) ∧
      ∀ exts, g.selectMask ls masks oe conds exts = g.applyExtremes ls exts m := by
  obtain ⟨m', h1, h2⟩ := applyConds_ok ls conds
    (if oe then (fun p => (masks.all fun m => m p) && g.mask p) else fun p => masks.all fun m => m p) hv
  refine ⟨m', fun p hp => ?_, fun exts => by simp only [selectMask, h1]⟩
  rw [h2 p]
  simp only [Candidate, hp, true_and]
  cases oe with
  | true =>
    simp only [if_true, Bool.and_eq_true, List.all_eq_true, hinv.mask p hp, List.isEmpty_iff, forall_const, and_assoc]
  | false =>
    simp only [Bool.false_eq_true, if_false, Bool.and_eq_true, List.all_eq_true, false_imp_iff, true_and]

theorem sorted_filter_allCells (g : Grid) (m : CMask) : SortedSet (g.allCells.filter m) :=
  List.Pairwise.filter _ (sorted_allCells g)

theorem selectCells_of_mask (g : Grid) (ls : Layers) (masks : List CMask) (oe : Bool) (conds : List Cond) (exts : List Extreme)
    (m : CMask) (h : g.selectMask ls masks oe conds exts = .ok m) :
    g.selectCells ls masks oe conds exts = .ok (g.allCells.filter m) := by
  simp only [selectCells, h]

/-- `select_cells` without extreme values: exactly the candidate cells, in row-major order -/
theorem selectCells_exact (g : Grid) (hinv : Inv g) (ls : Layers) (masks : List CMask) (oe : Bool) (conds : List Cond)
    (hv : ∀ c ∈ conds, c.layer < ls.n) :
    ∃ l, g.selectCells ls masks oe conds [] = .ok l ∧ SortedSet l ∧ ∀ p, p ∈ l ↔ g.Candidate ls masks oe conds p := by
  obtain ⟨m, h1, h2⟩ := selectMask_conds g hinv ls masks oe conds hv
  refine ⟨_, selectCells_of_mask g ls masks oe conds [] m (by rw [h2]; rfl), sorted_filter_allCells g m, fun p => ?_⟩
  simp only [List.mem_filter, mem_allCells]
  constructor
  · rintro ⟨hp, hm⟩
    exact (h1 p hp).mp hm
  · intro hc
    exact ⟨hc.1, (h1 p hc.1).mpr hc⟩

/-- `select_cells(only_empty=True)` with nothing else is the list a fresh `build_empties` produces -/
theorem selectCells_only_empty (g : Grid) (hinv : Inv g) (ls : Layers) :
    g.selectCells ls [] true [] [] = .ok g.buildEmpties := by
  simp only [selectCells, selectMask, applyConds, applyExtremes, List.all_nil, Bool.true_and, if_true, buildEmpties]
  congr 1
  exact List.filter_congr fun p hp => by
    rw [hinv.mask p ((mem_allCells g p).mp hp)]
    rfl

end Mesa.Legacy
