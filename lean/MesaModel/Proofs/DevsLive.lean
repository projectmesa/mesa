import MesaModel.Proofs.Devs
/-!
At-least-once: a scheduled event (tag `k`, callable object `c`) that no command ever cancels and whose callable no command
ever drops stays *served* — waiting on the list (neither cancelled nor dead) or executed at exactly the time it was scheduled
for — through every further history.  Events that share the callable `c` are otherwise independent: cancelling THEM is allowed.
-/
namespace Mesa.Devs

/-- the user event with tag `k`, callable `c`, event id `i` and time `t` is waiting (neither cancelled nor dead) or has been
    executed — that very event, `LogEntry.user i k t` — with the clock at `t` -/
def Served (k c i : Nat) (t : Int) (s : Sim) : Prop :=
  (∃ e ∈ s.pending, e.isStep = false ∧ e.tag = k ∧ e.fn = c ∧ e.id = i ∧ e.time = t ∧ e.cancelled = false ∧ e.dead = false) ∨
  LogEntry.user i k t ∈ s.log

/-- no command of the list cancels the event with tag `k` or drops the callable `c` -/
def Spares (k c : Nat) (cs : List Cmd) : Prop := Cmd.cancel k ∉ cs ∧ Cmd.drop c ∉ cs

/-- none of the callables (event programs, the step body) cancels tag `k` or drops callable `c`.  The condition is syntactic and
    ranges over ALL programs of the table, also those no event ever runs: it is sufficient for the event to be spared, not
    necessary (a program that names `k` but is never scheduled, or whose `cancel k` comes after a `raise`, would be harmless). -/
def ProgsSpare (k c : Nat) (s : Sim) : Prop := (∀ a, Spares k c (s.prog a)) ∧ Spares k c s.stepProg

theorem served_mono {k c i : Nat} {t : Int} {s s' : Sim} (h : Served k c i t s)
    (hp : ∀ e ∈ s.pending, e.isStep = false → e.tag = k → e.fn = c → e.cancelled = false → e.dead = false → e ∈ s'.pending)
    (hl : ∀ x ∈ s.log, x ∈ s'.log) : Served k c i t s' := by
  rcases h with ⟨e, he, h1, h2, hc, hid, h3, h4, h5⟩ | hi
  · exact Or.inl ⟨e, hp e he h1 h2 hc h4 h5, h1, h2, hc, hid, h3, h4, h5⟩
  · exact Or.inr (hl _ hi)

theorem pushUser_served {k c i : Nat} {t : Int} {s : Sim} (h : Served k c i t s) (t' : Int) (p a : Nat)
    (c' : Option Nat := none) : Served k c i t (pushUser s t' p a c') :=
  served_mono h (fun _ he _ _ _ _ _ => mem_insert.mpr (Or.inr he)) (fun _ hx => hx)

theorem cancelTag_served {k c i k' : Nat} {t : Int} {s : Sim} (h : Served k c i t s) (hk : k' ≠ k) :
    Served k c i t (cancelTag s k') := by
  apply served_mono h
  · intro e he h1 h2 _ _ _
    refine List.mem_map.mpr ⟨e, he, ?_⟩
    have : (e.tag == k') = false := by simp [h2, Ne.symm hk]
    simp [this]
  · exact fun _ hx => hx

theorem dropFn_served {k c i k' : Nat} {t : Int} {s : Sim} (h : Served k c i t s) (hk : k' ≠ c) :
    Served k c i t (dropFn s k') := by
  apply served_mono h
  · intro e he h1 _ h2 _ _
    refine List.mem_map.mpr ⟨e, he, ?_⟩
    have : (e.fn == k') = false := by simp [h2, Ne.symm hk]
    simp [this]
  · exact fun _ hx => hx

theorem doCmd1_served {k c i : Nat} {t : Int} {s : Sim} (h : Served k c i t s) (cm : Cmd)
    (h1 : cm ≠ .cancel k) (h2 : cm ≠ .drop c) : Served k c i t (doCmd1 s cm) :=
  doCmd1_induct cm h (fun _ _ _ _ _ _ => pushUser_served h _ _ _ _) (fun _ hk => cancelTag_served h (fun hk' => h1 (hk' ▸ hk)))
    (fun _ hk => dropFn_served h (fun hk' => h2 (hk' ▸ hk))) (fun _ _ => h)

theorem ProgsSpare.of_static {k c : Nat} {s s' : Sim} (h : ProgsSpare k c s) (st : Static s s') : ProgsSpare k c s' := by
  unfold ProgsSpare
  rw [st.prog, st.stepProg]
  exact h

theorem popExec_served {k c i : Nat} {t : Int} {s : Sim} (h : Served k c i t s) (hps : ProgsSpare k c s) {e₀ : Ev} {rest : List Ev}
    (hp : popLive s.pending = some (e₀, rest)) : Served k c i t (exec (popped s e₀ rest) e₀) := by
  -- either the event is executed now, or it (or its log entry) is still there after the pop
  have hcase : (e₀.isStep = false ∧ e₀.tag = k ∧ e₀.id = i ∧ e₀.time = t ∧ e₀.dead = false) ∨
      Served k c i t (popped s e₀ rest) := by
    rcases h with ⟨e, he, h1, h2, hc, hid, h3, h4, h5⟩ | hi
    · rcases popLive_live_mem hp he h4 with rfl | he
      · exact Or.inl ⟨h1, h2, hid, h3, h5⟩
      · exact Or.inr (Or.inl ⟨e, he, h1, h2, hc, hid, h3, h4, h5⟩)
    · exact Or.inr (Or.inr hi)
  rcases hcase with ⟨h1, h2, hid, h3, h5⟩ | hserved
  · -- executed now: the log entry carries the id, tag k and the clock e₀.time = t
    right
    rw [exec_log]
    apply List.mem_append.mpr
    right
    simp [entryOf, h5, h1, h2, popped, h3, hid]
  · have hspare : ∀ cs cm, Spares k c cs → cm ∈ cs → cm ≠ .cancel k ∧ cm ≠ .drop c :=
      fun cs cm hs hm => ⟨fun hc => hs.1 (hc ▸ hm), fun hc => hs.2 (hc ▸ hm)⟩
    refine exec_induct (fun s' cm hc h' => ?_) (fun _ => served_mono hserved (fun e he _ _ _ _ _ => he) (fun _ hx => hx))
      (fun _ _ => served_mono hserved (fun e he _ _ _ _ _ => mem_rearm he) (fun x hx => List.mem_append_left _ hx))
      (fun _ _ => served_mono hserved (fun e he _ _ _ _ _ => he) (fun x hx => List.mem_append_left _ hx))
    have := hc.elim (hspare _ cm hps.2) (hspare _ cm (hps.1 _))
    exact doCmd1_served h' cm this.1 this.2

theorem served_kept (k c i : Nat) (t : Int) :
    Kept (fun s => Served k c i t s ∧ ProgsSpare k c s) (fun cm => cm ≠ .cancel k ∧ cm ≠ .drop c) where
  cmd {s} cm hok h := ⟨doCmd1_served h.1 cm hok.1 hok.2, h.2.of_static (doCmd1_frame s cm).toStatic⟩
  stop h _ hp := ⟨h.1.elim (fun ⟨e, he, _, _, _, _, _, h4, _⟩ => by
      have := popLive_none_all_cancelled hp e he
      rw [h4] at this
      cases this) Or.inr, h.2⟩
  late h _ hp _ := ⟨served_mono h.1 (fun e he _ _ _ h4 _ => mem_insert.mpr (popLive_live_mem hp he h4)) (fun _ hx => hx), h.2⟩
  step {s e r} h hp := ⟨popExec_served h.1 h.2 hp, ProgsSpare.of_static (s := popped s e r) h.2 (exec_static _ e)⟩
  caught h := h

/-- `s'` is reached from `s` by further operations none of which cancels tag `k` or drops callable `c` at top level -/
inductive ReachableSparing (k c : Nat) (s : Sim) : Sim → Prop where
  | refl : ReachableSparing k c s s
  | cmd {s' : Sim} (cm : Cmd) : ReachableSparing k c s s' → cm ≠ .cancel k → cm ≠ .drop c → ReachableSparing k c s (doCmd s' cm)
  | until {s' s'' : Sim} {f : Nat} {T : Int} : ReachableSparing k c s s' → s'.now ≤ T → runUntil f s' T = some s'' →
      ReachableSparing k c s s''
  | next {s' : Sim} : ReachableSparing k c s s' → ReachableSparing k c s (runNext s')
  | caught {s' : Sim} : ReachableSparing k c s s' → ReachableSparing k c s (caught s')

theorem reachableSparing_from {k c : Nat} {s s' : Sim} (h : ReachableSparing k c s s') : ReachableFrom s s' := by
  induction h with
  | refl => exact .refl
  | cmd c _ _ _ ih => exact .cmd c ih
  | «until» _ hT hr ih => exact .until ih hT hr
  | next _ ih => exact .next ih
  | caught _ ih => exact .caught ih

theorem served_stays {k c i : Nat} {t : Int} {s s' : Sim} (h : Served k c i t s) (hps : ProgsSpare k c s)
    (hr : ReachableSparing k c s s') : Served k c i t s' ∧ ProgsSpare k c s' := by
  induction hr with
  | refl => exact ⟨h, hps⟩
  | cmd cm _ h1 h2 ih => exact (served_kept k c i t).ofCmd cm ⟨h1, h2⟩ ih
  | «until» _ hT hrun ih => exact (served_kept k c i t).ofUntil ih hT hrun
  | next _ ih => exact (served_kept k c i t).ofNext ih
  | caught _ ih => exact ih

theorem served_due_logged {k c i : Nat} {t T : Int} {f : Nat} {s s' : Sim} (hw : WF s) (hs : Served k c i t s')
    (hrun : runUntil f s T = some s') (hn : s'.raised = none) (htT : t ≤ T) : LogEntry.user i k t ∈ s'.log := by
  rcases hs with ⟨e, he, _, _, _, _, h3, _, _⟩ | hlog
  · have := ((runUntil_post hw hrun).2 hn).2 e he
    omega
  · exact hlog

theorem pushUser_serves (s : Sim) (t : Int) (p a : Nat) (c : Option Nat := none) :
    Served s.nextTag (c.getD s.nextTag) s.nextId t (pushUser s t p a c) := by
  left
  refine ⟨{ time := t, prio := p, id := s.nextId, tag := s.nextTag, isStep := false, cancelled := false,
            dead := false, act := a, fn := c.getD s.nextTag }, ?_, rfl, rfl, rfl, rfl, rfl, rfl, rfl⟩
  simp only [pushUser]
  exact mem_insert.mpr (Or.inl rfl)

end Mesa.Devs
