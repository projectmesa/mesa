import MesaModel.Proofs.LayersFrame
/-!
Helper lemmas for C11 (typed part): numpy's casts in numbers, exactness of promotion, and the dtype of a
layer over histories (it changes only when a promoting `modify_cells` re-points that very layer, and only
upwards); the coded forms `castCode` / `applyCode` of the casts and ufuncs, in which
`C11_cast_values_match_numpy` compares them with the probed numpy tables.
-/
namespace Mesa.Layers

/-! ### casts -/

theorem tdiv4_trunc (q : Int) :
    (0 ≤ q → 4 * q.tdiv 4 ≤ q ∧ q < 4 * q.tdiv 4 + 4) ∧ (q ≤ 0 → q ≤ 4 * q.tdiv 4 ∧ 4 * q.tdiv 4 - 4 < q) := by
  constructor
  · intro h
    rw [Int.tdiv_eq_ediv_of_nonneg h]
    omega
  · intro h
    have h1 : q.tdiv 4 = -((-q) / 4) := by
      have := Int.neg_tdiv (-q) 4
      rw [Int.neg_neg] at this
      rw [this, Int.tdiv_eq_ediv_of_nonneg (by omega)]
    rw [h1]
    omega

theorem tdiv4_mul (v : Int) : (4 * v).tdiv 4 = v := by
  rw [Int.mul_tdiv_cancel_left _ (by decide)]

theorem DType.rank_join_left (d rd : DType) : d.rank ≤ (d.join rd).rank := by
  cases d <;> cases rd <;> decide

theorem DType.rank_join_right (d rd : DType) : rd.rank ≤ (d.join rd).rank := by
  cases d <;> cases rd <;> decide

theorem DType.join_eq_of_le {d rd : DType} (h : rd.rank ≤ d.rank) : d.join rd = d := by
  cases d <;> cases rd <;> simp_all [DType.join, DType.rank]

theorem quarters_recode {d d' : DType} (h : d.rank ≤ d'.rank) (v : Int) :
    quarters d' (recode d d' v) = quarters d v := by
  -- a widening re-encoding is the identity (same kind of number) or `4 * ·` (a whole number into quarters)
  cases d <;> cases d' <;> simp_all [recode, castTo, quarters, DType.rank]

/-- a Python bool is `False` or `True` -/
def Val.ok (x : Val) : Prop := x.ty = .bool → x.raw = 0 ∨ x.raw = 1

theorem quarters_castTo_sameKind {d : DType} {x : Val} (hx : x.ok) (h : sameKind x.ty d = true) :
    quarters d (castTo d x) = quarters x.ty x.raw := by
  obtain ⟨ty, raw⟩ := x
  -- as above; a bool (0 or 1: `hx`) enters a bool array as its own truth value
  cases ty <;> cases d <;> simp_all [sameKind, castTo, quarters, DType.rank, Val.ok, boolInt]
  rcases hx with h | h <;> simp [h]

/-! ### arithmetic ufuncs: the result entry stands for the exact number -/

theorem four_dvd_quarters {d : DType} (h : d ≠ .float) (v : Int) : 4 ∣ quarters d v := by
  cases d
  · exact ⟨v, rfl⟩
  · exact ⟨v, rfl⟩
  · exact absurd rfl h

theorem quarters_fromQuarters {rd : DType} (hnb : rd ≠ .bool) {q : Int} (h : rd = .int → 4 ∣ q) :
    quarters rd (fromQuarters rd q) = q := by
  cases rd
  · exact absurd rfl hnb
  · exact Int.mul_tdiv_cancel' (h rfl)
  · rfl

theorem UOp.result_join {op : UOp} {d t rd : DType} (h : op.result d t = some rd)
    (hop : op = .add ∨ op = .sub ∨ op = .mul ∨ op = .max ∨ op = .min) : d.join t = rd := by
  rcases hop with rfl | rfl | rfl | rfl | rfl
  · exact Option.some.inj h
  · simp only [UOp.result] at h
    split at h
    · cases h
    · exact Option.some.inj h
  · exact Option.some.inj h
  · exact Option.some.inj h
  · exact Option.some.inj h

/-- The result entry of an arithmetic ufunc stands for the number `r` computed on the operands' numbers — in a float
    result always, in an int result (both operands then are bools or ints: whole numbers) when `r` is whole whenever
    the operands are. -/
theorem quarters_arith {d t rd : DType} (hj : d.join t = rd) (hnb : rd ≠ .bool) (v w : Int) {r : Int}
    (h : 4 ∣ quarters d v → 4 ∣ quarters t w → 4 ∣ r) : quarters rd (fromQuarters rd r) = r := by
  refine quarters_fromQuarters hnb fun hi => ?_
  have hdt : d ≠ .float ∧ t ≠ .float := by
    subst hj
    revert hi
    cases d <;> cases t <;> decide
  exact h (four_dvd_quarters hdt.1 v) (four_dvd_quarters hdt.2 w)

/-! ### the dtype of a layer over histories -/

theorem dtypeOf_sameShape {s s' : State} (e : SameShape s s') (l : Nat) : s'.dtypeOf l = s.dtypeOf l := by
  unfold State.dtypeOf
  rw [e.adt, e.layers]

theorem dtypeOf_alloc {s : State} (hw : WF s) {l : Nat} (hl : l < s.nLayers) (L : Layer) (x : Arr) (dt : DType) :
    (s.alloc L x dt).dtypeOf l = s.dtypeOf l := by
  have h1 : l ≠ s.nLayers := Nat.ne_of_lt hl
  have h2 : (s.layers l).data ≠ s.next := Nat.ne_of_lt (hw.data_lt l hl)
  simp [State.dtypeOf, State.alloc, upd, h1, h2]

theorem Effect.dtype {s s' : State} {op : Op} (hw : WF s) {l : Nat} (hl : l < s.nLayers) (e : Effect s op s') :
    s'.dtypeOf l = s.dtypeOf l ∨ (op.mayRetype l ∧ ∃ rd, s'.dtypeOf l = (s.dtypeOf l).join rd) := by
  cases e with
  | inPlace w => exact .inl (dtypeOf_sameShape w.shape l)
  | alloc L x dt _ => exact .inl (dtypeOf_alloc hw hl ..)
  | create n x dt _ => exact .inl (dtypeOf_alloc hw hl _ x dt)
  | repoint l' x dt _ _ hdt =>
    by_cases e : l' = l
    · subst e
      have hd : (s.repoint l' x dt).dtypeOf l' = dt := by simp [State.dtypeOf, State.repoint, upd]
      rw [hd]
      rcases hdt with h | ⟨hr, rd, h⟩
      · exact .inl h
      · exact .inr ⟨hr, rd, h⟩
    · have h2 : (s.layers l).data ≠ s.next := Nat.ne_of_lt (hw.data_lt l hl)
      exact .inl (by simp [State.dtypeOf, State.repoint, upd, Ne.symm e, h2])
  | _ => exact .inl rfl

theorem dtype_step {s : State} (hw : WF s) {l : Nat} (hl : l < s.nLayers) (op : Op) :
    (step s op).1.dtypeOf l = s.dtypeOf l ∨
    (op.mayRetype l ∧ ∃ rd, (step s op).1.dtypeOf l = (s.dtypeOf l).join rd) :=
  (step_effect s op).dtype hw hl

theorem dtype_mono_run {s : State} (hw : WF s) {l : Nat} (hl : l < s.nLayers) (ops : List Op) :
    (s.dtypeOf l).rank ≤ ((run s ops).1.dtypeOf l).rank := by
  induction ops generalizing s with
  | nil => exact Nat.le_refl _
  | cons op ops ih =>
    simp only [run]
    have hl' : l < (step s op).1.nLayers := Nat.lt_of_lt_of_le hl (nLayers_step s op)
    refine Nat.le_trans ?_ (ih (WF_step hw op) hl')
    rcases dtype_step hw hl op with h | ⟨_, rd, h⟩
    · rw [h]
      exact Nat.le_refl _
    · rw [h]
      exact DType.rank_join_left _ _

/-- a history none of whose ops may re-type layer `l` -/
def noRetype (l : Nat) (ops : List Op) : Prop := ∀ op ∈ ops, ¬ op.mayRetype l

theorem dtype_stable_run {s : State} (hw : WF s) {l : Nat} (hl : l < s.nLayers) (ops : List Op)
    (hn : noRetype l ops) : (run s ops).1.dtypeOf l = s.dtypeOf l := by
  induction ops generalizing s with
  | nil => rfl
  | cons op ops ih =>
    simp only [run]
    have hl' : l < (step s op).1.nLayers := Nat.lt_of_lt_of_le hl (nLayers_step s op)
    rw [ih (WF_step hw op) hl' (fun o ho => hn o (List.mem_cons_of_mem _ ho))]
    rcases dtype_step hw hl op with h | ⟨h, _⟩
    · exact h
    · exact absurd h (hn op (List.mem_cons_self ..))

/-! ### coded arguments of the generated numpy tables (`Gen/NumpyTables.lean`) -/

/-- the dtype coded by its rank in the generated numpy tables -/
def DType.ofCode : Nat → Option DType
  | 0 => some .bool
  | 1 => some .int
  | 2 => some .float
  | _ => none

/-- the protocol's (and the generated tables') name of a ufunc -/
def UOp.name : UOp → String
  | .add => "add" | .sub => "sub" | .mul => "mul" | .max => "max" | .min => "min"
  | .land => "and" | .lor => "or" | .lxor => "xor"

def UOp.ofName (n : String) : Option UOp :=
  [UOp.add, .sub, .mul, .max, .min, .land, .lor, .lxor].find? (·.name == n)

/-- the model's assignment cast on coded arguments -/
def castCode (d t : Nat) (raw : Int) : Option Int := do
  let d ← DType.ofCode d
  let t ← DType.ofCode t
  pure (castTo d ⟨t, raw⟩)

/-- the model's ufunc value on coded arguments -/
def applyCode (op : String) (d : Nat) (v : Int) (t : Nat) (raw : Int) : Option Int := do
  let op ← UOp.ofName op
  let d ← DType.ofCode d
  let t ← DType.ofCode t
  pure (op.apply d ⟨t, raw⟩ v)

end Mesa.Layers
