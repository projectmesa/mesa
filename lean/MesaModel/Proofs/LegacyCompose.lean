import MesaModel.Proofs.Legacy
import MesaModel.Proofs.LegacyOrth
/-! Mutating calls interleaved with cached `get_neighbors` queries on one grid instance (C09):
the cache never goes stale, because its entries depend on the grid's shape only and no call changes the shape.  Defines the interleaved histories `GQ`, `runQ`, `freshQ`, `HistOkQ`. -/
namespace Mesa.Legacy

open Grid

/-- a call of an interleaved history: a mutating call / read of `empties`, or `get_neighbors(pos, moore, include_center, radius)` -/
inductive GQ where
  | op (o : Op)
  | nbrs (k : NKey)

/-- the answers of the `get_neighbors` calls of an interleaved history, computed as the code does: through the cache -/
def runQ : Grid → NCache → List GQ → List (Except Err (List Aid))
  | _, _, [] => []
  | g, c, .op o :: rest => runQ (step g o).1 c rest
  | g, c, .nbrs k :: rest => ((getNbhd g.dim c k).2.map (cellsContents g)) :: runQ g (getNbhd g.dim c k).1 rest

/-- the same with a fresh neighbourhood computation for every query, on the grid as it is at that moment -/
def freshQ : Grid → List GQ → List (Except Err (List Aid))
  | _, [] => []
  | g, .op o :: rest => freshQ (step g o).1 rest
  | g, .nbrs k :: rest => ((nbhdCompute g.dim k).map (cellsContents g)) :: freshQ g rest

/-- the quantifier's precondition on the mutating calls of an interleaved history -/
def HistOkQ : Grid → List GQ → Prop
  | _, [] => True
  | g, .op o :: rest => OpOk g o ∧ HistOkQ (step g o).1 rest
  | g, .nbrs _ :: rest => HistOkQ g rest

theorem runQ_eq_freshQ (hist : List GQ) : ∀ (g : Grid) (c : NCache), 0 < g.w → 0 < g.h → Inv g →
    (∀ k v, c.lookup k = some v → nbhdCompute g.dim k = .ok v) → HistOkQ g hist → runQ g c hist = freshQ g hist := by
  induction hist with
  | nil =>
    intro g c _ _ _ _ _
    rfl
  | cons x rest ih =>
    intro g c hw hh hi hc hok
    cases x with
    | op o =>
      obtain ⟨hok1, hok2⟩ := hok
      obtain ⟨i1, c1⟩ := step_inv_cfg g o hw hh hi hok1
      have hdim : (step g o).1.dim = g.dim := by simp only [Grid.dim, c1.1, c1.2.1, c1.2.2.1]
      simp only [runQ, freshQ]
      exact ih (step g o).1 c (by rw [c1.1]; exact hw) (by rw [c1.2.1]; exact hh) i1 (by rw [hdim]; exact hc) hok2
    | nbrs k =>
      obtain ⟨h1, h2⟩ := getNbhd_sound g.dim c k hc
      simp only [runQ, freshQ, h1]
      rw [ih g (getNbhd g.dim c k).1 hw hh hi h2 hok]

end Mesa.Legacy
