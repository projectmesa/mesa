import MesaModel.Proofs.CellConnect
/-!
Helper lemmas for C07: the generated tables (what grid.py says *now*) are the generic offset tables;
hexagon tables = touching hexagons; `gridConn` = "offsets of the geometry × connect"; symmetry.
-/
namespace Mesa.Cells

def pairsToVecs (l : List (Int × Int)) : List (List Int) := l.map (fun p => [p.1, p.2])

/-! ### obligations about the generated constants (re-checked by the kernel on every run) -/

theorem gen_moore2d : pairsToVecs Gen.moore2d = mooreOffsets 2 := by decide +kernel
theorem gen_vn2d : (pairsToVecs Gen.vn2d).Perm (vnOffsets 2) := by decide +kernel
theorem gen_directions : Gen.directionMap = Gen.directionProbe ∧
    (∀ p ∈ Gen.directionMap, [p.2.1, p.2.2] ∈ mooreOffsets 2) := ⟨rfl, by decide +kernel⟩

/-! ### hexagons -/

/-- axial row of the hexagon at grid coordinate (i, j): columns are `j`, odd columns are shifted up by
    half a cell (`q = j`, `r = i - (j + j mod 2)/2`) -/
def hexR (i j : Int) : Int := i - (j + j % 2) / 2

/-- distance in cube coordinates (q, r, -q-r) between the hexagons at (i, j) and (i', j') -/
def cubeDist (i j i' j' : Int) : Nat :=
  max (max (j' - j).natAbs (hexR i' j' - hexR i j).natAbs) ((j' - j) + (hexR i' j' - hexR i j)).natAbs

/-- the hexagons at (i, j) and (i+di, j+dj) share an edge -/
def hexTouch (i j di dj : Int) : Prop := cubeDist i j (i + di) (j + dj) = 1

/-- the six axial neighbours: cube distance 1 between hexagons `a` columns and `b` axial rows apart -/
theorem cube_one_iff (a b : Int) :
    max (max a.natAbs b.natAbs) (a + b).natAbs = 1 ↔
      (a = 0 ∧ (b = 1 ∨ b = -1)) ∨ (a = 1 ∧ (b = 0 ∨ b = -1)) ∨ (a = -1 ∧ (b = 0 ∨ b = 1)) := by
  constructor
  · intro h
    have h1 : a.natAbs ≤ 1 := h ▸ Nat.le_trans (Nat.le_max_left _ _) (Nat.le_max_left _ _)
    have h2 : b.natAbs ≤ 1 := h ▸ Nat.le_trans (Nat.le_max_right _ _) (Nat.le_max_left _ _)
    have ha : a = -1 ∨ a = 0 ∨ a = 1 := by omega
    have hb : b = -1 ∨ b = 0 ∨ b = 1 := by omega
    -- nine pairs: (0,0), (1,1), (-1,-1) are not at distance 1 (`h` is false), the other six are the ones listed
    rcases ha with rfl | rfl | rfl <;> rcases hb with rfl | rfl | rfl <;>
      first | (exact absurd h (by decide)) | decide
  · rintro (⟨rfl, rfl | rfl⟩ | ⟨rfl, rfl | rfl⟩ | ⟨rfl, rfl | rfl⟩) <;> rfl

/-- odd columns are shifted up by half a cell, so stepping to the next column lowers the axial row
    of an even column only -/
theorem hexR_succ (i j : Int) : hexR i (j + 1) = hexR i j - (if j % 2 ≠ 0 then 0 else 1) := by
  unfold hexR
  split <;> omega

theorem hexR_pred (i j : Int) : hexR i (j + -1) = hexR i j + (if j % 2 ≠ 0 then 1 else 0) := by
  unfold hexR
  split <;> omega

theorem hexR_add (i j di : Int) : hexR (i + di) j = hexR i j + di := by
  unfold hexR
  omega

theorem mem_hexTable (j di dj : Int) : (di, dj) ∈ hexTable j ↔
    (dj = 0 ∧ (di = -1 ∨ di = 1)) ∨
    ((dj = -1 ∨ dj = 1) ∧ (di = 0 ∨ di = if j % 2 ≠ 0 then -1 else 1)) := by
  unfold hexTable
  -- either way: each of the six entries fits the description, and each of the six described pairs is an entry
  split
  · simp only [Gen.hexWhenOdd, List.mem_cons, Prod.mk.injEq, List.not_mem_nil, or_false]
    constructor
    · rintro (⟨h1, h2⟩ | ⟨h1, h2⟩ | ⟨h1, h2⟩ | ⟨h1, h2⟩ | ⟨h1, h2⟩ | ⟨h1, h2⟩) <;> subst h1 <;> subst h2 <;> decide
    · rintro (⟨h1, h2 | h2⟩ | ⟨h1 | h1, h2 | h2⟩) <;> subst h1 <;> subst h2 <;> decide
  · simp only [Gen.hexWhenEven, List.mem_cons, Prod.mk.injEq, List.not_mem_nil, or_false]
    constructor
    · rintro (⟨h1, h2⟩ | ⟨h1, h2⟩ | ⟨h1, h2⟩ | ⟨h1, h2⟩ | ⟨h1, h2⟩ | ⟨h1, h2⟩) <;> subst h1 <;> subst h2 <;> decide
    · rintro (⟨h1, h2 | h2⟩ | ⟨h1 | h1, h2 | h2⟩) <;> subst h1 <;> subst h2 <;> decide

theorem hexTouch_iff (i j di dj : Int) : hexTouch i j di dj ↔
    (dj = 0 ∧ (di = -1 ∨ di = 1)) ∨
    ((dj = -1 ∨ dj = 1) ∧ (di = 0 ∨ di = if j % 2 ≠ 0 then -1 else 1)) := by
  unfold hexTouch cubeDist
  rw [cube_one_iff, hexR_add, show j + dj - j = dj by omega]
  constructor
  · rintro (⟨rfl, h⟩ | ⟨rfl, h⟩ | ⟨rfl, h⟩)
    · rw [Int.add_zero] at h
      omega
    · rw [hexR_succ] at h
      split at h <;> simp [*] <;> omega
    · rw [hexR_pred] at h
      split at h <;> simp [*] <;> omega
  · rintro (⟨rfl, h⟩ | ⟨rfl | rfl, h⟩)
    · rw [Int.add_zero]
      omega
    · rw [hexR_pred]
      split at h <;> simp [*] <;> omega
    · rw [hexR_succ]
      split at h <;> simp [*] <;> omega

theorem hexTable_touching (i j di dj : Int) : (di, dj) ∈ hexTable j ↔ hexTouch i j di dj :=
  (mem_hexTable j di dj).trans (hexTouch_iff i j di dj).symm

theorem cubeDist_symm (i j i' j' : Int) : cubeDist i j i' j' = cubeDist i' j' i j := by
  unfold cubeDist
  rw [← Int.natAbs_neg (j' - j), ← Int.natAbs_neg (hexR i' j' - hexR i j),
    ← Int.natAbs_neg (j' - j + (hexR i' j' - hexR i j)), Int.neg_add, Int.neg_sub, Int.neg_sub]

theorem hexTouch_symm (i j di dj : Int) : hexTouch i j di dj → hexTouch (i + di) (j + dj) (-di) (-dj) := by
  unfold hexTouch
  intro h
  rw [cubeDist_symm]
  have h1 : i + di + -di = i := by omega
  have h2 : j + dj + -dj = j := by omega
  rw [h1, h2]
  exact h

/-- touching only depends on the parity of the column: wrapping a column by an even width keeps it -/
theorem hexTable_parity (j j' : Int) (h : j % 2 = j' % 2) : hexTable j = hexTable j' := by
  unfold hexTable
  rw [h]

/-! ### which offsets a grid uses -/

/-- `d` is an offset of the geometry `k` at cell `c` of an `n`-dimensional grid -/
def IsOffset (k : GridKind) (n : Nat) (c d : List Int) : Prop :=
  match k with
  | .moore => d.length = n ∧ chebNorm d = 1
  | .vn => d.length = n ∧ manhNorm d = 1
  | .hex => n = 2 ∧ ∃ i j di dj, c = [i, j] ∧ d = [di, dj] ∧ hexTouch i j di dj

theorem mem_offsets2d (k : GridKind) (i j : Int) (d : List Int) :
    d ∈ pairsToVecs (offsets2d k j) ↔ IsOffset k 2 [i, j] d := by
  cases k with
  | moore =>
    simp only [offsets2d, IsOffset]
    rw [gen_moore2d, mem_mooreOffsets_norm]
  | vn =>
    simp only [offsets2d, IsOffset]
    rw [gen_vn2d.mem_iff, mem_vnOffsets_norm]
  | hex =>
    simp only [offsets2d, IsOffset, pairsToVecs, List.mem_map, true_and]
    constructor
    · rintro ⟨⟨di, dj⟩, hm, rfl⟩
      exact ⟨i, j, di, dj, rfl, rfl, (hexTable_touching i j di dj).mp hm⟩
    · rintro ⟨i', j', di, dj, hc, rfl, ht⟩
      simp at hc
      obtain ⟨rfl, rfl⟩ := hc
      exact ⟨(di, dj), (hexTable_touching i j di dj).mpr ht, rfl⟩

theorem mem_offsetsNd (k : GridKind) (n : Nat) (hk : k ≠ .hex) (c d : List Int) :
    d ∈ offsetsNd k n ↔ IsOffset k n c d := by
  cases k with
  | moore =>
    simp only [offsetsNd, IsOffset]
    exact mem_mooreOffsets_norm n d
  | vn =>
    simp only [offsetsNd, IsOffset]
    exact mem_vnOffsets_norm n d
  | hex => exact absurd rfl hk

theorem IsOffset.length_eq {k : GridKind} {n : Nat} {c d : List Int} (h : IsOffset k n c d) : d.length = n := by
  cases k with
  | moore => exact h.1
  | vn => exact h.1
  | hex =>
    obtain ⟨rfl, _, _, _, _, _, rfl, _⟩ := h
    rfl

/-! ### the shape of `gridConn`: a table of offset vectors, each followed through `connectNd` -/

theorem mem_filterMap_graph {γ β : Type} {l : List γ} {g : γ → Option β} {x : γ} {y : β} :
    (x, y) ∈ l.filterMap (fun d => (g d).map fun n => (d, n)) ↔ x ∈ l ∧ g x = some y := by
  simp only [List.mem_filterMap, Option.map_eq_some_iff, Prod.mk.injEq]
  constructor
  · rintro ⟨d, hd, n, hg, rfl, rfl⟩
    exact ⟨hd, hg⟩
  · rintro ⟨hd, hg⟩
    exact ⟨x, hd, y, hg, rfl, rfl⟩

/-- the 2-D code path, read as the n-D one over the 2-D table -/
theorem gridConn_pair (k : GridKind) (h w : Nat) (torus : Bool) (i j : Int) :
    gridConn k [h, w] torus [i, j] =
      (pairsToVecs (offsets2d k j)).filterMap fun d => (connectNd [h, w] torus [i, j] d).map fun n => (d, n) := by
  simp only [gridConn, pairsToVecs, List.filterMap_map]
  congr 1
  funext ⟨di, dj⟩
  simp only [Function.comp, ← connect2d_eq_nd, Option.map_map]
  rfl

theorem gridConn_not_pair (k : GridKind) (h w : Nat) (torus : Bool) (c : Coord) (hc : ∀ i j, c ≠ [i, j]) :
    gridConn k [h, w] torus c = [] := by
  match c with
  | [] => rfl
  | [_] => rfl
  | [i, j] => exact absurd rfl (hc i j)
  | _ :: _ :: _ :: _ => rfl

theorem gridConn_nd (k : GridKind) (dims : List Nat) (torus : Bool) (c : Coord) (h : dims.length ≠ 2) :
    gridConn k dims torus c =
      (offsetsNd k dims.length).filterMap fun d => (connectNd dims torus c d).map fun n => (d, n) := by
  match dims, h with
  | [], _ => rfl
  | [_], _ => rfl
  | _ :: _ :: _ :: _, _ => rfl

/-- `Cell.connections` of a grid cell: exactly the offsets of the geometry, each leading to
    "add, wrap on a torus, keep iff in bounds" -/
theorem mem_gridConn (k : GridKind) (dims : List Nat) (torus : Bool) (c : List Int) (hc : InB c dims)
    (hk : k = .hex → dims.length = 2) (key c' : List Int) :
    (key, c') ∈ gridConn k dims torus c ↔
      IsOffset k dims.length c key ∧ connectNd dims torus c key = some c' := by
  by_cases h2 : dims.length = 2
  · match dims, c, hc with
    | [h, w], [i, j], _ =>
      rw [gridConn_pair, mem_filterMap_graph, mem_offsets2d k i j]
      rfl
  · rw [gridConn_nd k dims torus c h2, mem_filterMap_graph, mem_offsetsNd k _ (fun e => h2 (hk e)) c key]

end Mesa.Cells
