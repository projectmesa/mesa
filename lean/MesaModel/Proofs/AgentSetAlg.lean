import MesaModel.Proofs.AgentSet
/-! Helper lemmas for the inherited mixin methods of `AgentSet` (set algebra, comparisons, `pop`/`clear`,
    in-place operators, `index`/`count`/`reversed`); model: `Model/AgentSet.lean`, section `mixins`. -/
namespace Mesa

namespace ASet
section mixins
variable {α : Type} [DecidableEq α]

/-! ### `|`, `&`, `-`, `^` -/

theorem unionL_eq (l m : List α) : unionL l m = dedup l ++ (dedup m).filter (fun x => x ∉ l) := dedup_append l m

theorem interL_eq (l m : List α) : interL l m = (dedup m).filter (fun x => x ∈ l) := dedup_filter _ m

theorem diffL_eq (l m : List α) : diffL l m = (dedup l).filter (fun x => x ∉ m) := by
  unfold diffL
  rw [dedup_filter]
  apply List.filter_congr
  intro x _
  simp [mem_dedup]

theorem xorL_eq (l m : List α) :
    xorL l m = (dedup l).filter (fun x => x ∉ m) ++ (dedup m).filter (fun x => x ∉ l) := by
  unfold xorL
  rw [unionL_eq, diffL_eq, diffL_eq, dedup_dedup]
  have h1 : dedup ((dedup l).filter (fun x => x ∉ m)) = (dedup l).filter (fun x => x ∉ m) :=
    dedup_of_nodup ((nodup_dedup l).sublist List.filter_sublist)
  have h2 : dedup ((dedup m).filter (fun x => x ∉ l)) = (dedup m).filter (fun x => x ∉ l) :=
    dedup_of_nodup ((nodup_dedup m).sublist List.filter_sublist)
  rw [h1, h2]
  congr 1
  rw [List.filter_eq_self]
  intro x hx
  simp only [List.mem_filter, mem_dedup, decide_eq_true_eq] at hx ⊢
  intro hx'
  exact hx.2 hx'.1

theorem mem_unionL {l m : List α} {x : α} : x ∈ unionL l m ↔ x ∈ l ∨ x ∈ m := by simp [unionL, mem_dedup]
theorem mem_interL {l m : List α} {x : α} : x ∈ interL l m ↔ x ∈ l ∧ x ∈ m := by
  simp [interL, mem_dedup, and_comm]
theorem mem_diffL {l m : List α} {x : α} : x ∈ diffL l m ↔ x ∈ l ∧ x ∉ m := by simp [diffL, mem_dedup]
theorem mem_xorL {l m : List α} {x : α} : x ∈ xorL l m ↔ (x ∈ l ∧ x ∉ m) ∨ (x ∈ m ∧ x ∉ l) := by
  simp [xorL, mem_unionL, mem_diffL, mem_dedup]

/-! ### comparisons -/

theorem subset_of_subset_of_length_le {l m : List α} (hl : l.Nodup) (hs : l ⊆ m) (hlen : m.length ≤ l.length) :
    m ⊆ l := by
  induction l generalizing m with
  | nil =>
    have : m = [] := List.eq_nil_of_length_eq_zero (by simpa using hlen)
    simp [this]
  | cons a t ih =>
    rw [List.nodup_cons] at hl
    have ha : a ∈ m := hs List.mem_cons_self
    have hts : t ⊆ m.erase a := by
      intro x hx
      have hxa : x ≠ a := fun h => hl.1 (h ▸ hx)
      exact (List.mem_erase_of_ne hxa).2 (hs (List.mem_cons_of_mem _ hx))
    have hlen' : (m.erase a).length ≤ t.length := by
      rw [List.length_erase_of_mem ha]
      simp at hlen
      omega
    have := ih hl.2 hts hlen'
    intro x hx
    by_cases hxa : x = a
    · simp [hxa]
    · exact List.mem_cons_of_mem _ (this ((List.mem_erase_of_ne hxa).2 hx))

theorem leL_iff {l m : List α} (hl : l.Nodup) : leL l m = true ↔ l ⊆ m := by
  unfold leL
  constructor
  · intro h
    split at h
    · simp at h
    · intro x hx
      simpa using (List.all_eq_true.mp h) x hx
  · intro h
    have := hl.length_le_of_subset h
    rw [if_neg (by omega)]
    exact List.all_eq_true.mpr (fun x hx => by simpa using h hx)

theorem geL_eq_leL (l m : List α) : geL l m = leL m l := rfl
theorem gtL_eq_ltL (l m : List α) : gtL l m = ltL m l := rfl

theorem eqL_iff {l m : List α} (hl : l.Nodup) (hm : m.Nodup) : eqL l m = true ↔ l.Perm m := by
  unfold eqL
  rw [Bool.and_eq_true, decide_eq_true_eq, leL_iff hl]
  constructor
  · rintro ⟨hlen, hs⟩
    exact (List.perm_ext_iff_of_nodup hl hm).mpr
      (fun a => ⟨fun h => hs h, fun h => subset_of_subset_of_length_le hl hs (by omega) h⟩)
  · intro h
    exact ⟨h.length_eq, h.subset⟩

theorem ltL_iff {l m : List α} (hl : l.Nodup) (hm : m.Nodup) : ltL l m = true ↔ l ⊆ m ∧ ¬ m ⊆ l := by
  unfold ltL
  rw [Bool.and_eq_true, decide_eq_true_eq, leL_iff hl]
  constructor
  · rintro ⟨hlen, hs⟩
    refine ⟨hs, fun h => ?_⟩
    have := hm.length_le_of_subset h
    omega
  · rintro ⟨hs, hn⟩
    refine ⟨?_, hs⟩
    have h1 := hl.length_le_of_subset hs
    rcases Nat.lt_or_ge l.length m.length with h | h
    · exact h
    · exact absurd (subset_of_subset_of_length_le hl hs h) hn

theorem disjointL_iff (l m : List α) : disjointL l m = true ↔ ∀ x, x ∈ l → x ∉ m := by
  unfold disjointL
  rw [List.all_eq_true]
  constructor
  · intro h x hx hm
    have := h x hm
    simp [hx] at this
  · intro h x hm
    simpa using fun hx => h x hx hm

/-! ### `pop`, `clear`, the in-place operators -/

omit [DecidableEq α] in
theorem clearL_go_nil (f : Nat) (l : List α) (h : l.length ≤ f) : clearL.go f l = [] := by
  induction f generalizing l with
  | zero =>
    simp at h
    simp [clearL.go, h]
  | succ f ih =>
    cases l with
    | nil => simp [clearL.go, popL]
    | cons a rest =>
      simp only [clearL.go, popL]
      exact ih rest (by simpa using h)

omit [DecidableEq α] in
theorem clearL_eq_nil (l : List α) : clearL l = [] := clearL_go_nil _ _ (Nat.le_refl _)

theorem iorL_eq_unionL {l m : List α} (hl : l.Nodup) : iorL l m = unionL l m := by
  unfold iorL unionL dedup
  rw [List.foldl_append]
  have : l.foldl addKey [] = l := dedup_of_nodup hl
  rw [this]

theorem discardAll_eq_filter {l : List α} (hl : l.Nodup) (m : List α) :
    discardAll l m = l.filter (fun x => x ∉ m) := by
  unfold discardAll
  induction m generalizing l with
  | nil => simpa using (List.filter_eq_self.mpr (fun _ _ => rfl)).symm
  | cons a m ih =>
    simp only [List.foldl_cons]
    rw [ih (hl.erase a), hl.erase_eq_filter, List.filter_filter]
    apply List.filter_congr
    intro x _
    by_cases hxa : x = a <;> simp [hxa]

theorem nodup_discardAll {l : List α} (hl : l.Nodup) (m : List α) : (discardAll l m).Nodup := by
  rw [discardAll_eq_filter hl]
  exact hl.sublist List.filter_sublist

theorem iandL_eq_filter {l : List α} (hl : l.Nodup) (m : List α) : iandL l m = l.filter (fun x => x ∈ m) := by
  unfold iandL
  rw [discardAll_eq_filter hl]
  apply List.filter_congr
  intro x hx
  simp [mem_diffL, hx]

theorem isubL_eq_diffL {l : List α} (hl : l.Nodup) (m : List α) : isubL l m false = diffL l m := by
  simp only [isubL, Bool.false_eq_true, if_false]
  rw [discardAll_eq_filter hl, diffL_eq, dedup_of_nodup hl]

/-- the toggling loop of `__ixor__` over a duplicate-free `d` -/
theorem ixor_fold {l : List α} (hl : l.Nodup) (d : List α) (hd : d.Nodup) :
    d.foldl (fun acc v => if v ∈ acc then acc.erase v else addKey acc v) l
      = l.filter (fun x => x ∉ d) ++ d.filter (fun x => x ∉ l) := by
  induction d using snoc_induction with
  | nil => simpa using (List.filter_eq_self.mpr (fun _ _ => rfl)).symm
  | snoc d v ih =>
    have hd' : d.Nodup := (List.nodup_append.mp hd).1
    have hv : v ∉ d := by
      intro h
      exact (List.nodup_append.mp hd).2.2 v h v (by simp) rfl
    rw [List.foldl_append, ih hd']
    simp only [List.foldl_cons, List.foldl_nil]
    have hfl : (l.filter (fun x => x ∉ d)).Nodup := hl.sublist List.filter_sublist
    by_cases hvl : v ∈ l
    · have h1 : v ∈ l.filter (fun x => x ∉ d) := by simp [hvl, hv]
      have h2 : v ∈ l.filter (fun x => x ∉ d) ++ d.filter (fun x => x ∉ l) := List.mem_append_left _ h1
      rw [if_pos h2, List.erase_append_left _ h1, hfl.erase_eq_filter, List.filter_filter]
      congr 1
      · apply List.filter_congr
        intro x _
        by_cases hxv : x = v <;> simp [hxv, hv]
      · simp [List.filter_append, hvl]
    · have h2 : v ∉ l.filter (fun x => x ∉ d) ++ d.filter (fun x => x ∉ l) := by simp [hvl, hv]
      rw [if_neg h2, addKey_of_not_mem h2]
      have : l.filter (fun x => x ∉ d ++ [v]) = l.filter (fun x => x ∉ d) := by
        apply List.filter_congr
        intro x hx
        have : x ≠ v := fun h => hvl (h ▸ hx)
        simp [this]
      rw [this]
      simp [List.filter_append, hvl]

theorem ixorL_eq_xorL {l : List α} (hl : l.Nodup) (m : List α) : ixorL l m false = xorL l m := by
  simp only [ixorL, Bool.false_eq_true, if_false]
  rw [ixor_fold hl _ (nodup_dedup m), xorL_eq, dedup_of_nodup hl]
  congr 1
  apply List.filter_congr
  intro x _
  simp [mem_dedup]

theorem nodup_isetopL {l : List Nat} (hl : l.Nodup) (m : List Nat) (same : Bool) (op : SetOp) :
    (isetopL l m same op).Nodup := by
  cases op with
  | or =>
    simp only [isetopL]
    rw [iorL_eq_unionL hl]
    exact nodup_dedup _
  | and =>
    simp only [isetopL]
    rw [iandL_eq_filter hl]
    exact hl.sublist List.filter_sublist
  | sub =>
    cases same
    · simp only [isetopL]
      rw [isubL_eq_diffL hl]
      exact nodup_dedup _
    · simp [isetopL, isubL, clearL_eq_nil]
  | xor =>
    cases same
    · simp only [isetopL]
      rw [ixorL_eq_xorL hl]
      exact nodup_dedup _
    · simp [isetopL, ixorL, clearL_eq_nil]
  | rsub => exact hl

theorem nodup_setop_eval (l m : List Nat) (op : SetOp) : (op.eval l m).Nodup := by
  cases op <;> exact nodup_dedup _

/-! ### `index` -/

theorem indexGo_none_iff (v : α) (l : List α) (i : Nat) : indexGo v none l i = none ↔ v ∉ l := by
  induction l generalizing i with
  | nil => simp [indexGo]
  | cons a rest ih =>
    by_cases h : a = v
    · simp [indexGo, stopHit, h]
    · simp [indexGo, stopHit, h, ih, Ne.symm h]

theorem indexGo_drop (v : α) (stop : Option Int) (l : List α) (lo i : Nat) :
    indexGo v stop (l.drop lo) lo = some i ↔
      lo ≤ i ∧ l[i]? = some v ∧ (∀ j, lo ≤ j → j < i → l[j]? ≠ some v) ∧ ∀ s, stop = some s → (i : Int) < s := by
  generalize hk : l.length - lo = k
  induction k generalizing lo with
  | zero =>
    rw [List.drop_eq_nil_of_le (Nat.le_of_sub_eq_zero hk)]
    simp only [indexGo, reduceCtorEq, false_iff]
    rintro ⟨h1, h2, _⟩
    have := (List.getElem?_eq_some_iff.mp h2).1
    omega
  | succ k ih =>
    have hlo : lo < l.length := Nat.lt_of_sub_eq_succ hk
    have hget : l[lo]? = some l[lo] := List.getElem?_eq_getElem hlo
    rw [List.drop_eq_getElem_cons hlo]
    unfold indexGo
    by_cases hstop : stopHit stop lo = true
    · rw [if_pos hstop]
      simp only [reduceCtorEq, false_iff]
      rintro ⟨h1, _, _, hs⟩
      cases stop with
      | none => simp [stopHit] at hstop
      | some s =>
        simp only [stopHit, decide_eq_true_eq] at hstop
        have := hs s rfl
        omega
    · rw [if_neg hstop]
      have hs0 : ∀ s, stop = some s → (lo : Int) < s := by
        intro s hs
        subst hs
        simp only [stopHit, decide_eq_true_eq] at hstop
        omega
      by_cases hav : l[lo] = v
      · rw [if_pos hav]
        constructor
        · intro h
          obtain rfl := Option.some.inj h
          exact ⟨Nat.le_refl _, hav ▸ hget, fun j h1 h2 => absurd h2 (Nat.not_lt.mpr h1), hs0⟩
        · rintro ⟨h1, _, hmin, _⟩
          rcases Nat.eq_or_lt_of_le h1 with rfl | hlt
          · rfl
          · exact absurd (hav ▸ hget) (hmin lo (Nat.le_refl _) hlt)
      · rw [if_neg hav, ih (lo + 1) (by rw [Nat.sub_add_eq, hk, Nat.add_sub_cancel])]
        have hne : l[lo]? ≠ some v := fun h => hav (Option.some.inj (hget.symm.trans h))
        constructor
        · rintro ⟨h1, h2, hmin, hs⟩
          refine ⟨Nat.le_of_succ_le h1, h2, fun j hj1 hj2 => ?_, hs⟩
          rcases Nat.eq_or_lt_of_le hj1 with rfl | hlt
          · exact hne
          · exact hmin j hlt hj2
        · rintro ⟨h1, h2, hmin, hs⟩
          refine ⟨?_, h2, fun j hj1 hj2 => hmin j (Nat.le_of_succ_le hj1) hj2, hs⟩
          rcases Nat.eq_or_lt_of_le h1 with rfl | hlt
          · exact absurd h2 hne
          · exact hlt

end mixins
end ASet
end Mesa
