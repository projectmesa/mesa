import MesaModel.Model.Devs
import MesaModel.Proofs.ListOps
/-!
Helper lemmas for the Devs model (C14, C15).  Proof rules: `doCmd1_induct` (a command), `exec_induct` (an execution),
`runUntil_loop` (the loop of `run_until`); a property that survives the simulator's moves is `Kept` and holds along every history.
-/
namespace Mesa.Devs

/-! ### the event order -/

theorem Ev.lt_iff (a b : Ev) :
    a.lt b = true ↔ a.time < b.time ∨ (a.time = b.time ∧ (a.prio < b.prio ∨ (a.prio = b.prio ∧ a.id < b.id))) := by
  simp [Ev.lt]

theorem Ev.lt_irrefl (a : Ev) : a.lt a = false := by
  cases h : a.lt a
  · rfl
  · rw [Ev.lt_iff] at h
    omega

theorem Ev.lt_trans {a b c : Ev} (h₁ : a.lt b = true) (h₂ : b.lt c = true) : a.lt c = true := by
  rw [Ev.lt_iff] at *
  omega

theorem Ev.lt_asymm {a b : Ev} (h : a.lt b = true) : b.lt a = false := by
  cases h' : b.lt a
  · rfl
  · rw [Ev.lt_iff] at *
    omega

theorem Ev.lt_total {a b : Ev} (h : a.id ≠ b.id) (hn : a.lt b = false) : b.lt a = true := by
  have hn' : ¬ (a.lt b = true) := by simp [hn]
  rw [Ev.lt_iff] at hn'
  rw [Ev.lt_iff]
  omega

theorem Ev.time_le_of_lt {a b : Ev} (h : a.lt b = true) : a.time ≤ b.time := by
  rw [Ev.lt_iff] at h
  omega

theorem Ev.lt_congr {a a' b b' : Ev} (h₁ : a'.time = a.time ∧ a'.prio = a.prio ∧ a'.id = a.id)
    (h₂ : b'.time = b.time ∧ b'.prio = b.prio ∧ b'.id = b.id) : a'.lt b' = a.lt b := by
  simp [Ev.lt, h₁, h₂]

/-! ### sorted lists -/

/-- strictly increasing keys -/
def Sorted (l : List Ev) : Prop := l.Pairwise (fun a b => a.lt b = true)

theorem insert_perm (e : Ev) (l : List Ev) : (insert e l).Perm (e :: l) := by
  induction l with
  | nil => simp [insert]
  | cons x xs ih =>
    simp only [insert]
    split
    · exact List.Perm.refl _
    · exact (List.Perm.cons x ih).trans (List.Perm.swap e x xs)

theorem mem_insert {e y : Ev} {l : List Ev} : y ∈ insert e l ↔ y = e ∨ y ∈ l :=
  (insert_perm e l).mem_iff.trans List.mem_cons

theorem insert_sorted {e : Ev} {l : List Ev} (hs : Sorted l) (hid : ∀ x ∈ l, x.id ≠ e.id) :
    Sorted (insert e l) := by
  induction l with
  | nil => simp [insert, Sorted]
  | cons x xs ih =>
    simp only [insert]
    have hs' := List.pairwise_cons.mp hs
    split
    · rename_i hlt
      refine List.pairwise_cons.mpr ⟨?_, hs⟩
      intro y hy
      rcases List.mem_cons.mp hy with rfl | hy
      · exact hlt
      · exact Ev.lt_trans hlt (hs'.1 y hy)
    · rename_i hnlt
      refine List.pairwise_cons.mpr ⟨?_, ih hs'.2 (fun y hy => hid y (List.mem_cons_of_mem _ hy))⟩
      intro y hy
      rcases mem_insert.mp hy with rfl | hy
      · exact Ev.lt_total (Ne.symm (hid x (List.mem_cons_self))) (by simpa using hnlt)
      · exact hs'.1 y hy

theorem insert_of_all_lt (e : Ev) (l : List Ev) (h : ∀ x ∈ l, e.lt x = true) : insert e l = e :: l := by
  cases l with
  | nil => rfl
  | cons x xs => simp [insert, h x (by simp)]

theorem map_sorted {l : List Ev} (g : Ev → Ev)
    (hg : ∀ e, (g e).time = e.time ∧ (g e).prio = e.prio ∧ (g e).id = e.id) (hs : Sorted l) :
    Sorted (l.map g) :=
  List.Pairwise.map g (fun a b h => (Ev.lt_congr (hg a) (hg b)).trans h) hs

/-! ### pop -/

theorem popLive_decomp {l : List Ev} {e : Ev} {rest : List Ev} (h : popLive l = some (e, rest)) :
    l = skipped l ++ e :: rest ∧ e.cancelled = false := by
  induction l with
  | nil => simp [popLive] at h
  | cons x xs ih =>
    simp only [popLive] at h
    split at h
    · rename_i hx
      obtain ⟨h1, h2⟩ := ih h
      refine ⟨?_, h2⟩
      simp only [skipped, List.takeWhile_cons, hx, if_true, List.cons_append]
      congr 1
    · rename_i hx
      simp only [Option.some.injEq, Prod.mk.injEq] at h
      obtain ⟨rfl, rfl⟩ := h
      simp [skipped, hx]

theorem popLive_none {l : List Ev} (h : popLive l = none) : skipped l = l := by
  induction l with
  | nil => simp [skipped]
  | cons x xs ih =>
    simp only [popLive] at h
    split at h
    · rename_i hx
      simp only [skipped, List.takeWhile_cons, hx, if_true]
      congr 1
      exact ih h
    · simp at h

theorem skipped_cancelled {l : List Ev} : ∀ x ∈ skipped l, x.cancelled = true := by
  induction l with
  | nil => simp [skipped]
  | cons a as ih =>
    intro x hx
    simp only [skipped, List.takeWhile_cons] at hx
    split at hx
    · rename_i ha
      rcases List.mem_cons.mp hx with rfl | hx
      · simpa using ha
      · exact ih x hx
    · simp at hx

theorem popLive_mem {l : List Ev} {e : Ev} {rest : List Ev} (h : popLive l = some (e, rest)) :
    e ∈ l ∧ ∀ y ∈ rest, y ∈ l := by
  obtain ⟨hd, _⟩ := popLive_decomp h
  constructor
  · rw [hd]
    simp
  · intro y hy
    rw [hd]
    simp [hy]

theorem popLive_length {l : List Ev} {e : Ev} {rest : List Ev} (h : popLive l = some (e, rest)) :
    rest.length < l.length := by
  conv =>
    rhs
    rw [(popLive_decomp h).1]
  simp only [List.length_append, List.length_cons]
  omega

/-- what `pop_event` returns from a sorted list: a live event that precedes everything left -/
theorem popLive_spec {l : List Ev} {e : Ev} {rest : List Ev} (hs : Sorted l)
    (h : popLive l = some (e, rest)) :
    e.cancelled = false ∧ (∀ y ∈ rest, e.lt y = true) ∧ Sorted rest := by
  obtain ⟨hd, hc⟩ := popLive_decomp h
  rw [hd] at hs
  have h2 := (List.pairwise_append.mp hs).2.1
  exact ⟨hc, (List.pairwise_cons.mp h2).1, (List.pairwise_cons.mp h2).2⟩

theorem popLive_mem_iff {l : List Ev} {e : Ev} {rest : List Ev} (h : popLive l = some (e, rest)) {y : Ev} :
    y ∈ l ↔ y ∈ skipped l ∨ y ∈ insert e rest := by
  conv =>
    lhs
    rw [(popLive_decomp h).1]
  rw [List.mem_append, mem_insert, List.mem_cons]

theorem popLive_live_mem {l : List Ev} {e : Ev} {rest : List Ev} (h : popLive l = some (e, rest))
    {y : Ev} (hy : y ∈ l) (hl : y.cancelled = false) : y = e ∨ y ∈ rest := by
  rcases (popLive_mem_iff h).mp hy with hy | hy
  · have := skipped_cancelled y hy
    simp [hl] at this
  · exact mem_insert.mp hy

theorem popLive_none_all_cancelled {l : List Ev} (h : popLive l = none) : ∀ y ∈ l, y.cancelled = true := by
  intro y hy
  rw [← popLive_none h] at hy
  exact skipped_cancelled y hy

theorem skipped_cons_live {e : Ev} {l : List Ev} (h : e.cancelled = false) : skipped (e :: l) = [] := by
  simp [skipped, h]

theorem popLive_cons_live (e : Ev) (l : List Ev) (h : e.cancelled = false) : popLive (e :: l) = some (e, l) := by
  simp [popLive, h]

theorem popLive_insert {l : List Ev} {e : Ev} {rest : List Ev} (hs : Sorted l) (h : popLive l = some (e, rest)) :
    popLive (insert e rest) = some (e, rest) ∧ skipped (insert e rest) = [] := by
  obtain ⟨hl, hlt, _⟩ := popLive_spec hs h
  rw [insert_of_all_lt e rest hlt]
  exact ⟨popLive_cons_live e rest hl, skipped_cons_live hl⟩

/-- what `n` successive `pop_event` calls hand out -/
def popSeq : Nat → List Ev → List Ev
  | 0, _ => []
  | n+1, l => match popLive l with
    | none => []
    | some (e, rest) => e :: popSeq n rest

theorem filter_live_of_cancelled {l : List Ev} (h : ∀ x ∈ l, x.cancelled = true) : l.filter Ev.live = [] := by
  apply List.filter_eq_nil_iff.mpr
  intro x hx
  simp [Ev.live, h x hx]

theorem filter_live_pop {l : List Ev} {e : Ev} {rest : List Ev} (hp : popLive l = some (e, rest)) :
    l.filter Ev.live = e :: rest.filter Ev.live := by
  obtain ⟨hd, hl⟩ := popLive_decomp hp
  conv =>
    lhs
    rw [hd]
  rw [List.filter_append, filter_live_of_cancelled skipped_cancelled, List.nil_append, List.filter_cons]
  simp [Ev.live, hl]

/-- `peak_ahead n` shows exactly what `n` successive `pop_event` calls would hand out -/
theorem popSeq_eq (n : Nat) (l : List Ev) : popSeq n l = (l.filter Ev.live).take n := by
  induction n generalizing l with
  | zero => simp [popSeq]
  | succ n ih =>
    simp only [popSeq]
    cases hp : popLive l with
    | none => simp [filter_live_of_cancelled (popLive_none_all_cancelled hp)]
    | some q => simp [filter_live_pop hp, ih]

/-! ### well-formedness of a simulator state -/

structure WF (s : Sim) : Prop where
  sorted : Sorted s.pending
  idlt : ∀ e ∈ s.pending, e.id < s.nextId
  future : ∀ e ∈ s.pending, s.now ≤ e.time

theorem U_pos : (0 : Int) < U := by decide

theorem init_wf (k : Kind) (p : Nat → List Cmd) (sp : List Cmd) : WF (init k p sp) :=
  ⟨by simp [init, Sorted], by simp [init], by simp [init]⟩

theorem insert_wf {s s' : Sim} (h : WF s) {e : Ev} (hp : s'.pending = insert e s.pending) (hn : s'.nextId = s.nextId + 1)
    (hnow : s'.now = s.now) (hid : e.id = s.nextId) (ht : s.now ≤ e.time) : WF s' := by
  refine ⟨?_, ?_, ?_⟩
  · rw [hp]
    exact insert_sorted h.sorted (fun x hx => hid ▸ Nat.ne_of_lt (h.idlt x hx))
  · intro y hy
    rw [hp] at hy
    rcases mem_insert.mp hy with rfl | hy
    · omega
    · have := h.idlt y hy
      omega
  · intro y hy
    rw [hp] at hy
    rcases mem_insert.mp hy with rfl | hy
    · omega
    · have := h.future y hy
      omega

theorem pushUser_wf {s : Sim} (h : WF s) {t : Int} (ht : s.now ≤ t) (p a : Nat) (c : Option Nat := none) :
    WF (pushUser s t p a c) :=
  insert_wf h rfl rfl rfl rfl ht

theorem pushStep_wf {s : Sim} (h : WF s) : WF (pushStep s) :=
  insert_wf h rfl rfl rfl rfl (by
    have := U_pos
    show s.now ≤ s.now + U
    omega)

theorem mapFlags_wf {s s' : Sim} (h : WF s) (g : Ev → Ev)
    (hg : ∀ e, (g e).time = e.time ∧ (g e).prio = e.prio ∧ (g e).id = e.id)
    (hp : s'.pending = s.pending.map g) (hn : s'.nextId = s.nextId) (hnow : s'.now = s.now) : WF s' := by
  refine ⟨hp ▸ map_sorted g hg h.sorted, ?_, ?_⟩
  · intro e he
    rw [hp] at he
    obtain ⟨e₀, he₀, rfl⟩ := List.mem_map.mp he
    rw [(hg e₀).2.2, hn]
    exact h.idlt e₀ he₀
  · intro e he
    rw [hp] at he
    obtain ⟨e₀, he₀, rfl⟩ := List.mem_map.mp he
    rw [(hg e₀).1, hnow]
    exact h.future e₀ he₀

/-! ### commands -/

theorem schedAbs_ok {s s' : Sim} {t : Int} {p a : Nat} {c : Option Nat} (h : schedAbs s t p a c = .ok s') :
    s.now ≤ t ∧ s' = pushUser s t p a c := by
  unfold schedAbs at h
  split at h
  · simp at h
  · split at h
    · simp at h
    · exact ⟨by omega, (Except.ok.inj h).symm⟩

theorem schedRel_eq (s : Sim) (d : Int) (p a : Nat) (c : Option Nat) :
    schedRel s d p a c = schedAbs s (s.now + d) p a c := by
  unfold schedRel schedAbs
  by_cases h : d < 0
  · rw [if_pos h, if_pos (show s.now + d < s.now by omega)]
  · rw [if_neg h, if_neg (show ¬ s.now + d < s.now by omega)]

theorem schedRel_ok {s s' : Sim} {d : Int} {p a : Nat} {c : Option Nat} (h : schedRel s d p a c = .ok s') :
    0 ≤ d ∧ s' = pushUser s (s.now + d) p a c := by
  rw [schedRel_eq] at h
  have := (schedAbs_ok h).1
  exact ⟨by omega, (schedAbs_ok h).2⟩

theorem again_ok {s s' : Sim} {k : Nat} {d : Int} {p : Nat} (h : again s k d p = some (.ok s')) :
    ∃ a, s.fns.lookup k = some a ∧ 0 ≤ d ∧ s' = pushUser s (s.now + d) p a (some k) := by
  unfold again at h
  split at h
  · simp at h
  · rename_i a hl
    exact ⟨a, hl, schedRel_ok (Option.some.inj h)⟩

/-- all a command can do: nothing (`halt`, a rejected call, `again` with a callable no longer held), push one user event not
    before the clock (fresh callable, or one the program holds), cancel, drop, raise -/
theorem doCmd1_induct {P : Sim → Prop} {s : Sim} (c : Cmd) (same : P s)
    (push : ∀ t p a c', s.now ≤ t → (∀ k, c' = some k → s.fns.lookup k = some a) → P (pushUser s t p a c'))
    (cancel : ∀ k, c = .cancel k → P (cancelTag s k)) (drop : ∀ k, c = .drop k → P (dropFn s k))
    (raise : ∀ x, c = .raise x → P { s with raised := some x }) : P (doCmd1 s c) := by
  cases c with
  | schedAbs t p a =>
    simp only [doCmd1]
    split
    · rename_i s' hs
      obtain ⟨ht, rfl⟩ := schedAbs_ok hs
      exact push t p a none ht (by simp)
    · exact same
  | schedRel d p a =>
    simp only [doCmd1]
    split
    · rename_i s' hs
      obtain ⟨hd, rfl⟩ := schedRel_ok hs
      exact push _ p a none (by omega) (by simp)
    · exact same
  | again k d p =>
    simp only [doCmd1]
    split
    · rename_i s' hs
      obtain ⟨a, hl, hd, rfl⟩ := again_ok hs
      exact push _ p a (some k) (by omega) (fun _ hk => Option.some.inj hk ▸ hl)
    · exact same
  | cancel k => exact cancel k rfl
  | drop k => exact drop k rfl
  | halt => exact same
  | raise x => exact raise x rfl

theorem foldl_doCmd_induct {P : Sim → Prop} (cs : List Cmd) {s : Sim} (h : P s)
    (cmd : ∀ s, ∀ c ∈ cs, P s → P (doCmd1 s c)) : P (cs.foldl doCmd s) := by
  induction cs generalizing s with
  | nil => exact h
  | cons c cs ih =>
    refine ih ?_ (fun s c hc => cmd s c (List.mem_cons_of_mem _ hc))
    unfold doCmd
    split
    · exact h
    · exact cmd s c List.mem_cons_self h

/-- an execution discards the event (callable dead), or logs it and runs its program (a step event: re-arm, count, step body) -/
theorem exec_induct {P : Sim → Prop} {s : Sim} {e : Ev}
    (cmd : ∀ s', ∀ c, c ∈ s.stepProg ∨ c ∈ s.prog e.act → P s' → P (doCmd1 s' c))
    (dead : e.dead = true → P { s with gone := s.gone ++ [e.id] })
    (step : e.dead = false → e.isStep = true →
      P { rearm s with steps := s.steps + 1, log := s.log ++ [.step e.id s.now] })
    (user : e.dead = false → e.isStep = false → P { s with log := s.log ++ [.user e.id e.tag s.now] }) :
    P (exec s e) := by
  unfold exec
  split
  · rename_i hd
    exact dead hd
  · rename_i hd
    have hd : e.dead = false := by simpa using hd
    split
    · rename_i hs
      exact foldl_doCmd_induct _ (step hd hs) (fun s' c hc => cmd s' c (Or.inl hc))
    · rename_i hs
      exact foldl_doCmd_induct _ (user hd (by simpa using hs)) (fun s' c hc => cmd s' c (Or.inr hc))

/-- the state in which a popped event executes -/
def popped (s : Sim) (e : Ev) (rest : List Ev) : Sim :=
  { s with now := e.time, pending := rest, gone := s.gone ++ (skipped s.pending).map (·.id) }

/-- what `run_until(T)` returns when no live event is left: the cancelled entries are thrown away -/
abbrev stopped (s : Sim) (T : Int) : Sim :=
  { s with now := T, pending := [], gone := s.gone ++ (skipped s.pending).map (·.id) }

/-- what `run_until(T)` returns when the next live event `e` lies beyond `T`: `e` is pushed back -/
abbrev pushedBack (s : Sim) (e : Ev) (rest : List Ev) (T : Int) : Sim :=
  { popped s e rest with now := T, pending := insert e rest }

theorem runUntil_none {f : Nat} {s : Sim} {T : Int} (hp : popLive s.pending = none) :
    runUntil (f+1) s T = some (stopped s T) := by
  simp only [runUntil, hp]

theorem runUntil_late {f : Nat} {s : Sim} {T : Int} {e : Ev} {rest : List Ev} (hp : popLive s.pending = some (e, rest))
    (hT : ¬ e.time ≤ T) :
    runUntil (f+1) s T = some (pushedBack s e rest T) := by
  simp only [runUntil, hp, hT, if_false, pushedBack, popped]

theorem runUntil_due_raised {f : Nat} {s : Sim} {T : Int} {e : Ev} {rest : List Ev} {x : Exc}
    (hp : popLive s.pending = some (e, rest)) (hT : e.time ≤ T) (hx : (exec (popped s e rest) e).raised = some x) :
    runUntil (f+1) s T = some (exec (popped s e rest) e) := by
  simp only [popped] at hx
  simp only [runUntil, hp, hT, if_true, popped, hx, Option.isSome_some]

theorem runUntil_due {f : Nat} {s : Sim} {T : Int} {e : Ev} {rest : List Ev} (hp : popLive s.pending = some (e, rest))
    (hT : e.time ≤ T) (hx : (exec (popped s e rest) e).raised = none) :
    runUntil (f+1) s T = runUntil f (exec (popped s e rest) e) T := by
  simp only [popped] at hx
  simp only [runUntil, hp, hT, if_true, popped, hx, Option.isSome_none, Bool.false_eq_true, if_false]

/-- The loop of `run_until(T)` as a proof rule: `P` is the invariant of iterations that execute an event which does not raise;
    `Q` holds on return when it holds at each exit (list exhausted, next live event beyond `T`, the executed event raised). -/
theorem runUntil_loop {P Q : Sim → Prop} {T : Int}
    (stop : ∀ s, P s → popLive s.pending = none →
      Q (stopped s T))
    (late : ∀ s e r, P s → popLive s.pending = some (e, r) → ¬ e.time ≤ T →
      Q (pushedBack s e r T))
    (step : ∀ s e r, P s → popLive s.pending = some (e, r) → e.time ≤ T → (exec (popped s e r) e).raised = none →
      P (exec (popped s e r) e))
    (abort : ∀ s e r x, P s → popLive s.pending = some (e, r) → e.time ≤ T → (exec (popped s e r) e).raised = some x →
      Q (exec (popped s e r) e))
    {f : Nat} {s s' : Sim} (h : P s) (hr : runUntil f s T = some s') : Q s' := by
  induction f generalizing s with
  | zero => simp [runUntil] at hr
  | succ f ih =>
    cases hp : popLive s.pending with
    | none =>
      rw [runUntil_none hp] at hr
      cases hr
      exact stop s h hp
    | some q =>
      obtain ⟨e, r⟩ := q
      by_cases hT : e.time ≤ T
      · cases hx : (exec (popped s e r) e).raised with
        | none =>
          rw [runUntil_due hp hT hx] at hr
          exact ih (step s e r h hp hT hx) hr
        | some x =>
          rw [runUntil_due_raised hp hT hx] at hr
          cases hr
          exact abort s e r x h hp hT hx
      · rw [runUntil_late hp hT] at hr
        cases hr
        exact late s e r h hp hT

/-- `run_until` sees the list through the next pop only, and overwrites the clock -/
theorem runUntil_congr {s : Sim} {t : Int} {l : List Ev} {g : List Nat} (hp : popLive l = popLive s.pending)
    (hg : g ++ (skipped l).map (·.id) = s.gone ++ (skipped s.pending).map (·.id)) (f : Nat) (T : Int) :
    runUntil f { s with now := t, pending := l, gone := g } T = runUntil f s T := by
  cases f with
  | zero => rfl
  | succ f => simp only [runUntil, hp, hg]

theorem runUntil_after_stop {s : Sim} (hp : popLive s.pending = none) (t : Int) (f : Nat) (T : Int) :
    runUntil f (stopped s t) T = runUntil f s T :=
  runUntil_congr (by
    rw [hp]
    rfl) (by simp [skipped]) f T

theorem runUntil_after_late {s : Sim} {e : Ev} {r : List Ev} (hs : Sorted s.pending) (hp : popLive s.pending = some (e, r))
    (t : Int) (f : Nat) (T : Int) :
    runUntil f (pushedBack s e r t) T = runUntil f s T :=
  runUntil_congr (l := insert e r) (g := s.gone ++ (skipped s.pending).map (·.id)) ((popLive_insert hs hp).1.trans hp.symm)
    (by
      rw [(popLive_insert hs hp).2]
      simp) f T

theorem runNext_cases (s : Sim) :
    (popLive s.pending = none ∧
      runNext s = stopped s s.now) ∨
    ∃ e r, popLive s.pending = some (e, r) ∧ runNext s = exec (popped s e r) e := by
  unfold runNext
  split
  · rename_i hp
    exact Or.inl ⟨hp, rfl⟩
  · rename_i e r hp
    exact Or.inr ⟨e, r, hp, rfl⟩

/-! ### commands never touch clock, log, counters, programs; nothing touches the programs -/

/-- the simulator class and the programs are fixed once and for all -/
structure Static (s s' : Sim) : Prop where
  kind : s'.kind = s.kind
  prog : s'.prog = s.prog
  stepProg : s'.stepProg = s.stepProg

structure Frame (s s' : Sim) : Prop extends Static s s' where
  now : s'.now = s.now
  log : s'.log = s.log
  steps : s'.steps = s.steps
  gone : s'.gone = s.gone

theorem Static.trans {a b c : Sim} (h₁ : Static a b) (h₂ : Static b c) : Static a c :=
  ⟨h₂.kind.trans h₁.kind, h₂.prog.trans h₁.prog, h₂.stepProg.trans h₁.stepProg⟩

theorem Frame.refl (s : Sim) : Frame s s := ⟨⟨rfl, rfl, rfl⟩, rfl, rfl, rfl, rfl⟩

theorem Frame.trans {a b c : Sim} (h₁ : Frame a b) (h₂ : Frame b c) : Frame a c :=
  ⟨h₁.toStatic.trans h₂.toStatic, h₂.now.trans h₁.now, h₂.log.trans h₁.log, h₂.steps.trans h₁.steps, h₂.gone.trans h₁.gone⟩

theorem doCmd1_frame (s : Sim) (c : Cmd) : Frame s (doCmd1 s c) :=
  doCmd1_induct c (.refl s) (fun _ _ _ _ _ _ => ⟨⟨rfl, rfl, rfl⟩, rfl, rfl, rfl, rfl⟩) (fun _ _ => ⟨⟨rfl, rfl, rfl⟩, rfl, rfl, rfl, rfl⟩)
    (fun _ _ => ⟨⟨rfl, rfl, rfl⟩, rfl, rfl, rfl, rfl⟩) (fun _ _ => ⟨⟨rfl, rfl, rfl⟩, rfl, rfl, rfl, rfl⟩)

theorem foldl_doCmd_frame (s : Sim) (cs : List Cmd) : Frame s (cs.foldl doCmd s) :=
  foldl_doCmd_induct cs (.refl s) (fun s' c _ h => h.trans (doCmd1_frame s' c))

theorem doCmd_frame (s : Sim) (c : Cmd) : Frame s (doCmd s c) := foldl_doCmd_frame s [c]

theorem rearm_frame (s : Sim) : Frame s (rearm s) := by
  unfold rearm
  split
  · exact ⟨⟨rfl, rfl, rfl⟩, rfl, rfl, rfl, rfl⟩
  · exact .refl s

theorem mem_rearm {s : Sim} {e : Ev} (h : e ∈ s.pending) : e ∈ (rearm s).pending := by
  unfold rearm
  split
  · exact mem_insert.mpr (Or.inr h)
  · exact h

/-- what one execution appends to the log -/
def entryOf (s : Sim) (e : Ev) : List LogEntry :=
  if e.dead then [] else if e.isStep then [.step e.id s.now] else [.user e.id e.tag s.now]

theorem exec_now (s : Sim) (e : Ev) : (exec s e).now = s.now :=
  exec_induct (P := fun s' => s'.now = s.now) (fun s' c _ h => (doCmd1_frame s' c).now.trans h) (fun _ => rfl)
    (fun _ _ => (rearm_frame s).now) (fun _ _ => rfl)

theorem exec_log (s : Sim) (e : Ev) : (exec s e).log = s.log ++ entryOf s e := by
  unfold entryOf
  refine exec_induct (P := fun s' => s'.log = _) (fun s' c _ h => (doCmd1_frame s' c).log.trans h) ?_ ?_ ?_
  · intro hd
    simp [hd]
  · intro hd hs
    simp [hd, hs]
  · intro hd hs
    simp [hd, hs]

theorem exec_static (s : Sim) (e : Ev) : Static s (exec s e) :=
  exec_induct (fun s' c _ h => h.trans (doCmd1_frame s' c).toStatic) (fun _ => ⟨rfl, rfl, rfl⟩)
    (fun _ _ => let f := rearm_frame s; ⟨f.kind, f.prog, f.stepProg⟩) (fun _ _ => ⟨rfl, rfl, rfl⟩)

theorem entryOf_clock {s : Sim} {e : Ev} : ∀ x ∈ entryOf s e, x.clock = s.now := by
  intro x hx
  unfold entryOf at hx
  split at hx
  · simp at hx
  · split at hx <;> simp at hx <;> subst hx <;> rfl

/-! ### reachable states, and what it takes for a property to hold in all of them -/

/-- every state a program can bring a simulator into: any interleaving of scheduling / cancelling /
    dropping commands (rejected ones leave the state as it is), `setup`, `run_until` / `run_for` with a
    horizon not before the clock, and `run_next_event` -/
inductive Reachable : Sim → Prop where
  | init (k : Kind) (p : Nat → List Cmd) (sp : List Cmd) : Reachable (init k p sp)
  | cmd {s : Sim} (c : Cmd) : Reachable s → Reachable (doCmd s c)
  | setup {s : Sim} : Reachable s → Reachable (setup s)
  | until {s s' : Sim} {f : Nat} {T : Int} : Reachable s → s.now ≤ T → runUntil f s T = some s' → Reachable s'
  | next {s : Sim} : Reachable s → Reachable (runNext s)
  | caught {s : Sim} : Reachable s → Reachable (caught s)   -- the program catches the exception of a callable

/-- `s'` is reachable from `s` by further operations -/
inductive ReachableFrom (s : Sim) : Sim → Prop where
  | refl : ReachableFrom s s
  | cmd {s' : Sim} (c : Cmd) : ReachableFrom s s' → ReachableFrom s (doCmd s' c)
  | until {s' s'' : Sim} {f : Nat} {T : Int} : ReachableFrom s s' → s'.now ≤ T → runUntil f s' T = some s'' →
      ReachableFrom s s''
  | next {s' : Sim} : ReachableFrom s s' → ReachableFrom s (runNext s')
  | caught {s' : Sim} : ReachableFrom s s' → ReachableFrom s (caught s')

theorem reachableFrom_reachable {s s' : Sim} (h : Reachable s) (hr : ReachableFrom s s') : Reachable s' := by
  induction hr with
  | refl => exact h
  | cmd c _ ih => exact .cmd c ih
  | «until» _ hT hrun ih => exact .until ih hT hrun
  | next _ ih => exact .next ih
  | caught _ ih => exact .caught ih

/-- `P` survives whatever a simulator does: a command (one that `ok` admits), each of the three things an iteration of
    `run_until(T)` can do when `T` is not before the clock, a catch.  Such a `P` holds along every history. -/
structure Kept (P : Sim → Prop) (ok : Cmd → Prop := fun _ => True) : Prop where
  cmd : ∀ {s : Sim} (c : Cmd), ok c → P s → P (doCmd1 s c)
  stop : ∀ {s : Sim} {T : Int}, P s → s.now ≤ T → popLive s.pending = none →
    P (stopped s T)
  late : ∀ {s : Sim} {e : Ev} {r : List Ev} {T : Int}, P s → s.now ≤ T → popLive s.pending = some (e, r) → ¬ e.time ≤ T →
    P (pushedBack s e r T)
  step : ∀ {s : Sim} {e : Ev} {r : List Ev}, P s → popLive s.pending = some (e, r) → P (exec (popped s e r) e)
  caught : ∀ {s : Sim}, P s → P (caught s)

theorem Kept.ofCmd {P : Sim → Prop} {ok : Cmd → Prop} (k : Kept P ok) {s : Sim} (c : Cmd) (hc : ok c) (h : P s) :
    P (doCmd s c) :=
  foldl_doCmd_induct [c] h (fun _ c' hc' => k.cmd c' (List.mem_singleton.mp hc' ▸ hc))

theorem Kept.ofUntil {P : Sim → Prop} {ok : Cmd → Prop} (k : Kept P ok) {f : Nat} {s s' : Sim} {T : Int} (h : P s)
    (hT : s.now ≤ T) (hr : runUntil f s T = some s') : P s' :=
  runUntil_loop (P := fun s => P s ∧ s.now ≤ T) (fun _ h hp => k.stop h.1 h.2 hp) (fun _ _ _ h hp hl => k.late h.1 h.2 hp hl)
    (fun _ _ _ h hp hd _ => ⟨k.step h.1 hp, Int.le_trans (Int.le_of_eq (exec_now _ _)) hd⟩) (fun _ _ _ _ h hp _ _ => k.step h.1 hp) ⟨h, hT⟩ hr

theorem Kept.ofNext {P : Sim → Prop} {ok : Cmd → Prop} (k : Kept P ok) {s : Sim} (h : P s) : P (runNext s) := by
  rcases runNext_cases s with ⟨hp, he⟩ | ⟨e, r, hp, he⟩ <;> rw [he]
  · exact k.stop h (Int.le_refl _) hp
  · exact k.step h hp

theorem Kept.ofFrom {P : Sim → Prop} (k : Kept P) {s s' : Sim} (h : P s) (hr : ReachableFrom s s') : P s' := by
  induction hr with
  | refl => exact h
  | cmd c _ ih => exact k.ofCmd c trivial ih
  | «until» _ hT hrun ih => exact k.ofUntil ih hT hrun
  | next _ ih => exact k.ofNext ih
  | caught _ ih => exact k.caught ih

theorem Kept.ofReachable {P : Sim → Prop} (k : Kept P) (hinit : ∀ kd p sp, P (init kd p sp))
    (hsetup : ∀ s, P s → P (setup s)) {s : Sim} (h : Reachable s) : P s := by
  induction h with
  | init kd p sp => exact hinit kd p sp
  | cmd c _ ih => exact k.ofCmd c trivial ih
  | setup _ ih => exact hsetup _ ih
  | «until» _ hT hrun ih => exact k.ofUntil ih hT hrun
  | next _ ih => exact k.ofNext ih
  | caught _ ih => exact k.caught ih

theorem Kept.and {P Q : Sim → Prop} {ok : Cmd → Prop} (kP : Kept P ok) (kQ : Kept Q ok) : Kept (fun s => P s ∧ Q s) ok where
  cmd c hc h := ⟨kP.cmd c hc h.1, kQ.cmd c hc h.2⟩
  stop h hT hp := ⟨kP.stop h.1 hT hp, kQ.stop h.2 hT hp⟩
  late h hT hp hl := ⟨kP.late h.1 hT hp hl, kQ.late h.2 hT hp hl⟩
  step h hp := ⟨kP.step h.1 hp, kQ.step h.2 hp⟩
  caught h := ⟨kP.caught h.1, kQ.caught h.2⟩

theorem static_kept (s₀ : Sim) : Kept (Static s₀) where
  cmd {s} c _ h := h.trans (doCmd1_frame s c).toStatic
  stop h _ _ := ⟨h.kind, h.prog, h.stepProg⟩
  late h _ _ _ := ⟨h.kind, h.prog, h.stepProg⟩
  step {s e r} h _ := (Static.trans (b := popped s e r) ⟨h.kind, h.prog, h.stepProg⟩ (exec_static _ e))
  caught h := ⟨h.kind, h.prog, h.stepProg⟩

/-! ### well-formedness is kept -/

theorem doCmd1_wf {s : Sim} (h : WF s) (c : Cmd) : WF (doCmd1 s c) :=
  doCmd1_induct c h (fun _ p a c' ht _ => pushUser_wf h ht p a c')
    (fun _ _ => mapFlags_wf h _ (fun e => by split <;> simp) rfl rfl rfl)
    (fun _ _ => mapFlags_wf h _ (fun e => by split <;> simp) rfl rfl rfl) (fun _ _ => ⟨h.sorted, h.idlt, h.future⟩)

theorem popped_wf {s : Sim} (h : WF s) {e : Ev} {rest : List Ev} (hp : popLive s.pending = some (e, rest)) :
    WF (popped s e rest) := by
  obtain ⟨_, hlt, hs⟩ := popLive_spec h.sorted hp
  exact ⟨hs, fun y hy => h.idlt y ((popLive_mem hp).2 y hy), fun y hy => Ev.time_le_of_lt (hlt y hy)⟩

theorem rearm_wf {s : Sim} (h : WF s) : WF (rearm s) := by
  unfold rearm
  split
  · exact pushStep_wf h
  · exact h

theorem exec_wf {s : Sim} (h : WF s) (e : Ev) : WF (exec s e) :=
  exec_induct (fun _ c _ h' => doCmd1_wf h' c) (fun _ => ⟨h.sorted, h.idlt, h.future⟩)
    (fun _ _ => let w := rearm_wf h; ⟨w.sorted, w.idlt, w.future⟩) (fun _ _ => ⟨h.sorted, h.idlt, h.future⟩)

theorem late_wf {s : Sim} (h : WF s) {e : Ev} {r : List Ev} {T : Int} (hp : popLive s.pending = some (e, r))
    (hT : ¬ e.time ≤ T) : WF (pushedBack s e r T) ∧
      ∀ y ∈ insert e r, T < y.time := by
  obtain ⟨_, hlt, hs⟩ := popLive_spec h.sorted hp
  have hbeyond : ∀ y ∈ insert e r, T < y.time := by
    intro y hy
    rcases mem_insert.mp hy with rfl | hy
    · omega
    · have := Ev.time_le_of_lt (hlt y hy)
      omega
  refine ⟨⟨?_, fun y hy => h.idlt y ((popLive_mem_iff hp).mpr (Or.inr hy)), fun y hy => Int.le_of_lt (hbeyond y hy)⟩, hbeyond⟩
  show Sorted (insert e r)
  rw [insert_of_all_lt e r hlt]
  exact List.pairwise_cons.mpr ⟨hlt, hs⟩

theorem wf_kept : Kept WF where
  cmd c _ h := doCmd1_wf h c
  stop _ _ _ := ⟨List.Pairwise.nil, nofun, nofun⟩
  late h _ hp hT := (late_wf h hp hT).1
  step h hp := exec_wf (popped_wf h hp) _
  caught h := ⟨h.sorted, h.idlt, h.future⟩

/-- no condition on the horizon: a run to a time before the clock keeps the state well-formed too -/
theorem runUntil_wf {f : Nat} {s s' : Sim} {T : Int} (h : WF s) (hr : runUntil f s T = some s') : WF s' :=
  runUntil_loop (fun _ _ _ => ⟨List.Pairwise.nil, nofun, nofun⟩) (fun _ _ _ h hp hT => (late_wf h hp hT).1)
    (fun _ _ _ h hp _ _ => wf_kept.step h hp) (fun _ _ _ _ h hp _ _ => wf_kept.step h hp) h hr

/-! ### accounting: every id below `nextId` is in exactly one place, exactly once -/

def ids (l : List Ev) : List Nat := l.map (·.id)
def logIds (l : List LogEntry) : List Nat := l.map (·.id)

/-- `hole` = ids of events that have been popped and are about to be logged or discarded -/
def AccH (hole : List Nat) (s : Sim) : Prop :=
  ∀ i, (ids s.pending).count i + (logIds s.log).count i + s.gone.count i + hole.count i
        = if i < s.nextId then 1 else 0

def Acc (s : Sim) : Prop := AccH [] s

theorem Acc.le_one {s : Sim} (h : Acc s) (i : Nat) :
    (ids s.pending).count i + (logIds s.log).count i + s.gone.count i ≤ 1 := by
  have := h i
  simp only [List.count_nil, Nat.add_zero] at this
  split at this <;> omega

theorem ids_insert_count (e : Ev) (l : List Ev) (i : Nat) :
    (ids (insert e l)).count i = [e.id].count i + (ids l).count i := by
  rw [ids, ((insert_perm e l).map (·.id)).count_eq i, List.map_cons, ← List.singleton_append, List.count_append, ids]

theorem ids_map_flags (l : List Ev) (g : Ev → Ev) (hg : ∀ e, (g e).id = e.id) : ids (l.map g) = ids l := by
  simp [ids, List.map_map, Function.comp_def, hg]

theorem init_acc (k : Kind) (p : Nat → List Cmd) (sp : List Cmd) : Acc (init k p sp) := by
  intro i
  simp [init, ids, logIds]

theorem count_lt_succ (n i : Nat) : (if i < n + 1 then 1 else 0) = [n].count i + if i < n then 1 else 0 := by
  rw [List.count_singleton]
  by_cases h : n = i
  · subst h
    simp
  · have hb : (n == i) = false := by simpa using h
    by_cases h' : i < n
    · simp [hb, h', Nat.lt_succ_of_lt h']
    · simp [hb, h', show ¬ i < n + 1 by omega]

theorem insert_accH {h : List Nat} {s s' : Sim} (ha : AccH h s) {e : Ev} (hp : s'.pending = insert e s.pending)
    (hn : s'.nextId = s.nextId + 1) (hl : s'.log = s.log) (hg : s'.gone = s.gone) (hid : e.id = s.nextId) : AccH h s' := by
  intro i
  have := ha i
  rw [hp, hn, hl, hg, ids_insert_count, hid, count_lt_succ]
  omega

theorem AccH.congr {h : List Nat} {s s' : Sim} (ha : AccH h s) (hp : ids s'.pending = ids s.pending) (hl : s'.log = s.log)
    (hg : s'.gone = s.gone) (hn : s'.nextId = s.nextId) : AccH h s' := by
  intro i
  rw [hp, hl, hg, hn]
  exact ha i

theorem doCmd1_accH {h : List Nat} {s : Sim} (ha : AccH h s) (c : Cmd) : AccH h (doCmd1 s c) :=
  doCmd1_induct c ha (fun _ _ _ _ _ _ => insert_accH ha rfl rfl rfl rfl rfl)
    (fun _ _ => ha.congr (ids_map_flags _ _ (fun e => by split <;> rfl)) rfl rfl rfl)
    (fun _ _ => ha.congr (ids_map_flags _ _ (fun e => by split <;> rfl)) rfl rfl rfl)
    (fun _ _ => ha)

theorem popped_accH {s : Sim} (ha : Acc s) {e : Ev} {rest : List Ev}
    (hp : popLive s.pending = some (e, rest)) : AccH [e.id] (popped s e rest) := by
  intro i
  have := ha i
  have hcount : (ids s.pending).count i
      = ((skipped s.pending).map (·.id)).count i + ([e.id].count i + (ids rest).count i) := by
    conv =>
      lhs
      rw [(popLive_decomp hp).1]
    rw [ids, List.map_append, List.map_cons, ← List.singleton_append, List.count_append, List.count_append, ids]
  simp only [List.count_nil, Nat.add_zero] at this
  show (ids rest).count i + (logIds s.log).count i + (s.gone ++ (skipped s.pending).map (·.id)).count i + [e.id].count i
    = if i < s.nextId then 1 else 0
  rw [List.count_append]
  omega

theorem exec_acc {s : Sim} {e : Ev} (ha : AccH [e.id] s) : Acc (exec s e) := by
  have hlog : ∀ (l : List LogEntry) (x : LogEntry) (i : Nat), x.id = e.id →
      (logIds (l ++ [x])).count i = (logIds l).count i + [e.id].count i := by
    intro l x i hx
    simp [logIds, hx]
  refine exec_induct (fun _ c _ h' => doCmd1_accH h' c) (fun _ i => ?_) (fun _ _ i => ?_) (fun _ _ i => ?_)
  · have := ha i
    rw [List.count_append]
    simp only [List.count_nil, Nat.add_zero]
    omega
  · have h1 : AccH [e.id] (rearm s) := by
      unfold rearm
      split
      · exact insert_accH ha rfl rfl rfl rfl rfl
      · exact ha
    have := h1 i
    rw [(rearm_frame s).log] at this
    rw [hlog _ _ i rfl]
    simp only [List.count_nil, Nat.add_zero]
    omega
  · have := ha i
    rw [hlog _ _ i rfl]
    simp only [List.count_nil, Nat.add_zero]
    omega

theorem acc_kept : Kept Acc where
  cmd c _ h := doCmd1_accH h c
  stop {s T} h _ hp i := by
    have := h i
    rw [← popLive_none hp] at this
    simp only [ids, List.map_nil, List.count_nil, List.count_append, Nat.add_zero, Nat.zero_add] at this ⊢
    split at this <;> split <;> omega
  late {s e r T} h _ hp _ i := by
    have := popped_accH h hp i
    simp only [popped, ids_insert_count, List.count_nil] at this ⊢
    omega
  step h hp := exec_acc (popped_accH h hp)
  caught h := h

/-! ### the clock never moves backwards -/

def clocks (l : List LogEntry) : List Int := l.map (·.clock)

structure ClockInv (s : Sim) : Prop where
  mono : (clocks s.log).Pairwise (· ≤ ·)
  le_now : ∀ c ∈ clocks s.log, c ≤ s.now

theorem init_clockInv (k : Kind) (p : Nat → List Cmd) (sp : List Cmd) : ClockInv (init k p sp) :=
  ⟨by simp [init, clocks], by simp [init, clocks]⟩

theorem ClockInv.later {s s' : Sim} (h : ClockInv s) (hl : s'.log = s.log) (hn : s.now ≤ s'.now) : ClockInv s' :=
  ⟨hl ▸ h.mono, fun c hc => Int.le_trans (h.le_now c (hl ▸ hc)) hn⟩

theorem exec_clockInv {s : Sim} (h : ClockInv s) (e : Ev) : ClockInv (exec s e) := by
  refine ⟨?_, ?_⟩
  · rw [exec_log]
    simp only [clocks, List.map_append]
    refine List.pairwise_append.mpr ⟨h.mono, ?_, ?_⟩
    · unfold entryOf
      split
      · simp
      · split <;> simp
    · intro a ha b hb
      obtain ⟨x, hx, rfl⟩ := List.mem_map.mp hb
      rw [entryOf_clock x hx]
      exact h.le_now a ha
  · intro c hc
    rw [exec_log] at hc
    rw [exec_now]
    simp only [clocks, List.map_append, List.mem_append] at hc
    rcases hc with hc | hc
    · exact h.le_now c hc
    · obtain ⟨x, hx, rfl⟩ := List.mem_map.mp hc
      rw [entryOf_clock x hx]
      exact Int.le_refl _

theorem clockInv_kept : Kept (fun s => WF s ∧ ClockInv s) where
  cmd {s} c _ h := ⟨doCmd1_wf h.1 c, h.2.later (doCmd1_frame s c).log (Int.le_of_eq (doCmd1_frame s c).now.symm)⟩
  stop h hT hp := ⟨wf_kept.stop h.1 hT hp, h.2.later rfl hT⟩
  late h hT hp hl := ⟨wf_kept.late h.1 hT hp hl, h.2.later rfl hT⟩
  step {s e r} h hp := ⟨wf_kept.step h.1 hp, exec_clockInv (h.2.later (s' := popped s e r) rfl (h.1.future e (popLive_mem hp).1)) e⟩
  caught h := ⟨wf_kept.caught h.1, h.2.later rfl (Int.le_refl _)⟩

theorem reachable_inv {s : Sim} (h : Reachable s) : WF s ∧ Acc s ∧ ClockInv s := by
  have := (clockInv_kept.and acc_kept).ofReachable (s := s)
    (fun k p sp => ⟨⟨init_wf k p sp, init_clockInv k p sp⟩, init_acc k p sp⟩)
    (fun s h => ⟨⟨rearm_wf h.1.1, h.1.2.later (rearm_frame s).log (Int.le_of_eq (rearm_frame s).now.symm)⟩, by
      unfold setup rearm
      split
      · exact insert_accH h.2 rfl rfl rfl rfl rfl
      · exact h.2⟩) h
  exact ⟨this.1.1, this.2, this.1.2⟩

/-- What `run_until(T)` has done when it returns: it executed only events with time `≤ T`; if it returns normally the clock is
    `T` and EVERY entry left on the list — cancelled ones included — lies after `T` (the cancelled entries in front of the first
    live event beyond `T` were thrown away by the pop). -/
theorem runUntil_post {f : Nat} {s s' : Sim} {T : Int} (hw : WF s) (hr : runUntil f s T = some s') :
    (∃ new, s'.log = s.log ++ new ∧ ∀ x ∈ new, x.clock ≤ T) ∧
    (s'.raised = none → s'.now = T ∧ ∀ y ∈ s'.pending, T < y.time) := by
  -- loop invariant: the log has grown by entries with clocks `≤ T`
  have hstep : ∀ s₁ e r, (WF s₁ ∧ ∃ new, s₁.log = s.log ++ new ∧ ∀ x ∈ new, x.clock ≤ T) →
      popLive s₁.pending = some (e, r) → e.time ≤ T → WF (exec (popped s₁ e r) e) ∧
        ∃ new, (exec (popped s₁ e r) e).log = s.log ++ new ∧ ∀ x ∈ new, x.clock ≤ T := by
    intro s₁ e r ⟨hw₁, new, hl, hc⟩ hp hT
    refine ⟨exec_wf (popped_wf hw₁ hp) e, new ++ entryOf (popped s₁ e r) e, ?_, ?_⟩
    · rw [exec_log, ← List.append_assoc]
      exact congrArg (· ++ _) hl
    · intro y hy
      rcases List.mem_append.mp hy with hy | hy
      · exact hc y hy
      · rw [entryOf_clock y hy]
        exact hT
  exact runUntil_loop (P := fun s₁ => WF s₁ ∧ ∃ new, s₁.log = s.log ++ new ∧ ∀ x ∈ new, x.clock ≤ T)
    (Q := fun s' => (∃ new, s'.log = s.log ++ new ∧ ∀ x ∈ new, x.clock ≤ T) ∧
      (s'.raised = none → s'.now = T ∧ ∀ y ∈ s'.pending, T < y.time))
    (fun _ h _ => ⟨h.2, fun _ => ⟨rfl, nofun⟩⟩)
    (fun _ _ _ h hp hT => ⟨h.2, fun _ => ⟨rfl, (late_wf h.1 hp hT).2⟩⟩)
    (fun s₁ e r h hp hT _ => hstep s₁ e r h hp hT)
    (fun s₁ e r x h hp hT hx => ⟨(hstep s₁ e r h hp hT).2, fun hn => nomatch hn.symm.trans hx⟩)
    ⟨hw, [], by simp, by simp⟩ hr

/-! ### chunking: advancing in pieces = advancing in one piece -/

theorem fuel_le {β : Type} {F : Nat → Option β} (hs : ∀ f b, F f = some b → F (f+1) = some b) {f g : Nat} {b : β}
    (hfg : f ≤ g) (h : F f = some b) : F g = some b := by
  induction hfg with
  | refl => exact h
  | step _ ih => exact hs _ _ ih

theorem fuel_det {β : Type} {F : Nat → Option β} (hs : ∀ f b, F f = some b → F (f+1) = some b) {f g : Nat} {a b : β}
    (ha : F f = some a) (hb : F g = some b) : a = b :=
  Option.some.inj ((fuel_le hs (Nat.le_max_left f g) ha).symm.trans (fuel_le hs (Nat.le_max_right f g) hb))

theorem runUntil_fuel_succ {f : Nat} {s s' : Sim} {T : Int} (h : runUntil f s T = some s') :
    runUntil (f+1) s T = some s' := by
  induction f generalizing s with
  | zero => simp [runUntil] at h
  | succ f ih =>
    cases hp : popLive s.pending with
    | none =>
      rw [runUntil_none hp] at h ⊢
      exact h
    | some p =>
      obtain ⟨e, rest⟩ := p
      by_cases hT : e.time ≤ T
      · cases hx : (exec (popped s e rest) e).raised with
        | some x =>
          rw [runUntil_due_raised hp hT hx] at h ⊢
          exact h
        | none =>
          rw [runUntil_due hp hT hx] at h ⊢
          exact ih h
      · rw [runUntil_late hp hT] at h ⊢
        exact h

theorem runUntil_fuel_le {f g : Nat} {s s' : Sim} {T : Int} (hfg : f ≤ g) (h : runUntil f s T = some s') :
    runUntil g s T = some s' :=
  fuel_le (F := fun f => runUntil f s T) (fun _ _ => runUntil_fuel_succ) hfg h

theorem runUntil_det {f g : Nat} {s a b : Sim} {T : Int} (ha : runUntil f s T = some a) (hb : runUntil g s T = some b) :
    a = b :=
  fuel_det (F := fun f => runUntil f s T) (fun _ _ => runUntil_fuel_succ) ha hb

/-- two consecutive `run_until` pieces can be replayed as one piece, with the same final state
    (clock, pending events, counters, complete execution log) -/
theorem chunk_until {f₁ f₂ : Nat} {s s₁ s₂ : Sim} {t₁ t₂ : Int} (ht : t₁ ≤ t₂) (hw : WF s)
    (h₁ : runUntil f₁ s t₁ = some s₁) (hn : s₁.raised = none) (h₂ : runUntil f₂ s₁ t₂ = some s₂) :
    ∃ f, runUntil f s t₂ = some s₂ := by
  -- loop invariant: whatever a run to `t₂` from the current state ends in, a run from `s` ends in
  refine runUntil_loop (P := fun s' => WF s' ∧ ∀ f', runUntil f' s' t₂ = some s₂ → ∃ f, runUntil f s t₂ = some s₂)
    (Q := fun s₁ => s₁.raised = none → ∀ f₂, runUntil f₂ s₁ t₂ = some s₂ → ∃ f, runUntil f s t₂ = some s₂)
    ?_ ?_ ?_ ?_ ⟨hw, fun f' h => ⟨f', h⟩⟩ h₁ hn f₂ h₂
  · exact fun s' h hp _ f₂ h₂ => h.2 f₂ (by
      rw [← runUntil_after_stop hp t₁]
      exact h₂)
  · exact fun s' e r h hp _ _ f₂ h₂ => h.2 f₂ (by
      rw [← runUntil_after_late h.1.sorted hp t₁]
      exact h₂)
  · exact fun s' e r h hp hT hx => ⟨exec_wf (popped_wf h.1 hp) e, fun f' h' =>
      h.2 (f'+1) (by
        rw [runUntil_due hp (Int.le_trans hT ht) hx]
        exact h')⟩
  · exact fun s' e r x _ _ _ hx hn => by
      rw [hn] at hx
      cases hx

/-- a `run_next_event` piece followed by `run_until T` equals `run_until T`, provided the event it
    executes is not beyond `T` -/
theorem chunk_next {f : Nat} {s s₂ : Sim} {T : Int}
    (hT : ∀ e rest, popLive s.pending = some (e, rest) → e.time ≤ T) (hn : (runNext s).raised = none)
    (h : runUntil f (runNext s) T = some s₂) : ∃ f', runUntil f' s T = some s₂ := by
  rcases runNext_cases s with ⟨hp, he⟩ | ⟨e, r, hp, he⟩ <;> rw [he] at h hn
  · exact ⟨f, (runUntil_after_stop hp s.now f T).symm.trans h⟩
  · exact ⟨f+1, (runUntil_due hp (hT e r hp) hn).trans h⟩

inductive Piece where
  | until (t : Int)
  | for (d : Int)
  | next
deriving Repr

def runPiece (f : Nat) (s : Sim) : Piece → Option Sim
  | .until t => runUntil f s t
  | .for d => runFor f s d
  | .next => some (runNext s)

def runPieces (f : Nat) : Sim → List Piece → Option Sim
  | s, [] => some s
  | s, p :: ps => match runPiece f s p with
    | none => none
    | some s' => runPieces f s' ps

/-- every piece stays within the horizon `T` -/
def piecesWithin (f : Nat) (T : Int) : Sim → List Piece → Prop
  | _, [] => True
  | s, p :: ps =>
    (match p with
     | .until t => t ≤ T
     | .for d => s.now + d ≤ T
     | .next => ∀ e rest, popLive s.pending = some (e, rest) → e.time ≤ T) ∧
    ∀ s', runPiece f s p = some s' → piecesWithin f T s' ps

/-- every piece returns normally (no exception reaches the program) -/
def piecesNormal (f : Nat) : Sim → List Piece → Prop
  | _, [] => True
  | s, p :: ps => ∀ s', runPiece f s p = some s' → s'.raised = none ∧ piecesNormal f s' ps

theorem runPiece_wf {f : Nat} {s s' : Sim} {p : Piece} (hw : WF s) (h : runPiece f s p = some s') : WF s' := by
  cases p with
  | «until» t | «for» t => exact runUntil_wf hw h
  | next =>
    cases h
    exact wf_kept.ofNext hw

theorem chunk_pieces {f f' : Nat} {s s₁ s₂ : Sim} {T : Int} {ps : List Piece} (hw : WF s)
    (hin : piecesWithin f T s ps) (hnorm : piecesNormal f s ps) (h₁ : runPieces f s ps = some s₁) (h₂ : runUntil f' s₁ T = some s₂) :
    ∃ g, runUntil g s T = some s₂ := by
  induction ps generalizing s with
  | nil =>
    cases h₁
    exact ⟨f', h₂⟩
  | cons p ps ih =>
    simp only [runPieces] at h₁
    split at h₁
    · simp at h₁
    · rename_i sm hsm
      obtain ⟨hp, hrest⟩ := hin
      obtain ⟨hnm, hnrest⟩ := hnorm sm hsm
      obtain ⟨g, hg⟩ := ih (runPiece_wf hw hsm) (hrest sm hsm) hnrest h₁
      cases p with
      | «until» t | «for» t => exact chunk_until hp hw hsm hnm hg
      | next =>
        cases hsm
        exact chunk_next hp hnm hg

/-! ### events scheduled up front run in sorted order -/

/-- no callable schedules, cancels or drops anything, and `model.step` is not on the list: the events on the
    list are all there is -/
structure Quiet (s : Sim) : Prop where
  progs : ∀ a, s.prog a = []
  nosteps : ∀ e ∈ s.pending, e.isStep = false
  calm : s.raised = none

/-- what executing the live event `e` logs at its own time -/
def logged (e : Ev) : Option LogEntry := if e.dead then none else some (.user e.id e.tag e.time)

/-- the live events due by `T`, in list order -/
def due (T : Int) (l : List Ev) : List Ev := (l.filter Ev.live).takeWhile (fun e => decide (e.time ≤ T))

theorem takeWhile_time_eq_filter {l : List Ev} (hl : Sorted l) (T : Int) :
    l.takeWhile (fun e => decide (e.time ≤ T)) = l.filter (fun e => decide (e.time ≤ T)) := by
  induction l with
  | nil => rfl
  | cons x xs ih =>
    obtain ⟨hx, hxs⟩ := List.pairwise_cons.mp hl
    by_cases hT : x.time ≤ T
    · simp [hT, ih hxs]
    · simp only [List.takeWhile_cons, hT, decide_false, Bool.false_eq_true, if_false, List.filter_cons]
      refine (List.filter_eq_nil_iff.mpr fun y hy => ?_).symm
      have := Ev.time_le_of_lt (hx y hy)
      simp
      omega

theorem exec_quiet {s : Sim} (e : Ev) (hq : Quiet s) (he : e.isStep = false) :
    exec s e = if e.dead then { s with gone := s.gone ++ [e.id] }
               else { s with log := s.log ++ [.user e.id e.tag s.now] } := by
  unfold exec
  split
  · rfl
  · rw [if_neg (by simp [he]), hq.progs]
    rfl

theorem runUntil_quiet_log {f : Nat} {s s' : Sim} {T : Int} (hq : Quiet s)
    (hr : runUntil f s T = some s') : s'.log = s.log ++ (due T s.pending).filterMap logged := by
  induction f generalizing s with
  | zero => simp [runUntil] at hr
  | succ f ih =>
    cases hp : popLive s.pending with
    | none =>
      rw [runUntil_none hp] at hr
      cases hr
      simp [due, filter_live_of_cancelled (popLive_none_all_cancelled hp)]
    | some q =>
      obtain ⟨e, rest⟩ := q
      have hfl := filter_live_pop hp
      by_cases hle : e.time ≤ T
      · have hqp : Quiet (popped s e rest) :=
          ⟨hq.progs, fun y hy => hq.nosteps y ((popLive_mem hp).2 y hy), hq.calm⟩
        have hex := exec_quiet e hqp (hq.nosteps e (popLive_mem hp).1)
        have hq' : Quiet (exec (popped s e rest) e) := by
          rw [hex]
          split <;> exact ⟨hqp.progs, hqp.nosteps, hqp.calm⟩
        rw [runUntil_due hp hle hq'.calm] at hr
        rw [ih hq' hr, hex]
        simp only [due, hfl, List.takeWhile_cons, hle, decide_true, if_true, List.filterMap_cons, logged]
        split <;> simp [popped]
      · rw [runUntil_late hp hle] at hr
        cases hr
        simp [due, hfl, hle, popped]

end Mesa.Devs
