import MesaModel.Model.CellCollection
import MesaModel.Proofs.CellSpaces
import MesaModel.Proofs.CellGen
/-!
Helper lemmas for C06: the `CellCollection` API — `select` is an order-preserving bounded filter, the random
selections draw once over the collection's population, the agent views of a collection of distinct cells are
duplicate-free and mirror `agent.cell`.
-/
namespace Mesa.Cells

theorem mem_collAgents (s : State) (cells : Coll) (a : Aid) : a ∈ collAgents s cells ↔ ∃ c ∈ cells, a ∈ s.occ c := by
  simp [collAgents, List.mem_flatMap]

/-! ### `select` -/

theorem selGen_none (f : Cid → Bool) (count : Nat) (cells : List Cid) : selGen f none count cells = cells.filter f := by
  induction cells generalizing count with
  | nil => rfl
  | cons c cs ih =>
    simp only [selGen, List.filter_cons]
    split
    · simp at *
    · split
      · rw [ih]
      · rw [ih]

theorem selGen_some (f : Cid → Bool) (l count : Nat) (cells : List Cid) :
    selGen f (some l) count cells = (cells.filter f).take (l - count) := by
  induction cells generalizing count with
  | nil => simp [selGen]
  | cons c cs ih =>
    simp only [selGen, List.filter_cons]
    by_cases hl : l ≤ count
    · have : l - count = 0 := by omega
      simp [hl, this]
    · simp only [hl, decide_false, Bool.false_eq_true, if_false]
      by_cases hf : f c = true
      · simp only [hf, if_true]
        rw [ih]
        have : l - count = (l - (count + 1)) + 1 := by omega
        rw [this, List.take_succ_cons]
      · simp only [hf, Bool.false_eq_true, if_false]
        exact ih count

/-- the filter `select` applies: everything passes when no filter function is given -/
def selFilter (f : Option (Cid → Bool)) : Cid → Bool := f.getD fun _ => true

theorem select_eq (f : Option (Cid → Bool)) (am : AtMost) (cells : Coll) :
    select f am cells =
      match am.limit cells.length with
      | none => cells.filter (selFilter f)
      | some l => (cells.filter (selFilter f)).take l := by
  unfold select selFilter
  split
  · exact (List.filter_eq_self.mpr fun _ _ => rfl).symm
  · cases am.limit cells.length with
    | none => exact selGen_none _ _ _
    | some l => exact selGen_some _ l 0 _

theorem select_sublist (f : Option (Cid → Bool)) (am : AtMost) (cells : Coll) : (select f am cells).Sublist cells := by
  rw [select_eq]
  split
  · exact List.filter_sublist
  · exact (List.take_sublist _ _).trans List.filter_sublist

theorem select_mem_filter (f : Option (Cid → Bool)) (am : AtMost) (cells : Coll) {c : Cid}
    (h : c ∈ select f am cells) : c ∈ cells ∧ selFilter f c = true := by
  rw [select_eq] at h
  split at h
  · exact List.mem_filter.mp h
  · exact List.mem_filter.mp (List.mem_of_mem_take h)

theorem select_length_le (f : Option (Cid → Bool)) (am : AtMost) (cells : Coll) {l : Nat}
    (hl : am.limit cells.length = some l) : (select f am cells).length ≤ l := by
  rw [select_eq, hl]
  simp only [List.length_take]
  omega

/-! ### `random.choice` -/

theorem pick_no_draw {α : Type} {seq : List α} (h : seq ≠ []) : pick seq [] = .err .script := by
  cases seq with
  | nil => exact absurd rfl h
  | cons x l => simp [pick]

theorem pick_cons {α : Type} {seq : List α} (h : seq ≠ []) (d : Nat) (ds : List Nat) :
    ∃ x, seq[d % seq.length]? = some x ∧ pick seq (d :: ds) = .ok x (d % seq.length) 1 := by
  have hlen : 0 < seq.length := List.length_pos_iff.mpr h
  have hlt : d % seq.length < seq.length := Nat.mod_lt _ hlen
  refine ⟨seq[d % seq.length], List.getElem?_eq_getElem hlt, ?_⟩
  cases seq with
  | nil => exact absurd rfl h
  | cons x l =>
    simp only [pick, List.isEmpty_cons, Bool.false_eq_true, if_false]
    rw [List.getElem?_eq_getElem hlt]

theorem pick_ok {α : Type} {seq : List α} {draws : List Nat} {x : α} {pos used : Nat}
    (h : pick seq draws = .ok x pos used) :
    used = 1 ∧ seq[pos]? = some x ∧ x ∈ seq ∧ ∃ d ds, draws = d :: ds ∧ pos = d % seq.length := by
  by_cases hs : seq = []
  · subst hs
    simp [pick] at h
  · cases draws with
    | nil =>
      rw [pick_no_draw hs] at h
      cases h
    | cons d ds =>
      obtain ⟨y, hy, hp⟩ := pick_cons hs d ds
      rw [hp] at h
      cases h
      exact ⟨rfl, hy, List.mem_of_getElem? hy, d, ds, rfl, rfl⟩

theorem pick_err_index {α : Type} {seq : List α} {draws : List Nat} : pick seq draws = .err .index ↔ seq = [] := by
  constructor
  · intro h
    by_cases hs : seq = []
    · exact hs
    · cases draws with
      | nil =>
        rw [pick_no_draw hs] at h
        cases h
      | cons d ds =>
        obtain ⟨y, _, hp⟩ := pick_cons hs d ds
        rw [hp] at h
        cases h
  · rintro rfl
    simp [pick]

theorem choice_ok_mem {seq : List Cid} {draws : List Nat} {c : Cid} (h : choice seq draws = .okCell c) : c ∈ seq := by
  rw [choice_eq_pick] at h
  split at h
  · rename_i hp
    cases h
    exact (pick_ok hp).2.2.1
  · cases h

theorem choice_err_index {seq : List Cid} {draws : List Nat} : choice seq draws = .err .index ↔ seq = [] := by
  rw [choice_eq_pick, ← pick_err_index (draws := draws)]
  split
  · rename_i hp
    rw [hp]
    exact ⟨fun h => (nomatch h), fun h => (nomatch h)⟩
  · rename_i hp
    rw [hp]
    exact ⟨fun h => (by cases h; rfl), fun h => (by cases h; rfl)⟩

theorem choice_cons {seq : List Cid} (h : seq ≠ []) (d : Nat) (ds : List Nat) :
    ∃ c, seq[d % seq.length]? = some c ∧ choice seq (d :: ds) = .okCell c := by
  obtain ⟨c, hc, hp⟩ := pick_cons h d ds
  exact ⟨c, hc, by rw [choice_eq_pick, hp]⟩

end Mesa.Cells
