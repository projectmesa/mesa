import MesaModel.Model.Computed
import MesaModel.Proofs.Signals
/-!
For C17.  The vocabulary of the `C17_*` statements that is not part of the model stands here: admissible functions
(`Pure`, `Ranked`, `ObsKeys`, `DefineOK`), what a function read (`PathR`, `Prefix`), what it would return or that it
would raise if evaluated now (`Den`, `DenFail`), `Stale`, and the admissible operations and states (`DeclsOK`, `OpOK`,
`Good`).  The rest is the invariant `Inv` of the Computed machinery and its preservation: by a read (`getC_spec`, by
induction on the fuel) and by an assignment with its dirty cascade (`notifyLoop_cascade`, `assign_spec`).
-/
namespace Mesa.Computed
open Mesa.Signals

/-! ### state projections -/

@[simp] theorem setComp_same (s : St) (c : Nat) (x : Comp) : (s.setComp c x).comps c = some x := by
  simp [St.setComp]
theorem setComp_ne (s : St) {c c' : Nat} (x : Comp) (h : c' ≠ c) : (s.setComp c x).comps c' = s.comps c' := by
  simp [St.setComp, h]
@[simp] theorem setComp_regs (s : St) (c x) : (s.setComp c x).regs = s.regs := rfl
@[simp] theorem setComp_store (s : St) (c x) : (s.setComp c x).store = s.store := rfl
@[simp] theorem setComp_cur (s : St) (c x) : (s.setComp c x).cur = s.cur := rfl
@[simp] theorem setComp_dead (s : St) (c x) : (s.setComp c x).dead = s.dead := rfl
@[simp] theorem setComp_progs (s : St) (c x) : (s.setComp c x).progs = s.progs := rfl
@[simp] theorem setComp_proc (s : St) (c x) : (s.setComp c x).proc = s.proc := rfl
@[simp] theorem setComp_log (s : St) (c x) : (s.setComp c x).log = s.log := rfl
@[simp] theorem setReg_same (s : St) (o : Nat) (r : Reg Sub) : (s.setReg o r).regs o = r := by simp [St.setReg]
theorem setReg_ne (s : St) {o o' : Nat} (r : Reg Sub) (h : o' ≠ o) : (s.setReg o r).regs o' = s.regs o' := by
  simp [St.setReg, h]
@[simp] theorem setReg_comps (s : St) (o r) : (s.setReg o r).comps = s.comps := rfl
@[simp] theorem setReg_store (s : St) (o r) : (s.setReg o r).store = s.store := rfl
@[simp] theorem setReg_cur (s : St) (o r) : (s.setReg o r).cur = s.cur := rfl
@[simp] theorem setReg_dead (s : St) (o r) : (s.setReg o r).dead = s.dead := rfl
@[simp] theorem setReg_progs (s : St) (o r) : (s.setReg o r).progs = s.progs := rfl
@[simp] theorem setReg_proc (s : St) (o r) : (s.setReg o r).proc = s.proc := rfl
@[simp] theorem setReg_log (s : St) (o r) : (s.setReg o r).log = s.log := rfl

@[simp] theorem setComp_depth (s : St) (c x) : (s.setComp c x).depth = s.depth := rfl
@[simp] theorem setReg_depth (s : St) (o r) : (s.setReg o r).depth = s.depth := rfl
@[simp] theorem leave_comps (sv : Option Nat) (s : St) : (leave sv s).comps = s.comps := rfl
@[simp] theorem leave_regs (sv : Option Nat) (s : St) : (leave sv s).regs = s.regs := rfl
@[simp] theorem leave_store (sv : Option Nat) (s : St) : (leave sv s).store = s.store := rfl
@[simp] theorem leave_cur (sv : Option Nat) (s : St) : (leave sv s).cur = sv := rfl
@[simp] theorem leave_dead (sv : Option Nat) (s : St) : (leave sv s).dead = s.dead := rfl
@[simp] theorem leave_progs (sv : Option Nat) (s : St) : (leave sv s).progs = s.progs := rfl
@[simp] theorem leave_log (sv : Option Nat) (s : St) : (leave sv s).log = s.log := rfl
@[simp] theorem leave_depth (sv : Option Nat) (s : St) : (leave sv s).depth = s.depth - 1 := rfl

@[simp] theorem alive_dirty (s : St) (c : Nat) : s.alive (.dirty c) = true := rfl

/-! ### the registry of an owner whose observables all emit just `change` -/

/-- every declared name is an Observable or a Computable: its signal-type set is `{change}` -/
structure RegOK (r : Reg Sub) : Prop where
  names : r.names.Nodup
  types : ∀ d ∈ r.decls, d.types = [.change]

theorem RegOK.wf {r : Reg Sub} (h : RegOK r) : r.WF :=
  ⟨h.names, fun d hd => by rw [h.types d hd]; simp⟩

theorem RegOK.of_decls {r r' : Reg Sub} (hd : r'.decls = r.decls) (h : RegOK r) : RegOK r' :=
  ⟨by rw [Reg.names_of_decls hd]; exact h.names, by rw [hd]; exact h.types⟩

theorem RegOK.emits {r : Reg Sub} (h : RegOK r) (n : Nat) (t : SigType) :
    r.emits n t ↔ n ∈ r.names ∧ t = .change := by
  unfold Reg.emits Reg.typesOf
  cases hf : r.decls.find? (fun d => d.name == n) with
  | none =>
    have : n ∉ r.names := by
      intro hn
      have := Reg.typesOf_isSome.mpr hn
      simp [Reg.typesOf, hf] at this
    simp [this]
  | some d =>
    have hd := List.mem_of_find?_eq_some hf
    have hn : d.name = n := by simpa using List.find?_some hf
    have : n ∈ r.names := by
      unfold Reg.names; exact List.mem_map.mpr ⟨d, hd, hn⟩
    simp [h.types d hd, this]

/-- `parent.observe(name, All(), handler)` on such an owner: one more entry in the `change` list of `name` -/
theorem observe_one_all {r : Reg Sub} (ok : RegOK r) (n : Nat) (h : Sub) :
    (n ∈ r.names ∧ ∃ r', r.observe (.one n) .all h = .ok r' ∧ r'.decls = r.decls ∧
      ∀ a ty, r'.subs a ty = if a = n ∧ ty = .change then r.subs a ty ++ [h] else r.subs a ty) ∨
    (n ∉ r.names ∧ r.observe (.one n) .all h = .error .value) := by
  by_cases hn : n ∈ r.names
  · have hv : Reg.validObserve r (.one n) .all := ⟨fun a ha => by cases ha; exact hn, fun ty hty => by cases hty⟩
    refine .inl ⟨hn, _, Reg.observe_ok ok.wf hv h, rfl, fun a ty => ?_⟩
    simp only [Reg.updWhere, Sel.matches, decide_eq_true_eq, ok.emits, true_and]
    by_cases ha : a = n
    · subst ha; simp [hn]
    · have : ¬ n = a := fun e => ha e.symm
      simp [ha, this]
  · exact .inr ⟨hn, Reg.observe_err (fun hv => hn (hv.1 n rfl)) h⟩

/-- `parent.unobserve(All(), All(), handler)`: the handler (and dead references) leave every list -/
theorem unobserve_all_all {r : Reg Sub} (ok : RegOK r) (alive : Sub → Bool) (h : Sub) :
    ∃ r', r.unobserve alive .all .all h = .ok r' ∧ r'.decls = r.decls ∧
      ∀ a ty, r'.subs a ty = if a ∈ r.names ∧ ty = .change then Reg.keep alive h (r.subs a ty) else r.subs a ty := by
  refine ⟨_, Reg.unobserve_ok ok.wf (fun ⟨a, ha, _⟩ => by cases ha) alive h, rfl, fun a ty => ?_⟩
  simp only [Reg.updWhere, Reg.touches, Sel.matches, ok.emits, true_and, forall_const]
  by_cases ha : a ∈ r.names <;> simp [ha]


/-! ### the remembered parents (flattened dict of dicts) -/

theorem mem_insertAfterGroup (own : PRef → Nat) (o : Nat) (e x : PRef × V) (ps : List (PRef × V)) :
    x ∈ insertAfterGroup own o e ps ↔ x = e ∨ x ∈ ps := by
  induction ps with
  | nil => simp [insertAfterGroup]
  | cons y rest ih =>
    unfold insertAfterGroup
    split
    · simp only [List.mem_cons]; exact or_left_comm
    · simp only [List.mem_cons, ih]; exact or_left_comm

theorem mem_insertParent (own : PRef → Nat) (r : PRef) (v : V) (ps : List (PRef × V)) (x : PRef × V) :
    x ∈ insertParent own r v ps ↔ x = (r, v) ∨ (x ∈ ps ∧ x.1 ≠ r) := by
  unfold insertParent
  split
  · rename_i hany
    simp only [List.mem_map]
    constructor
    · rintro ⟨e, he, hx⟩
      by_cases her : e.1 = r
      · simp only [her, if_true] at hx; exact Or.inl hx.symm
      · simp only [her, if_false] at hx; subst hx; exact Or.inr ⟨he, her⟩
    · rintro (h | ⟨h, hne⟩)
      · obtain ⟨e, he, her⟩ := List.any_eq_true.mp hany
        simp only [decide_eq_true_eq] at her
        exact ⟨e, he, by simp [her, h]⟩
      · exact ⟨x, h, by simp [hne]⟩
  · rename_i hany
    rw [mem_insertAfterGroup]
    have hnone : ∀ e ∈ ps, e.1 ≠ r := by
      intro e he her
      exact hany (List.any_eq_true.mpr ⟨e, he, by simp [her]⟩)
    constructor
    · rintro (h | h)
      · exact Or.inl h
      · exact Or.inr ⟨h, hnone x h⟩
    · rintro (h | ⟨h, _⟩)
      · exact Or.inl h
      · exact Or.inr h

theorem mem_insertParent_consistent (own : PRef → Nat) (r : PRef) (v : V) (ps : List (PRef × V))
    (hc : ∀ e ∈ ps, e.1 = r → e.2 = v) (x : PRef × V) :
    x ∈ insertParent own r v ps ↔ x = (r, v) ∨ x ∈ ps := by
  rw [mem_insertParent]
  constructor
  · rintro (h | ⟨h, _⟩)
    · exact Or.inl h
    · exact Or.inr h
  · rintro (h | h)
    · exact Or.inl h
    · by_cases hx : x.1 = r
      · left
        have := hc x h hx
        cases x; simp only at hx this; subst hx this; rfl
      · exact Or.inr ⟨h, hx⟩

/-! ### static well-formedness -/

/-- a function that only reads -/
inductive Pure : Tree → Prop
  | ret (v : V) : Pure (.ret v)
  | read (k : Key) (cont : V → Tree) (h : ∀ x, Pure (cont x)) : Pure (.read k cont)
  | readC (c : Nat) (cont : V → Tree) (h : ∀ x, Pure (cont x)) : Pure (.readC c cont)
  | fail : Pure .fail

/-- every Computable the function may read was defined before `b` (has a smaller index) -/
inductive Ranked (b : Nat) : Tree → Prop
  | ret (v : V) : Ranked b (.ret v)
  | read (k : Key) (cont : V → Tree) (h : ∀ x, Ranked b (cont x)) : Ranked b (.read k cont)
  | readC (c : Nat) (cont : V → Tree) (hc : c < b) (h : ∀ x, Ranked b (cont x)) : Ranked b (.readC c cont)
  | write (k : Key) (v : V) (t : Tree) (h : Ranked b t) : Ranked b (.write k v t)
  | fail : Ranked b .fail

/-- the keys a function reads as plain Observables satisfy `ok` (they are not Computable slots) -/
inductive ObsKeys (ok : Key → Prop) : Tree → Prop
  | ret (v : V) : ObsKeys ok (.ret v)
  | read (k : Key) (cont : V → Tree) (hk : ok k) (h : ∀ x, ObsKeys ok (cont x)) : ObsKeys ok (.read k cont)
  | readC (c : Nat) (cont : V → Tree) (h : ∀ x, ObsKeys ok (cont x)) : ObsKeys ok (.readC c cont)
  | write (k : Key) (v : V) (t : Tree) (h : ObsKeys ok t) : ObsKeys ok (.write k v t)
  | fail : ObsKeys ok .fail

/-- `k` is the attribute slot of some defined Computable -/
def St.isSlot (s : St) (k : Key) : Prop := ∃ c x, s.comps c = some x ∧ (x.owner, x.name) = k

/-- the declared kind of the attribute `k` (Observable or Computable) -/
def St.kindAt (s : St) (k : Key) : Option Kind :=
  ((s.regs k.1).decls.find? (fun d => d.name == k.2)).map (·.kind)

structure Stat (s : St) : Prop where
  regs : ∀ o, RegOK (s.regs o)
  pure : ∀ c x, s.comps c = some x → Pure x.tree
  ranked : ∀ c x, s.comps c = some x → Ranked c x.tree
  obsKind : ∀ c x, s.comps c = some x → ObsKeys (fun k => s.kindAt k = some .obs) x.tree
  slotKind : ∀ c x, s.comps c = some x → s.kindAt (x.owner, x.name) = some .comp
  slots : ∀ c c' x x', s.comps c = some x → s.comps c' = some x' → x.owner = x'.owner → x.name = x'.name → c = c'

/-- nothing static changed: handler programs, declarations, and owner / name / function of every Computed -/
structure StaticEq (s s' : St) : Prop where
  progs : s'.progs = s.progs
  decls : ∀ o, (s'.regs o).decls = (s.regs o).decls
  comps : ∀ c, (s'.comps c = none ↔ s.comps c = none) ∧
    ∀ x x', s.comps c = some x → s'.comps c = some x' → x'.owner = x.owner ∧ x'.name = x.name ∧ x'.tree = x.tree

theorem StaticEq.refl (s : St) : StaticEq s s :=
  ⟨rfl, fun _ => rfl, fun c => ⟨Iff.rfl, fun x x' h h' => by rw [h] at h'; cases h'; exact ⟨rfl, rfl, rfl⟩⟩⟩

theorem StaticEq.trans {s s' s'' : St} (a : StaticEq s s') (b : StaticEq s' s'') : StaticEq s s'' := by
  refine ⟨b.progs.trans a.progs, fun o => (b.decls o).trans (a.decls o), fun c => ⟨(b.comps c).1.trans (a.comps c).1, ?_⟩⟩
  intro x x'' h h''
  cases h' : s'.comps c with
  | none => exact absurd ((a.comps c).1.mp h') (by simp [h])
  | some x' =>
    obtain ⟨h1, h2, h3⟩ := (a.comps c).2 x x' h h'
    obtain ⟨g1, g2, g3⟩ := (b.comps c).2 x' x'' h' h''
    exact ⟨g1.trans h1, g2.trans h2, g3.trans h3⟩

theorem StaticEq.of_decls {s s' : St} (hp : s'.progs = s.progs) (hd : ∀ o, (s'.regs o).decls = (s.regs o).decls)
    (hc : s'.comps = s.comps) : StaticEq s s' :=
  ⟨hp, hd, fun c => by rw [hc]; exact (StaticEq.refl s).comps c⟩

theorem StaticEq.same {s s' : St} (hp : s'.progs = s.progs) (hr : s'.regs = s.regs) (hc : s'.comps = s.comps) :
    StaticEq s s' :=
  .of_decls hp (fun o => by rw [hr]) hc

theorem StaticEq.defined {s s' : St} (a : StaticEq s s') {c : Nat} {x : Comp} (h : s.comps c = some x) :
    ∃ x', s'.comps c = some x' ∧ x'.owner = x.owner ∧ x'.name = x.name ∧ x'.tree = x.tree := by
  cases h' : s'.comps c with
  | none => exact absurd ((a.comps c).1.mp h') (by simp [h])
  | some x' => exact ⟨x', rfl, (a.comps c).2 x x' h h'⟩

theorem StaticEq.defined' {s s' : St} (a : StaticEq s s') {c : Nat} {x' : Comp} (h' : s'.comps c = some x') :
    ∃ x, s.comps c = some x ∧ x'.owner = x.owner ∧ x'.name = x.name ∧ x'.tree = x.tree := by
  cases h : s.comps c with
  | none => exact absurd ((a.comps c).1.mpr h) (by simp [h'])
  | some x => exact ⟨x, rfl, (a.comps c).2 x x' h h'⟩

theorem StaticEq.isSlot {s s' : St} (a : StaticEq s s') (k : Key) : s'.isSlot k ↔ s.isSlot k := by
  constructor
  · rintro ⟨c, x', h', hk⟩
    obtain ⟨x, h, h1, h2, _⟩ := a.defined' h'
    exact ⟨c, x, h, by rw [← hk, h1, h2]⟩
  · rintro ⟨c, x, h, hk⟩
    obtain ⟨x', h', h1, h2, _⟩ := a.defined h
    exact ⟨c, x', h', by rw [← hk, h1, h2]⟩

theorem StaticEq.keyOf {s s' : St} (a : StaticEq s s') (p : PRef) : s'.keyOf p = s.keyOf p := by
  cases p with
  | obs k => rfl
  | comp c =>
    simp only [St.keyOf]
    cases h : s.comps c with
    | none => rw [(a.comps c).1.mpr h]
    | some x =>
      obtain ⟨x', h', h1, h2, _⟩ := a.defined h
      simp [h', h1, h2]

theorem ObsKeys.mono {ok ok' : Key → Prop} (h : ∀ k, ok k → ok' k) {t : Tree} (w : ObsKeys ok t) : ObsKeys ok' t := by
  induction w with
  | ret v => exact .ret v
  | read k cont hk _ ih => exact .read k cont (h k hk) ih
  | readC c cont _ ih => exact .readC c cont ih
  | write k v t _ ih => exact .write k v t ih
  | fail => exact .fail

theorem StaticEq.kindAt {s s' : St} (a : StaticEq s s') (k : Key) : s'.kindAt k = s.kindAt k := by
  simp [St.kindAt, a.decls]

theorem Stat.notSlot {s : St} (w : Stat s) {k : Key} (hk : s.kindAt k = some .obs) : ¬ s.isSlot k := by
  rintro ⟨c', x', hx', rfl⟩
  rw [w.slotKind c' x' hx'] at hk; cases hk

theorem Stat.of_staticEq {s s' : St} (w : Stat s) (a : StaticEq s s') : Stat s' := by
  refine ⟨fun o => RegOK.of_decls (a.decls o) (w.regs o), ?_, ?_, ?_, ?_, ?_⟩
  · intro c x' h'
    obtain ⟨x, h, _, _, ht⟩ := a.defined' h'
    rw [ht]; exact w.pure c x h
  · intro c x' h'
    obtain ⟨x, h, _, _, ht⟩ := a.defined' h'
    rw [ht]; exact w.ranked c x h
  · intro c x' h'
    obtain ⟨x, h, _, _, ht⟩ := a.defined' h'
    rw [ht]
    exact (w.obsKind c x h).mono fun k hk => by rw [a.kindAt]; exact hk
  · intro c x' h'
    obtain ⟨x, h, h1, h2, _⟩ := a.defined' h'
    rw [a.kindAt, h1, h2]; exact w.slotKind c x h
  · intro c c' x x' h h' ho hn
    obtain ⟨y, g, g1, g2, _⟩ := a.defined' h
    obtain ⟨y', g', g1', g2', _⟩ := a.defined' h'
    exact w.slots c c' y y' g g' (by rw [← g1, ← g1', ho]) (by rw [← g2, ← g2', hn])


theorem StaticEq.of_setComp {s : St} {c : Nat} {x x' : Comp} (hx : s.comps c = some x) (ho : x'.owner = x.owner)
    (hn : x'.name = x.name) (ht : x'.tree = x.tree) : StaticEq s (s.setComp c x') := by
  refine ⟨rfl, fun _ => rfl, fun q => ?_⟩
  by_cases h : q = c
  · subst h
    refine ⟨by simp [hx], fun y y' hy hy' => ?_⟩
    rw [hx] at hy; cases hy; rw [setComp_same] at hy'; cases hy'
    exact ⟨ho, hn, ht⟩
  · rw [setComp_ne s x' h]
    exact ⟨Iff.rfl, fun y y' hy hy' => by rw [hy] at hy'; cases hy'; exact ⟨rfl, rfl, rfl⟩⟩

theorem StaticEq.of_setReg {s : St} {o : Nat} {r : Reg Sub} (hd : r.decls = (s.regs o).decls) :
    StaticEq s (s.setReg o r) := by
  refine ⟨rfl, fun o' => ?_, fun q => ⟨Iff.rfl, fun y y' hy hy' => ?_⟩⟩
  · by_cases h : o' = o
    · subst h; simp [hd]
    · rw [setReg_ne s r h]
  · simp only [setReg_comps] at hy'
    rw [hy] at hy'; cases hy'; exact ⟨rfl, rfl, rfl⟩

/-- between `s` and `s'` nothing static changed, the Observables and the dead handlers are the same and no clean
    Computed was touched: what every step of a read guarantees -/
structure Keeps (s s' : St) : Prop where
  stat : StaticEq s s'
  store : s'.store = s.store
  dead : s'.dead = s.dead
  keepClean : ∀ q x, s.comps q = some x → x.dirty = false → s'.comps q = some x

theorem Keeps.refl (s : St) : Keeps s s := ⟨.refl s, rfl, rfl, fun _ _ h _ => h⟩

theorem Keeps.trans {s s' s'' : St} (a : Keeps s s') (b : Keeps s' s'') : Keeps s s'' :=
  ⟨a.stat.trans b.stat, b.store.trans a.store, b.dead.trans a.dead,
    fun q x hx hd => b.keepClean q x (a.keepClean q x hx hd) hd⟩

theorem Keeps.same {s s' : St} (hp : s'.progs = s.progs) (hr : s'.regs = s.regs) (hc : s'.comps = s.comps)
    (hs : s'.store = s.store) (hd : s'.dead = s.dead) : Keeps s s' :=
  ⟨.same hp hr hc, hs, hd, fun q x hx _ => by rw [hc]; exact hx⟩

theorem Keeps.setComp {s : St} {c : Nat} {x x' : Comp} (hx : s.comps c = some x) (hd : x.dirty = true)
    (ho : x'.owner = x.owner) (hn : x'.name = x.name) (ht : x'.tree = x.tree) : Keeps s (s.setComp c x') :=
  ⟨.of_setComp hx ho hn ht, rfl, rfl, fun q y hy hq => by
    have : q ≠ c := by rintro rfl; rw [hx] at hy; cases hy; simp [hd] at hq
    rw [setComp_ne _ _ this]; exact hy⟩

/-! ### the dynamic invariant -/

/-- following the function along the listed (reference, value) reads leads to `ret v` -/
inductive PathR : Tree → List (PRef × V) → V → Prop
  | ret (v : V) : PathR (.ret v) [] v
  | read (k : Key) (cont : V → Tree) (x : V) (ps : List (PRef × V)) (v : V) (h : PathR (cont x) ps v) :
      PathR (.read k cont) ((.obs k, x) :: ps) v
  | readC (c : Nat) (cont : V → Tree) (x : V) (ps : List (PRef × V)) (v : V) (h : PathR (cont x) ps v) :
      PathR (.readC c cont) ((.comp c, x) :: ps) v

/-- the listed (reference, value) reads are an initial part of some way through the function -/
inductive Prefix : Tree → List (PRef × V) → Prop
  | nil (t : Tree) : Prefix t []
  | read (k : Key) (cont : V → Tree) (x : V) (ps : List (PRef × V)) (h : Prefix (cont x) ps) :
      Prefix (.read k cont) ((.obs k, x) :: ps)
  | readC (c : Nat) (cont : V → Tree) (x : V) (ps : List (PRef × V)) (h : Prefix (cont x) ps) :
      Prefix (.readC c cont) ((.comp c, x) :: ps)

theorem PathR.prefix {t : Tree} {ps : List (PRef × V)} {v : V} (h : PathR t ps v) : Prefix t ps := by
  induction h with
  | ret v => exact .nil _
  | read k cont x ps v _ ih => exact .read k cont x ps ih
  | readC c cont x ps v _ ih => exact .readC c cont x ps ih

/-- the record of a Computed that is not being evaluated (the clause `Inv.evald`): before its first evaluation, or
    after one that raised, it is dirty and remembers an initial part of a way through its function; otherwise it holds
    the value at the end of the way it remembers -/
@[reducible] def Evald (x : Comp) : Prop :=
  (x.first = true → x.dirty = true ∧ ∃ ps, Prefix x.tree ps ∧ ∀ e, e ∈ ps ↔ e ∈ x.parents) ∧
  (x.first = false → ∃ v ps, x.value = some v ∧ PathR x.tree ps v ∧ ∀ e, e ∈ ps ↔ e ∈ x.parents)

/-- the remembered value `v` of `p` is the present one (`P` = Computeds that were just marked dirty and whose
    own subscribers have not all been notified yet) -/
def Current (P : Nat → Prop) (s : St) : PRef → V → Prop
  | .obs k, v => s.store k = v
  | .comp c, v => ∃ y, s.comps c = some y ∧ y.value = some v ∧ (y.dirty = false ∨ P c)

/-- Computed `c` is subscribed (with its `_set_dirty`) to the `change` signal of what `p` names -/
def Subd (s : St) (c : Nat) (p : PRef) : Prop :=
  ∃ k, s.keyOf p = some k ∧ k.2 ∈ (s.regs k.1).names ∧ Sub.dirty c ∈ (s.regs k.1).subs k.2 .change

/-- user handlers that read Computables while notified (`progs h ≠ []`) are subscribed to plain Observables only -/
def Inv.UserOK (s : St) : Prop :=
  ∀ o n t h, Sub.user h ∈ (s.regs o).subs n t → s.progs h = [] ∨ s.kindAt (o, n) = some .obs

/-- `S` = the Computeds that are being evaluated right now (on the Python call stack); `P` = the Computeds that were
    just marked dirty and whose own subscribers have not all been notified yet (non-empty only inside a dirty cascade) -/
structure Inv (S P : Nat → Prop) (s : St) : Prop where
  stackDirty : ∀ c, S c → ∃ x, s.comps c = some x ∧ x.dirty = true
  curStack : ∀ p, s.cur = some p → S p
  evald : ∀ c x, s.comps c = some x → ¬ S c →
    (x.first = true → x.dirty = true ∧ ∃ ps, Prefix x.tree ps ∧ ∀ e, e ∈ ps ↔ e ∈ x.parents) ∧
    (x.first = false → ∃ v ps, x.value = some v ∧ PathR x.tree ps v ∧ ∀ e, e ∈ ps ↔ e ∈ x.parents)
  parents : ∀ c x, s.comps c = some x → ∀ p v, (p, v) ∈ x.parents →
    (∀ c', p = .comp c' → c' < c) ∧ (∀ k, p = .obs k → ¬ s.isSlot k) ∧ Subd s c p
  subsOf : ∀ o n t c, Sub.dirty c ∈ (s.regs o).subs n t →
    t = .change ∧ ∃ x, s.comps c = some x ∧ ∃ p v, (p, v) ∈ x.parents ∧ s.keyOf p = some (o, n)
  current : ∀ c x, s.comps c = some x → x.dirty = false → ∀ p v, (p, v) ∈ x.parents → Current P s p v
  userOK : Inv.UserOK s

/-- no Computed is pending (`P` of `Inv`): outside a dirty cascade -/
def NoP : Nat → Prop := fun _ => False

theorem Current.of_eq {P : Nat → Prop} {s s' : St} (hst : s'.store = s.store)
    (hc : ∀ c y, s.comps c = some y → ∀ v, y.value = some v → (y.dirty = false ∨ P c) →
      ∃ y', s'.comps c = some y' ∧ y'.value = some v ∧ (y'.dirty = false ∨ P c))
    {p : PRef} {v : V} (h : Current P s p v) : Current P s' p v := by
  cases p with
  | obs k => simpa [Current, hst] using h
  | comp c =>
    obtain ⟨y, hy, hv, hd⟩ := h
    exact hc c y hy v hv hd

/-! ### steps that keep the invariant -/

theorem Inv.dirty_of_stack {S P : Nat → Prop} {s : St} (inv : Inv S P s) {c : Nat} {x : Comp} (hS : S c)
    (hx : s.comps c = some x) : x.dirty = true := by
  obtain ⟨y, hy, hd⟩ := inv.stackDirty c hS
  rw [hx] at hy; cases hy; exact hd

theorem Inv.not_stack_of_clean {S P : Nat → Prop} {s : St} (inv : Inv S P s) {c : Nat} {x : Comp}
    (hx : s.comps c = some x) (hd : x.dirty = false) : ¬ S c := fun hS => by
  have := inv.dirty_of_stack hS hx
  simp [hd] at this

theorem ne_of_clean {s : St} {q c : Nat} {y x : Comp} (hy : s.comps q = some y) (hd : y.dirty = false)
    (hx : s.comps c = some x) (hxd : x.dirty = true) : q ≠ c := by
  rintro rfl
  rw [hx] at hy; cases hy; simp [hxd] at hd

theorem Inv.not_first_of_clean {S P : Nat → Prop} {s : St} (inv : Inv S P s) {c : Nat} {x : Comp} (hS : ¬ S c)
    (hx : s.comps c = some x) (hd : x.dirty = false) : x.first = false := by
  cases hf : x.first with
  | false => rfl
  | true => have := ((inv.evald c x hx hS).1 hf).1; simp [hd] at this

theorem setComp_self {s : St} {c : Nat} {x : Comp} (hx : s.comps c = some x) : s.setComp c x = s := by
  have : (fun c' => if c' = c then some x else s.comps c') = s.comps := by
    funext c'
    split
    · next h => rw [h, hx]
    · rfl
  simp only [St.setComp, this]

theorem Subd.of_staticEq {s s' : St} (se : StaticEq s s') {c : Nat} {p : PRef}
    (hm : ∀ o n, Sub.dirty c ∈ (s.regs o).subs n .change → Sub.dirty c ∈ (s'.regs o).subs n .change)
    (h : Subd s c p) : Subd s' c p := by
  obtain ⟨k, h1, h2, h3⟩ := h
  exact ⟨k, by rw [se.keyOf]; exact h1, by rw [Reg.names_of_decls (se.decls k.1)]; exact h2, hm _ _ h3⟩

/-- a step that changes the dynamic fields of one Computed `c` and the `_set_dirty` entries of `c` in the registries;
    `c` may leave the evaluation stack (`S` ⟶ `S'`).  What is asked of the new record `x'` is the invariant's clauses
    about `c`; every other Computed keeps them. -/
theorem Inv.update {S S' P : Nat → Prop} {s s' : St} (inv : Inv S P s) {c : Nat} {x x' : Comp}
    (hx : s.comps c = some x) (hx' : s'.comps c = some x') (hoth : ∀ q, q ≠ c → s'.comps q = s.comps q)
    (se : StaticEq s s') (hst : s'.store = s.store)
    (hreg : ∀ o n t q, q ≠ c → (Sub.dirty q ∈ (s'.regs o).subs n t ↔ Sub.dirty q ∈ (s.regs o).subs n t))
    (hSS : ∀ q, S' q → S q) (hSk : ∀ q, S q → q ≠ c → S' q) (hcur : ∀ p, s'.cur = some p → S' p)
    (hS : S' c → x'.dirty = true)
    (hev : ¬ S' c → Evald x')
    (hpar : ∀ p v, (p, v) ∈ x'.parents →
      (∀ c', p = .comp c' → c' < c) ∧ (∀ k, p = .obs k → ¬ s.isSlot k) ∧ Subd s' c p)
    (hsub : ∀ o n t, Sub.dirty c ∈ (s'.regs o).subs n t →
      t = .change ∧ ∃ p v, (p, v) ∈ x'.parents ∧ s.keyOf p = some (o, n))
    (hcurr : x'.dirty = false → ∀ p v, (p, v) ∈ x'.parents → Current P s p v)
    (hval : ∀ v, x.value = some v → (x.dirty = false ∨ P c) → x'.value = some v ∧ (x'.dirty = false ∨ P c))
    (hu : Inv.UserOK s') : Inv S' P s' := by
  have hold : ∀ q y, s'.comps q = some y → q ≠ c → s.comps q = some y := fun q y hy hq => by
    rw [← hoth q hq]; exact hy
  have hC : ∀ p v, Current P s p v → Current P s' p v := fun p v h => by
    refine Current.of_eq hst ?_ h
    intro q y hy w hw hd
    by_cases hq : q = c
    · subst hq; rw [hx] at hy; cases hy; exact ⟨x', hx', hval w hw hd⟩
    · exact ⟨y, by rw [hoth q hq]; exact hy, hw, hd⟩
  refine ⟨?_, hcur, ?_, ?_, ?_, ?_, hu⟩
  · intro q hq
    by_cases h : q = c
    · subst h; exact ⟨x', hx', hS hq⟩
    · rw [hoth q h]; exact inv.stackDirty q (hSS q hq)
  · intro q y hy hq
    by_cases h : q = c
    · subst h; rw [hx'] at hy; cases hy; exact hev hq
    · exact inv.evald q y (hold q y hy h) fun hs => hq (hSk q hs h)
  · intro q y hy p v hp
    by_cases h : q = c
    · subst h; rw [hx'] at hy; cases hy
      obtain ⟨h1, h2, h3⟩ := hpar p v hp
      exact ⟨h1, fun k hk hs => h2 k hk ((se.isSlot k).mp hs), h3⟩
    · obtain ⟨h1, h2, h3⟩ := inv.parents q y (hold q y hy h) p v hp
      exact ⟨h1, fun k hk hs => h2 k hk ((se.isSlot k).mp hs),
        h3.of_staticEq se fun o n hm => (hreg o n _ q h).mpr hm⟩
  · intro o n t q hq
    by_cases h : q = c
    · subst h
      obtain ⟨ht, p, v, hp, hk⟩ := hsub o n t hq
      exact ⟨ht, x', hx', p, v, hp, by rw [se.keyOf]; exact hk⟩
    · obtain ⟨ht, y, hy, p, v, hp, hk⟩ := inv.subsOf o n t q ((hreg o n t q h).mp hq)
      exact ⟨ht, y, by rw [hoth q h]; exact hy, p, v, hp, by rw [se.keyOf]; exact hk⟩
  · intro q y hy hd p v hp
    by_cases h : q = c
    · subst h; rw [hx'] at hy; cases hy; exact hC p v (hcurr hd p v hp)
    · exact hC p v (inv.current q y (hold q y hy h) hd p v hp)

/-- the `_set_dirty` entries of every subscriber list are the same -/
def SameSubs (s s' : St) : Prop :=
  (∀ o, (s'.regs o).names = (s.regs o).names) ∧
  ∀ o n t q, Sub.dirty q ∈ (s'.regs o).subs n t ↔ Sub.dirty q ∈ (s.regs o).subs n t

theorem SameSubs.refl (s : St) : SameSubs s s := ⟨fun _ => rfl, fun _ _ _ _ => Iff.rfl⟩
theorem SameSubs.trans {s s' s'' : St} (a : SameSubs s s') (b : SameSubs s' s'') : SameSubs s s'' :=
  ⟨fun o => (b.1 o).trans (a.1 o), fun o n t q => (b.2 o n t q).trans (a.2 o n t q)⟩

/-- no Computed changes: the invariant only looks at the `_set_dirty` entries of the registry -/
theorem Inv.congr_regs {S P : Nat → Prop} {s s' : St} (inv : Inv S P s) (hc : s'.comps = s.comps)
    (hs : s'.store = s.store) (hcur : ∀ p, s'.cur = some p → S p) (hss : SameSubs s s')
    (hu : Inv.UserOK s') : Inv S P s' := by
  have hk : s'.keyOf = s.keyOf := by funext p; cases p <;> simp only [St.keyOf, hc]
  have hsl : ∀ k, s'.isSlot k ↔ s.isSlot k := fun k => by unfold St.isSlot; rw [hc]
  refine ⟨?_, hcur, ?_, ?_, ?_, ?_, hu⟩
  · rw [hc]; exact inv.stackDirty
  · rw [hc]; exact inv.evald
  · intro c x hx p v hp
    rw [hc] at hx
    obtain ⟨h1, h0, k, h2, h3, h4⟩ := inv.parents c x hx p v hp
    exact ⟨h1, fun k' hk' hs => h0 k' hk' ((hsl k').mp hs), k, by rw [hk]; exact h2, by rw [hss.1]; exact h3,
      (hss.2 _ _ _ _).mpr h4⟩
  · intro o n t c h
    obtain ⟨h1, x, h2, p, v, h3, h4⟩ := inv.subsOf o n t c ((hss.2 _ _ _ _).mp h)
    exact ⟨h1, x, by rw [hc]; exact h2, p, v, h3, by rw [hk]; exact h4⟩
  · intro c x hx hd p v hp
    rw [hc] at hx
    refine Current.of_eq hs (fun q y hy w hw hd => ⟨y, by rw [hc]; exact hy, hw, hd⟩) (inv.current c x hx hd p v hp)

theorem Inv.UserOK.congr {s s' : St} (hu : Inv.UserOK s) (hr : s'.regs = s.regs) (hp : s'.progs = s.progs) :
    Inv.UserOK s' := by
  intro o n t h hm
  rw [hr] at hm
  simpa [hp, St.kindAt, hr] using hu o n t h hm

/-- fields the invariant does not look at (`cur` only has to point into the stack) -/
theorem Inv.congr {S P : Nat → Prop} {s s' : St} (inv : Inv S P s) (hc : s'.comps = s.comps) (hr : s'.regs = s.regs)
    (hs : s'.store = s.store) (hp : s'.progs = s.progs) (hcur : ∀ p, s'.cur = some p → S p) : Inv S P s' :=
  inv.congr_regs hc hs hcur ⟨fun o => by rw [hr], fun o n t q => by rw [hr]⟩ (inv.userOK.congr hr hp)

theorem Inv.update_comp {S S' P : Nat → Prop} {s s' : St} (inv : Inv S P s) {c : Nat} {x x' : Comp}
    (hx : s.comps c = some x) (hc : s'.comps = (s.setComp c x').comps) (hr : s'.regs = s.regs)
    (hst : s'.store = s.store) (hpr : s'.progs = s.progs)
    (hx' : x' = { x with dirty := x'.dirty, first := x'.first, value := x'.value, evals := x'.evals })
    (hSS : ∀ q, S' q → S q) (hSk : ∀ q, S q → q ≠ c → S' q) (hcur : ∀ p, s'.cur = some p → S' p)
    (hS : S' c → x'.dirty = true)
    (hev : ¬ S' c → Evald x')
    (hcurr : x'.dirty = false → ∀ p v, (p, v) ∈ x.parents → Current P s p v)
    (hval : ∀ v, x.value = some v → (x.dirty = false ∨ P c) → x'.value = some v ∧ (x'.dirty = false ∨ P c)) :
    Inv S' P s' := by
  have hpp : x'.parents = x.parents := by rw [hx']
  have se : StaticEq s s' :=
    (StaticEq.of_setComp hx (by rw [hx']) (by rw [hx']) (by rw [hx'])).trans (.same hpr hr hc)
  refine inv.update hx (by rw [hc]; exact setComp_same s c x') (fun q hq => by rw [hc]; exact setComp_ne s x' hq) se hst
    (fun o n t q _ => by rw [hr]) hSS hSk hcur hS hev ?_ ?_ (by rw [hpp]; exact hcurr) hval (inv.userOK.congr hr hpr)
  · intro p v hp
    rw [hpp] at hp
    obtain ⟨h1, h2, h3⟩ := inv.parents c x hx p v hp
    exact ⟨h1, h2, h3.of_staticEq se fun o n hm => by rw [hr]; exact hm⟩
  · intro o n t hm
    rw [hr] at hm
    obtain ⟨ht, y, hy, p, v, hp, hk⟩ := inv.subsOf o n t c hm
    rw [hx] at hy; cases hy
    exact ⟨ht, p, v, by rw [hpp]; exact hp, hk⟩

theorem addParent_spec {S P : Nat → Prop} {s s' : St} (w : Stat s) (inv : Inv S P s) {p : Nat} {x : Comp}
    (hS : S p) (hx : s.comps p = some x) {r : PRef} {v : V} {u : V}
    (hrank : ∀ c', r = .comp c' → c' < p) (hobs : ∀ k, r = .obs k → ¬ s.isSlot k)
    (h : addParent s p r v = (s', .ok u)) :
    Inv S P s' ∧ Keeps s s' ∧ s'.cur = s.cur ∧ (∀ q, q ≠ p → s'.comps q = s.comps q) ∧
    s'.comps p = some { x with parents := insertParent s.ownerOf r v x.parents } := by
  unfold addParent at h
  cases hk : s.keyOf r with
  | none => simp [hk] at h
  | some k =>
    obtain ⟨o, n⟩ := k
    simp only [hk, hx] at h
    rcases observe_one_all (w.regs o) n (Sub.dirty p) with ⟨hn, reg, ho, hdecl, hs⟩ | ⟨_, ho⟩
    · simp only [ho] at h
      injection h with h _
      subst h
      have hxd := inv.dirty_of_stack hS hx
      have se : StaticEq s ((s.setReg o reg).setComp p { x with parents := insertParent s.ownerOf r v x.parents }) :=
        (StaticEq.of_setReg hdecl).trans (StaticEq.of_setComp (s := s.setReg o reg) (x := x) hx rfl rfl rfl)
      -- the registry gained exactly one entry: `_set_dirty` of `p` on `change` of `(o, n)`
      have hmem : ∀ o' n' t y, y ∈ ((s.setReg o reg).regs o').subs n' t ↔
          y ∈ (s.regs o').subs n' t ∨ (o' = o ∧ n' = n ∧ t = .change ∧ y = Sub.dirty p) := by
        intro o' n' t y
        by_cases h' : o' = o
        · subst h'
          rw [setReg_same, hs]
          by_cases hc : n' = n ∧ t = .change
          · simp [hc]
          · rw [if_neg hc]
            exact ⟨Or.inl, fun h => h.elim id fun h' => absurd ⟨h'.2.1, h'.2.2.1⟩ hc⟩
        · rw [setReg_ne s reg h']; simp [h']
      have hmp := mem_insertParent s.ownerOf r v x.parents
      refine ⟨inv.update hx (setComp_same _ _ _) (fun q hq => setComp_ne _ _ hq) se rfl ?_ (fun _ h => h)
        (fun _ h _ => h) inv.curStack (fun _ => hxd) (fun h => absurd hS h) ?_ ?_ (fun hd => by simp [hxd] at hd)
        (fun _ hv hd => ⟨hv, hd⟩) ?_,
        ⟨se, rfl, rfl, fun q y hy hd => (setComp_ne _ _ (ne_of_clean hy hd hx hxd)).trans hy⟩, rfl,
        fun q hq => setComp_ne _ _ hq, setComp_same _ _ _⟩
      · intro o' n' t q hq
        show Sub.dirty q ∈ ((s.setReg o reg).regs o').subs n' t ↔ _
        rw [hmem]; simp [hq]
      · intro p0 v0 hp0
        rcases (hmp _).mp hp0 with he | ⟨he, _⟩
        · cases he
          exact ⟨hrank, hobs, (o, n), by rw [se.keyOf]; exact hk,
            by rw [Reg.names_of_decls (se.decls o)]; exact hn, (hmem o n .change _).mpr (Or.inr ⟨rfl, rfl, rfl, rfl⟩)⟩
        · obtain ⟨h1, h2, h3⟩ := inv.parents p x hx p0 v0 he
          exact ⟨h1, h2, h3.of_staticEq se fun o' n' hm => (hmem o' n' .change _).mpr (Or.inl hm)⟩
      · intro o' n' t hm
        rcases (hmem o' n' t _).mp hm with hold | ⟨rfl, rfl, rfl, _⟩
        · obtain ⟨ht, y, hy, p0, v0, hp0, hk0⟩ := inv.subsOf o' n' t p hold
          rw [hx] at hy; cases hy
          refine ⟨ht, p0, ?_⟩
          by_cases hpr : p0 = r
          · exact ⟨v, (hmp _).mpr (Or.inl (by rw [hpr])), hk0⟩
          · exact ⟨v0, (hmp _).mpr (Or.inr ⟨hp0, hpr⟩), hk0⟩
        · exact ⟨rfl, r, v, (hmp _).mpr (Or.inl rfl), hk⟩
      · intro o' n' t h' hm
        rw [se.kindAt]
        refine inv.userOK o' n' t h' ?_
        simpa using (hmem o' n' t _).mp hm
    · simp [ho] at h


theorem Inv.push {S P : Nat → Prop} {s : St} (inv : Inv S P s) {c : Nat} {x : Comp} (hx : s.comps c = some x)
    (hd : x.dirty = true) : Inv (fun q => S q ∨ q = c) P s := by
  refine ⟨?_, fun p hp => Or.inl (inv.curStack p hp), ?_, inv.parents, inv.subsOf, inv.current, inv.userOK⟩
  · rintro q (hq | rfl)
    · exact inv.stackDirty q hq
    · exact ⟨x, hx, hd⟩
  · intro q y hy hq
    exact inv.evald q y hy (fun h => hq (Or.inl h))

theorem mem_keep_dirty (alive : Sub → Bool) (halive : ∀ q, alive (.dirty q) = true) (c q : Nat) (l : List Sub) :
    Sub.dirty q ∈ Reg.keep alive (Sub.dirty c) l ↔ Sub.dirty q ∈ l ∧ q ≠ c := by
  simp [Reg.keep, halive]

/-- the fold in `removeParents` (the loop of `_remove_parents` over the owners `L`) touches only the registries, and
    there only `_set_dirty` of `c` and dead references -/
theorem removeFold_spec (c : Nat) (L : List Nat) (s : St) (hreg : ∀ o, RegOK (s.regs o)) :
    let s' := L.foldl (fun s o =>
      match (s.regs o).unobserve s.alive .all .all (Sub.dirty c) with
      | .ok reg => s.setReg o reg
      | .error _ => s) s
    s'.comps = s.comps ∧ s'.store = s.store ∧ s'.cur = s.cur ∧ s'.dead = s.dead ∧ s'.progs = s.progs ∧
    (∀ o, (s'.regs o).decls = (s.regs o).decls) ∧
    (∀ o n t q, Sub.dirty q ∈ (s'.regs o).subs n t ↔
      Sub.dirty q ∈ (s.regs o).subs n t ∧ ¬ (o ∈ L ∧ n ∈ (s.regs o).names ∧ t = .change ∧ q = c)) ∧
    ∀ o n t h, Sub.user h ∈ (s'.regs o).subs n t → Sub.user h ∈ (s.regs o).subs n t := by
  induction L generalizing s with
  | nil => simp
  | cons o L ih =>
    simp only [List.foldl_cons]
    obtain ⟨reg, ho, hdecl, hs⟩ := unobserve_all_all (hreg o) s.alive (Sub.dirty c)
    rw [ho]
    have hd := (StaticEq.of_setReg (s := s) hdecl).decls
    obtain ⟨h1, h2, h3, h4, h5, h6, h7, h8⟩ := ih (s.setReg o reg) fun o' => .of_decls (hd o') (hreg o')
    refine ⟨h1, h2, h3, h4, h5, fun o' => (h6 o').trans (hd o'), ?_, ?_⟩
    rotate_left
    · intro o' n t h hm
      have hm' := h8 o' n t h hm
      by_cases ho : o' = o
      · subst ho
        rw [setReg_same, hs] at hm'
        split at hm'
        · exact (List.mem_filter.mp hm').1
        · exact hm'
      · rw [setReg_ne s reg ho] at hm'; exact hm'
    · intro o' n t q
      rw [h7 o' n t q]
      by_cases h : o' = o
      · subst h
        rw [setReg_same, hs, Reg.names_of_decls hdecl]
        by_cases hc : n ∈ (s.regs o').names ∧ t = .change
        · rw [if_pos hc, mem_keep_dirty _ (fun _ => rfl)]
          simp only [List.mem_cons, true_or, true_and]
          constructor
          · rintro ⟨⟨hm, hq⟩, _⟩
            exact ⟨hm, fun h => hq h.2.2⟩
          · rintro ⟨hm, hn⟩
            exact ⟨⟨hm, fun hq => hn ⟨hc.1, hc.2, hq⟩⟩, fun h => hn ⟨h.2.1, h.2.2.1, h.2.2.2⟩⟩
        · rw [if_neg hc]
          simp only [List.mem_cons, true_or, true_and]
          constructor
          · rintro ⟨hm, _⟩
            exact ⟨hm, fun h => hc ⟨h.1, h.2.1⟩⟩
          · rintro ⟨hm, _⟩
            exact ⟨hm, fun h => hc ⟨h.2.1, h.2.2.1⟩⟩
      · rw [setReg_ne s reg h]
        have : ¬ o' = o := h
        simp [this]

theorem removeParents_spec {S P : Nat → Prop} {s : St} (w : Stat s) (inv : Inv S P s) {c : Nat} {x : Comp}
    (hS : S c) (hx : s.comps c = some x) :
    Inv S P (removeParents s c) ∧ Keeps s (removeParents s c) ∧ (removeParents s c).cur = s.cur ∧
    (∀ q, q ≠ c → (removeParents s c).comps q = s.comps q) ∧
    (removeParents s c).comps c = some { x with parents := [] } := by
  unfold removeParents
  simp only [hx]
  obtain ⟨h1, h2, h3, h4, h5, h6, h7, h8⟩ := removeFold_spec c (parentOwners s x.parents) s w.regs
  generalize (parentOwners s x.parents).foldl _ s = s1 at h1 h2 h3 h4 h5 h6 h7 h8
  have hx1 : s1.comps c = some x := by rw [h1]; exact hx
  have se : StaticEq s (s1.setComp c { x with parents := [] }) :=
    (StaticEq.of_decls h5 h6 h1).trans (StaticEq.of_setComp hx1 rfl rfl rfl)
  have hoth : ∀ q, q ≠ c → (s1.setComp c { x with parents := [] }).comps q = s.comps q := fun q hq => by
    rw [setComp_ne _ _ hq, h1]
  have hxd := inv.dirty_of_stack hS hx
  refine ⟨inv.update hx (setComp_same _ _ _) hoth se h2 ?_ (fun _ h => h) (fun _ h _ => h)
    (fun p hp => inv.curStack p (by rw [← h3]; exact hp)) (fun _ => hxd) (fun h => absurd hS h)
    (fun p v hp => by simp at hp) ?_ (fun hd => by simp [hxd] at hd) (fun _ hv hd => ⟨hv, hd⟩) ?_,
    ⟨se, h2, h4, fun q y hy hd => (hoth q (ne_of_clean hy hd hx hxd)).trans hy⟩, h3, hoth, setComp_same _ _ _⟩
  · intro o n t q hq
    show Sub.dirty q ∈ (s1.regs o).subs n t ↔ _
    rw [h7 o n t q]
    exact ⟨fun h => h.1, fun h => ⟨h, fun h' => hq h'.2.2.2⟩⟩
  · -- `c` was subscribed only where `_remove_parents` looks
    intro o n t hm
    obtain ⟨hm0, hnot⟩ := (h7 o n t c).mp hm
    obtain ⟨ht, y, hy, p, v, hp, hk⟩ := inv.subsOf o n t c hm0
    rw [hx] at hy; cases hy
    obtain ⟨_, _, k, hk', hnames, _⟩ := inv.parents c x hx p v hp
    rw [hk] at hk'; cases hk'
    refine (hnot ⟨?_, hnames, ht, rfl⟩).elim
    unfold parentOwners
    rw [List.mem_eraseDups]
    exact List.mem_map.mpr ⟨(p, v), hp, by simp [St.ownerOf, hk]⟩
  · intro o' n' t' h' hm
    have := inv.userOK o' n' t' h' (h8 o' n' t' h' hm)
    rwa [se.kindAt, show (s1.setComp c { x with parents := [] }).progs = s.progs from h5]


/-- one owner's registry is replaced by one with the same declarations and the same `_set_dirty` entries -/
theorem SameSubs.setReg {s : St} {o : Nat} {r' : Reg Sub} (hdecl : r'.decls = (s.regs o).decls)
    (hdirty : ∀ n t q, Sub.dirty q ∈ r'.subs n t ↔ Sub.dirty q ∈ (s.regs o).subs n t) : SameSubs s (s.setReg o r') := by
  refine ⟨fun o' => Reg.names_of_decls ((StaticEq.of_setReg hdecl).decls o'), fun o' n t q => ?_⟩
  by_cases ho : o' = o
  · subst ho; rw [setReg_same]; exact hdirty n t q
  · rw [setReg_ne _ _ ho]

/-- the invariant survives replacing one owner's registry as in `SameSubs.setReg`, if its user handlers were there
    before, or are passive, or are subscribed to an Observable -/
theorem Inv.setReg {S P : Nat → Prop} {s : St} (inv : Inv S P s) {o : Nat} {r' : Reg Sub}
    (hdecl : r'.decls = (s.regs o).decls)
    (hdirty : ∀ n t q, Sub.dirty q ∈ r'.subs n t ↔ Sub.dirty q ∈ (s.regs o).subs n t)
    (huser : ∀ n t h, Sub.user h ∈ r'.subs n t →
      Sub.user h ∈ (s.regs o).subs n t ∨ s.progs h = [] ∨ s.kindAt (o, n) = some .obs) :
    Inv S P (s.setReg o r') := by
  refine inv.congr_regs rfl rfl inv.curStack (.setReg hdecl hdirty) fun o' n t h hm => ?_
  rw [(StaticEq.of_setReg hdecl).kindAt]
  by_cases ho : o' = o
  · subst ho
    rw [setReg_same] at hm
    exact (huser n t h hm).elim (inv.userOK _ n t h) id
  · rw [setReg_ne _ _ ho] at hm; exact inv.userOK o' n t h hm

/-- pruning the dead references of one list: no `_set_dirty` entry is dead -/
theorem prune_dirty (s : St) (k : Key) (n : Nat) (t : SigType) (q : Nat) :
    Sub.dirty q ∈ ((s.regs k.1).setSubs k.2 .change (((s.regs k.1).subs k.2 .change).filter s.alive)).subs n t ↔
      Sub.dirty q ∈ (s.regs k.1).subs n t := by
  simp only [Reg.setSubs]
  by_cases hnt : n = k.2 ∧ t = .change
  · obtain ⟨rfl, rfl⟩ := hnt
    simp [List.mem_filter]
  · simp [hnt]

theorem Inv.prune {S P : Nat → Prop} {s : St} (inv : Inv S P s) (k : Key) :
    Inv S P (s.setReg k.1 ((s.regs k.1).setSubs k.2 .change (((s.regs k.1).subs k.2 .change).filter s.alive))) := by
  refine inv.setReg rfl (prune_dirty s k) fun n t h hm => Or.inl ?_
  simp only [Reg.setSubs] at hm
  split at hm
  · next hc => obtain ⟨rfl, rfl⟩ := hc; exact (List.mem_filter.mp hm).1
  · exact hm

/-! ### notifications that change nothing -/

theorem mem_filter_isDep_dirty (c : Nat) (l : List Sub) : Sub.dirty c ∈ l.filter Sub.isDep ↔ Sub.dirty c ∈ l := by
  simp [List.mem_filter, Sub.isDep]

theorem mem_filter_isDep_user (h : Nat) (l : List Sub) : Sub.user h ∉ l.filter Sub.isDep := by
  simp [List.mem_filter, Sub.isDep]

theorem mem_filter_notDep_user (h : Nat) (l : List Sub) :
    Sub.user h ∈ l.filter (fun x => !x.isDep) ↔ Sub.user h ∈ l := by
  simp [List.mem_filter, Sub.isDep]

theorem mem_filter_notDep_dirty (c : Nat) (l : List Sub) : Sub.dirty c ∉ l.filter (fun x => !x.isDep) := by
  simp [List.mem_filter, Sub.isDep]

/-- a notification none of whose `_set_dirty` subscribers is clean and all of whose user handlers are passive: the user
    handlers are called (they record), nothing else happens -/
theorem notifyLoop_quiet (rec : Rec) (k : Key) (old new : V) (xs : List Sub) :
    ∀ (s : St), (∀ h, Sub.user h ∈ xs → s.progs h = []) →
    (∀ c, Sub.dirty c ∈ xs → ∃ x, s.comps c = some x ∧ x.dirty = true) →
    ∃ lg, notifyLoop rec k old new xs s = some ({ s with log := s.log ++ lg }, .ok ()) := by
  induction xs with
  | nil => intro s _ _; exact ⟨[], by simp [notifyLoop]⟩
  | cons x xs ih =>
    intro s hp hq
    unfold notifyLoop
    by_cases hg : (!s.alive x || !(((s.regs k.1).subs k.2 .change).contains x)) = true
    · rw [if_pos hg]
      exact ih s (fun h hh => hp h (List.mem_cons_of_mem _ hh)) (fun c' hc' => hq c' (List.mem_cons_of_mem _ hc'))
    · rw [if_neg hg]
      cases x with
      | dirty c =>
        obtain ⟨y, hy, hd⟩ := hq c List.mem_cons_self
        simp only [hy, hd, if_true]
        exact ih s (fun h hh => hp h (List.mem_cons_of_mem _ hh)) (fun c' hc' => hq c' (List.mem_cons_of_mem _ hc'))
      | user h =>
        simp only [hp h List.mem_cons_self, readAll]
        obtain ⟨lg, hh⟩ := ih { s with log := s.log ++ [⟨h, k.1, k.2, old, new⟩] }
          (fun h' hh' => hp h' (List.mem_cons_of_mem _ hh')) (fun c' hc' => hq c' (List.mem_cons_of_mem _ hc'))
        refine ⟨⟨h, k.1, k.2, old, new⟩ :: lg, ?_⟩
        rw [hh]
        simp

/-- `notifyLoop_quiet` for the `change` signal of a Computable (a slot): its user handlers are passive (`Inv.userOK`) -/
theorem notifyT_quiet {S P : Nat → Prop} (rec : Rec) (k : Key) (old new : V) {s : St}
    (inv : Inv S P s) (hk : s.kindAt k = some .comp)
    (hq : ∀ c, Sub.dirty c ∈ (s.regs k.1).subs k.2 .change → ∃ x, s.comps c = some x ∧ x.dirty = true) :
    ∃ s', notifyT rec k old new s = some (s', .ok none) ∧ Inv S P s' ∧ StaticEq s s' ∧ s'.comps = s.comps ∧
      s'.store = s.store ∧ s'.cur = s.cur ∧ s'.dead = s.dead := by
  have hpass : ∀ h, Sub.user h ∈ (s.regs k.1).subs k.2 .change → s.progs h = [] := by
    intro h hm
    rcases inv.userOK k.1 k.2 .change h hm with hp | hp
    · exact hp
    · rw [hk] at hp; cases hp
  obtain ⟨lg1, h1⟩ := notifyLoop_quiet rec k old new (((s.regs k.1).subs k.2 .change).filter Sub.isDep) s
    (fun h hh => absurd hh (mem_filter_isDep_user h _))
    (fun c hc => hq c ((mem_filter_isDep_dirty c _).mp hc))
  obtain ⟨lg2, h2⟩ := notifyLoop_quiet rec k old new (((s.regs k.1).subs k.2 .change).filter fun x => !x.isDep)
    { s with log := s.log ++ lg1 }
    (fun h hh => hpass h ((mem_filter_notDep_user h _).mp hh))
    (fun c hc => absurd hc (mem_filter_notDep_dirty c _))
  unfold notifyT
  simp only [h1, h2]
  have invl : Inv S P { s with log := s.log ++ lg1 ++ lg2 } := inv.congr rfl rfl rfl rfl inv.curStack
  have sel : StaticEq s { s with log := s.log ++ lg1 ++ lg2 } := .same rfl rfl rfl
  exact ⟨_, rfl, invl.prune k, sel.trans (StaticEq.of_setReg rfl), rfl, rfl, rfl, rfl⟩


theorem kindAt_names {s : St} {k : Key} {kd : Kind} (h : s.kindAt k = some kd) : k.2 ∈ (s.regs k.1).names := by
  unfold St.kindAt at h
  cases hf : (s.regs k.1).decls.find? (fun d => d.name == k.2) with
  | none => simp [hf] at h
  | some d =>
    have hd := List.mem_of_find?_eq_some hf
    have hn : d.name = k.2 := by simpa using List.find?_some hf
    unfold Reg.names; exact List.mem_map.mpr ⟨d, hd, hn⟩

theorem addParent_not_err {s : St} (w : Stat s) {p : Nat} {x : Comp} (hx : s.comps p = some x) {r : PRef} {v : V} {k : Key}
    (hk : s.keyOf r = some k) (hn : k.2 ∈ (s.regs k.1).names) {s' : St} {e : Err}
    (h : addParent s p r v = (s', .err e)) : False := by
  unfold addParent at h
  obtain ⟨o, n⟩ := k
  simp only [hk, hx] at h
  rcases observe_one_all (w.regs o) n (Sub.dirty p) with ⟨_, reg, ho, _⟩ | ⟨hnn, _⟩
  · simp only [ho] at h; injection h with _ h; cases h
  · exact hnn hn

/-! ### what a function returns "if evaluated right now" -/

/-- the denotation of a pure function in state `s`: Observables are looked up in the store, Computables are
    evaluated by running *their* function (not by looking at any cache) -/
inductive Den (s : St) : Tree → V → Prop
  | ret (v : V) : Den s (.ret v) v
  | read (k : Key) (cont : V → Tree) (v : V) (h : Den s (cont (s.store k)) v) : Den s (.read k cont) v
  | readC (c : Nat) (cont : V → Tree) (x : Comp) (a v : V) (hx : s.comps c = some x) (ha : Den s x.tree a)
      (h : Den s (cont a) v) : Den s (.readC c cont) v

/-- "the function would raise if evaluated right now": it arrives at a `fail` node, or at the read of a
    Computable whose function would raise -/
inductive DenFail (s : St) : Tree → Prop
  | fail : DenFail s .fail
  | read (k : Key) (cont : V → Tree) (h : DenFail s (cont (s.store k))) : DenFail s (.read k cont)
  | readCFail (c : Nat) (cont : V → Tree) (x : Comp) (hx : s.comps c = some x) (h : DenFail s x.tree) :
      DenFail s (.readC c cont)
  | readC (c : Nat) (cont : V → Tree) (x : Comp) (a : V) (hx : s.comps c = some x) (ha : Den s x.tree a)
      (h : DenFail s (cont a)) : DenFail s (.readC c cont)
  | readCUndef (c : Nat) (cont : V → Tree) (hx : s.comps c = none) : DenFail s (.readC c cont)

/-- both only look at the Observables' values and at the functions -/
theorem Den.congr {s s' : St} (hst : s'.store = s.store) (hse : StaticEq s s') {t : Tree} {v : V} (h : Den s t v) :
    Den s' t v := by
  induction h with
  | ret v => exact .ret v
  | read k cont v _ ih => refine .read k cont v ?_; rw [hst]; exact ih
  | readC c cont x a v hx _ _ iha ih =>
    obtain ⟨x', hx', _, _, ht⟩ := hse.defined hx
    exact .readC c cont x' a v hx' (by rw [ht]; exact iha) ih

theorem DenFail.congr {s s' : St} (hst : s'.store = s.store) (hse : StaticEq s s') {t : Tree} (h : DenFail s t) :
    DenFail s' t := by
  induction h with
  | fail => exact .fail
  | read k cont _ ih => refine .read k cont ?_; rw [hst]; exact ih
  | readCFail c cont x hx _ ih =>
    obtain ⟨x', hx', _, _, ht⟩ := hse.defined hx
    exact .readCFail c cont x' hx' (by rw [ht]; exact ih)
  | readC c cont x a hx ha _ ih =>
    obtain ⟨x', hx', _, _, ht⟩ := hse.defined hx
    exact .readC c cont x' a hx' (by rw [ht]; exact ha.congr hst hse) ih
  | readCUndef c cont hx => exact .readCUndef c cont ((hse.comps c).1.mpr hx)

theorem pathR_den {s : St} {t : Tree} {ps : List (PRef × V)} {v : V} (hp : PathR t ps v)
    (hobs : ∀ k x, (PRef.obs k, x) ∈ ps → s.store k = x)
    (hcomp : ∀ c x, (PRef.comp c, x) ∈ ps → ∃ y, s.comps c = some y ∧ Den s y.tree x) : Den s t v := by
  induction hp with
  | ret v => exact .ret v
  | read k cont x ps v _ ih =>
    have hx : s.store k = x := hobs k x List.mem_cons_self
    subst hx
    exact .read k cont v (ih (fun k' x' h' => hobs k' x' (List.mem_cons_of_mem _ h')) (fun c x' h' => hcomp c x' (List.mem_cons_of_mem _ h')))
  | readC c cont x ps v _ ih =>
    obtain ⟨y, hy, hd⟩ := hcomp c x List.mem_cons_self
    exact .readC c cont y x v hy hd
      (ih (fun k' x' h' => hobs k' x' (List.mem_cons_of_mem _ h')) (fun c' x' h' => hcomp c' x' (List.mem_cons_of_mem _ h')))

/-- **a clean Computed holds the value its function would return now** (also while other Computeds are evaluating) -/
theorem clean_den {S : Nat → Prop} {s : St} (inv : Inv S NoP s) :
    ∀ c x, s.comps c = some x → x.dirty = false → ∃ v, x.value = some v ∧ Den s x.tree v := by
  intro c
  induction c using Nat.strongRecOn with
  | _ c ih =>
    intro x hx hd
    have hS := inv.not_stack_of_clean hx hd
    obtain ⟨v, ps, hv, hp, hmem⟩ := (inv.evald c x hx hS).2 (inv.not_first_of_clean hS hx hd)
    refine ⟨v, hv, pathR_den hp ?_ ?_⟩
    · intro k a ha
      exact inv.current c x hx hd (.obs k) a ((hmem _).mp ha)
    · intro c' a ha
      have hpar := (hmem _).mp ha
      obtain ⟨y, hy, hyv, hyd⟩ := inv.current c x hx hd (.comp c') a hpar
      have hlt : c' < c := (inv.parents c x hx (.comp c') a hpar).1 c' rfl
      rcases hyd with hyd | hyd
      · obtain ⟨v', hv', hden⟩ := ih c' hlt y hy hyd
        rw [hyv] at hv'; cases hv'
        exact ⟨y, hy, hden⟩
      · exact absurd hyd (by simp [NoP])

/-! ### why a function body ran: stale reads -/

/-- the remembered value differs from the present one (for a Computable: from its up-to-date value, or its
    function raises now) -/
def Stale (s : St) : PRef × V → Prop
  | (.obs k, v) => s.store k ≠ v
  | (.comp c, v) => ∃ y, s.comps c = some y ∧ ((y.dirty = false ∧ y.value ≠ some v) ∨ DenFail s y.tree)

theorem Stale.keep {s s' : St} (k : Keeps s s') {e : PRef × V} (h : Stale s e) : Stale s' e := by
  obtain ⟨p, v⟩ := e
  cases p with
  | obs k' => simpa [Stale, k.store] using h
  | comp c =>
    obtain ⟨y, hy, hd⟩ := h
    rcases hd with ⟨hd, hv⟩ | hf
    · exact ⟨y, k.keepClean c y hy hd, Or.inl ⟨hd, hv⟩⟩
    · obtain ⟨y', hy', _, _, ht⟩ := k.stat.defined hy
      exact ⟨y', hy', Or.inr (by rw [ht]; exact hf.congr k.store k.stat)⟩

/-- why the function body of a Computed ran (or did not) between two states: at most once, and then only on
    the first evaluation (also: the first one after an evaluation that raised) or because something it remembered
    differs from the present value -/
def Justified (x : Comp) (s' : St) (y : Comp) : Prop :=
  y.evals = x.evals ∨ (y.evals = x.evals + 1 ∧ x.dirty = true ∧ (x.first = true ∨ ∃ e ∈ x.parents, Stale s' e))

/-- what a read did to a Computed other than the one on top of the evaluation stack: its function did not run and —
    unless it was re-validated (no longer dirty) — nothing at all happened to it; or its function ran, and then it was
    dirty and either never ran / raised the last time it ran, or something it remembered differs from the present value -/
def JustAll (x : Comp) (s' : St) (y : Comp) : Prop :=
  (y.evals = x.evals ∧ (y.dirty = true → y = x)) ∨
  (x.evals < y.evals ∧ x.dirty = true ∧ (x.first = true ∨ ∃ e ∈ x.parents, Stale s' e))

theorem JustAll.refl (x : Comp) (s : St) : JustAll x s x := Or.inl ⟨rfl, fun _ => rfl⟩

theorem JustAll.trans {x y z : Comp} {s1 s2 : St} (k : Keeps s1 s2) (h1 : JustAll x s1 y) (h2 : JustAll y s2 z) :
    JustAll x s2 z := by
  rcases h1 with ⟨e1, d1⟩ | ⟨l1, xd, r1⟩
  · rcases h2 with ⟨e2, d2⟩ | ⟨l2, yd, r2⟩
    · exact Or.inl ⟨e2.trans e1, fun hz => by have h := d2 hz; subst h; exact d1 hz⟩
    · have h := d1 yd; subst h; exact Or.inr ⟨l2, yd, r2⟩
  · have hle : y.evals ≤ z.evals := by
      rcases h2 with ⟨e2, _⟩ | ⟨l2, _, _⟩ <;> omega
    refine Or.inr ⟨by omega, xd, ?_⟩
    rcases r1 with r1 | ⟨e, he, hs⟩
    · exact Or.inl r1
    · exact Or.inr ⟨e, he, hs.keep k⟩

/-- what a read did to the Computeds whose index is in `P` (a set of indices here, not the pending set of `Inv`) -/
def Below (P : Nat → Prop) (s s' : St) : Prop :=
  ∀ q x, P q → s.comps q = some x → ∃ y, s'.comps q = some y ∧ JustAll x s' y

theorem Below.refl (P : Nat → Prop) (s : St) : Below P s s := fun _ x _ hx => ⟨x, hx, JustAll.refl x s⟩

theorem Below.of_eq {P : Nat → Prop} {s s' : St} (h : ∀ q, P q → s'.comps q = s.comps q) : Below P s s' :=
  fun q x hq hx => ⟨x, by rw [h q hq]; exact hx, JustAll.refl x s'⟩

theorem Below.trans {P : Nat → Prop} {s s1 s2 : St} (k : Keeps s1 s2) (b1 : Below P s s1) (b2 : Below P s1 s2) :
    Below P s s2 := by
  intro q x hq hx
  obtain ⟨y, hy, j1⟩ := b1 q x hq hx
  obtain ⟨z, hz, j2⟩ := b2 q y hq hy
  exact ⟨z, hz, j1.trans k j2⟩

theorem Below.widen {c' c : Nat} {s s' : St} (b : Below (· ≤ c') s s')
    (hab : ∀ q, c' < q → q < c → s'.comps q = s.comps q) : Below (· < c) s s' := by
  intro q x hq hx
  by_cases h : q ≤ c'
  · exact b q x h hx
  · exact ⟨x, by rw [hab q (by omega) hq]; exact hx, JustAll.refl x s'⟩

theorem Below.step_eq {P : Nat → Prop} {s s1 s2 : St} (b : Below P s s1) (k : Keeps s1 s2)
    (hc : ∀ q, P q → s2.comps q = s1.comps q) : Below P s s2 :=
  Below.trans k b (Below.of_eq hc)

theorem Below.snoc {c : Nat} {s s' : St} (b : Below (· < c) s s')
    (hc : ∀ x, s.comps c = some x → ∃ y, s'.comps c = some y ∧ JustAll x s' y) : Below (· ≤ c) s s' := by
  intro q x hq hx
  by_cases h : q < c
  · exact b q x h hx
  · have : q = c := by omega
    subst this; exact hc x hx

/-! ### reading a Computable: post-conditions and the induction hypothesis -/

/-- what `Computable.__get__` of `c` guarantees when it returns `v` -/
structure PostGet (S : Nat → Prop) (c : Nat) (s s' : St) (v : V) : Prop where
  inv : Inv S NoP s'
  stat : StaticEq s s'
  store : s'.store = s.store
  cur : s'.cur = s.cur
  dead : s'.dead = s.dead
  clean : ∃ y, s'.comps c = some y ∧ y.dirty = false ∧ y.value = some v ∧
    ∀ x, s.comps c = some x → Justified x s' y
  keepClean : ∀ q x, s.comps q = some x → x.dirty = false → s'.comps q = some x
  above : ∀ q, c < q → s.cur ≠ some q → s'.comps q = s.comps q
  below : Below (· ≤ c) s s'
  curPar : ∀ p x, s.cur = some p → s.comps p = some x →
    ∃ own, s'.comps p = some { x with parents := insertParent own (.comp c) v x.parents }

/-- what `Computable.__get__` of `c` guarantees when it raises: the function of `c` would raise if evaluated now, `c` is
    marked to run it again on the next read (`first`, `dirty`) and its function ran at most once, for a reason
    (`Justified`); nothing else happened to the Computeds above `c` (the evaluating one registered nothing).
    (Or `c` is not defined: `AttributeError`, nothing happened at all.) -/
structure PostErr (S : Nat → Prop) (c : Nat) (s s' : St) : Prop where
  inv : Inv S NoP s'
  stat : StaticEq s s'
  store : s'.store = s.store
  cur : s'.cur = s.cur
  dead : s'.dead = s.dead
  failed : s.comps c = none ∨ ∃ y, s'.comps c = some y ∧ y.first = true ∧ y.dirty = true ∧ DenFail s' y.tree ∧
    ∀ x, s.comps c = some x → Justified x s' y
  keepClean : ∀ q x, s.comps q = some x → x.dirty = false → s'.comps q = some x
  above : ∀ q, c < q → s'.comps q = s.comps q
  below : Below (· ≤ c) s s'

/-- what the proofs about one level of `exec` assume of the level below (`rec`): a read of a Computable satisfies
    `PostGet` / `PostErr`; a notification, unless out of fuel, is `notifyT` over some `rec'` — no more is needed,
    because the one notification a read triggers is quiet for every `rec'` (`notifyT_quiet`) -/
structure IH (rec : Rec) : Prop where
  get : ∀ (c : Nat) (s s' : St) (r : R) (S : Nat → Prop), Stat s → Inv S NoP s → ¬ S c → (∀ q, S q → c < q) →
    rec (.readC c) s = some (s', r) →
    (∀ v, r = .ok v → PostGet S c s s' v) ∧ (∀ e, r = .err e → PostErr S c s s')
  notify : ∀ k o n s, rec (.notify k o n) s = none ∨ ∃ rec', rec (.notify k o n) s = notifyT rec' k o n s

theorem post_common {S : Nat → Prop} {c : Nat} {s s' : St} {r : R}
    (h : (∀ v, r = .ok v → PostGet S c s s' v) ∧ (∀ e, r = .err e → PostErr S c s s')) :
    Inv S NoP s' ∧ Keeps s s' ∧ s'.cur = s.cur ∧
    (∀ q, c < q → s.cur ≠ some q → s'.comps q = s.comps q) ∧ Below (· ≤ c) s s' := by
  cases r with
  | ok v => have p := h.1 v rfl; exact ⟨p.inv, ⟨p.stat, p.store, p.dead, p.keepClean⟩, p.cur, p.above, p.below⟩
  | err e =>
    have p := h.2 e rfl
    exact ⟨p.inv, ⟨p.stat, p.store, p.dead, p.keepClean⟩, p.cur, fun q hq _ => p.above q hq, p.below⟩

theorem Current.keep {s s' : St} (k : Keeps s s') {p : PRef} {v : V} (h : Current NoP s p v) :
    Current NoP s' p v := by
  refine Current.of_eq k.store ?_ h
  intro c y hy w hw hd
  rcases hd with hd | hd
  · exact ⟨y, k.keepClean c y hy hd, hw, Or.inl hd⟩
  · exact absurd hd (by simp [NoP])

/-! ### reading a Computable: the function body -/

/-- what `evalTree_spec` says of a run of the function (or of the rest of it) `t` from `s`, for the evaluating Computed
    `c` with record `x`, after the reads `ps0` -/
def TreePost (S : Nat → Prop) (c : Nat) (t : Tree) (s s' : St) (r : R) (x : Comp) (ps0 : List (PRef × V)) : Prop :=
  ∃ ps x', Inv (fun q => S q ∨ q = c) NoP s' ∧ StaticEq s s' ∧
    s'.store = s.store ∧ s'.cur = s.cur ∧ s'.dead = s.dead ∧
    (∀ q y, s.comps q = some y → y.dirty = false → s'.comps q = some y) ∧
    (∀ q, c < q → s'.comps q = s.comps q) ∧ Below (· < c) s s' ∧
    s'.comps c = some x' ∧ x' = { x with parents := x'.parents } ∧
    (∀ e, e ∈ ps0 ++ ps ↔ e ∈ x'.parents) ∧
    (∀ v, r = .ok v → PathR t ps v ∧ ∀ e ∈ ps0 ++ ps, Current NoP s' e.1 e.2) ∧
    (∀ e, r = .err e → Prefix t ps ∧ DenFail s' t)

/-- the run ends without another read being recorded -/
theorem TreePost.nil {S : Nat → Prop} {c : Nat} {t : Tree} {s s' : St} {r : R} {x : Comp} {ps0 : List (PRef × V)}
    (inv' : Inv (fun q => S q ∨ q = c) NoP s') (k : Keeps s s') (hcur : s'.cur = s.cur)
    (hab : ∀ q, c < q → s'.comps q = s.comps q) (hbl : Below (· < c) s s') (hx' : s'.comps c = some x)
    (hps : ∀ e, e ∈ ps0 ↔ e ∈ x.parents)
    (hok : ∀ v, r = .ok v → PathR t [] v ∧ ∀ e ∈ ps0, Current NoP s' e.1 e.2)
    (herr : ∀ e, r = .err e → DenFail s' t) : TreePost S c t s s' r x ps0 :=
  ⟨[], x, inv', k.stat, k.store, hcur, k.dead, k.keepClean, hab, hbl, hx', rfl, by simpa using hps,
    fun v hv => by simpa using hok v hv, fun e he => ⟨.nil _, herr e he⟩⟩

/-- one read `(p, v)` is recorded on the way from `s` to `s1`, then the rest `t1` of the function runs -/
theorem TreePost.cons {S : Nat → Prop} {c : Nat} {t t1 : Tree} {s s1 s' : St} {r : R} {x : Comp}
    {ps0 : List (PRef × V)} {p : PRef} {v : V} {own : PRef → Nat}
    (k1 : Keeps s s1) (hcur1 : s1.cur = s.cur) (hab1 : ∀ q, c < q → s1.comps q = s.comps q)
    (hbl1 : Below (· < c) s s1)
    (post : TreePost S c t1 s1 s' r { x with parents := insertParent own p v x.parents } (ps0 ++ [(p, v)]))
    (hP : ∀ ps w, PathR t1 ps w → PathR t ((p, v) :: ps) w) (hX : ∀ ps, Prefix t1 ps → Prefix t ((p, v) :: ps))
    (hD : Keeps s1 s' → DenFail s' t1 → DenFail s' t) : TreePost S c t s s' r x ps0 := by
  obtain ⟨ps, x', inv', se', hst', hcur', hdead', hk', hab', hbl', hc', hx', hmem', hokp, herrp⟩ := post
  have k' : Keeps s1 s' := ⟨se', hst', hdead', hk'⟩
  have kk := k1.trans k'
  refine ⟨(p, v) :: ps, x', inv', kk.stat, kk.store, hcur'.trans hcur1, kk.dead, kk.keepClean,
    fun q hq => (hab' q hq).trans (hab1 q hq), Below.trans k' hbl1 hbl', hc', by rw [hx'], ?_, fun w hw => ?_,
    fun e he => ?_⟩
  · intro e; rw [← hmem' e]; simp [List.append_assoc]
  · obtain ⟨hp, hcurr'⟩ := hokp w hw
    exact ⟨hP ps w hp, fun e he => hcurr' e (by simpa [List.append_assoc] using he)⟩
  · obtain ⟨hpre, hdf⟩ := herrp e he
    exact ⟨hX ps hpre, hD k' hdf⟩

/-- the function body of Computed `c` (a pure tree), evaluated with `CURRENT_COMPUTED = c`: whether it returns or
    raises, `ps` = what it read on the way -/
theorem evalTree_spec {rec : Rec} (ih : IH rec) (c : Nat) (S : Nat → Prop) (hSc : ¬ S c) (hSlt : ∀ q, S q → c < q) :
    ∀ (t : Tree), Pure t → ∀ (s s' : St) (r : R) (x : Comp) (ps0 : List (PRef × V)),
    Ranked c t → ObsKeys (fun k => s.kindAt k = some .obs) t → Stat s → Inv (fun q => S q ∨ q = c) NoP s →
    s.cur = some c → s.comps c = some x → (∀ e, e ∈ ps0 ↔ e ∈ x.parents) →
    (∀ e ∈ ps0, Current NoP s e.1 e.2) → evalTree rec t s = some (s', r) →
    ∃ ps x', Inv (fun q => S q ∨ q = c) NoP s' ∧ StaticEq s s' ∧
      s'.store = s.store ∧ s'.cur = s.cur ∧ s'.dead = s.dead ∧
      (∀ q y, s.comps q = some y → y.dirty = false → s'.comps q = some y) ∧
      (∀ q, c < q → s'.comps q = s.comps q) ∧ Below (· < c) s s' ∧
      s'.comps c = some x' ∧ x' = { x with parents := x'.parents } ∧
      (∀ e, e ∈ ps0 ++ ps ↔ e ∈ x'.parents) ∧
      (∀ v, r = .ok v → PathR t ps v ∧ ∀ e ∈ ps0 ++ ps, Current NoP s' e.1 e.2) ∧
      (∀ e, r = .err e → Prefix t ps ∧ DenFail s' t) := by
  intro t pt
  induction pt with
  | ret v0 =>
    intro s s' r x ps0 _ _ _ inv hcur hx hps hcurr h
    simp only [evalTree] at h
    cases h
    exact TreePost.nil inv (.refl s) rfl (fun _ _ => rfl) (Below.refl _ s) hx hps
      (fun v hv => by cases hv; exact ⟨.ret _, hcurr⟩) (fun e he => by cases he)
  | fail =>
    intro s s' r x ps0 _ _ _ inv hcur hx hps hcurr h
    simp only [evalTree] at h
    cases h
    exact TreePost.nil inv (.refl s) rfl (fun _ _ => rfl) (Below.refl _ s) hx hps (fun v hv => by cases hv)
      (fun _ _ => .fail)
  | read k cont _ ihc =>
    intro s s' r x ps0 hr ho w inv hcur hx hps hcurr h
    cases hr with | read _ _ hr =>
    cases ho with | read _ _ hk ho =>
    simp only [evalTree, hcur] at h
    cases ha : addParent s c (.obs k) (s.store k) with | mk s1 r1 =>
    rw [ha] at h
    cases r1 with
    | err e => exact (addParent_not_err w hx (r := .obs k) rfl (kindAt_names hk) ha).elim
    | ok u =>
      simp only at h
      obtain ⟨inv1, k1, hcur1, hoth1, hc1⟩ :=
        addParent_spec w inv (Or.inr rfl) hx (r := .obs k) (fun c' hc' => by cases hc')
          (fun k' hk' => by cases hk'; exact w.notSlot hk) ha
      have k1' : Keeps s { s1 with proc := k :: s1.proc } := k1.trans (.same rfl rfl rfl rfl rfl)
      have hcons : ∀ e ∈ x.parents, e.1 = .obs k → e.2 = s.store k := by
        intro e he hek
        have := hcurr e ((hps e).mpr he)
        rw [hek] at this; exact this.symm
      refine TreePost.cons (own := s.ownerOf) k1' hcur1 (fun q hq => hoth1 q (Nat.ne_of_gt hq))
        (Below.of_eq fun q (hq : q < c) => hoth1 q (Nat.ne_of_lt hq)) ?_ (fun ps v h => .read k cont _ ps v h)
        (fun ps h => .read k cont _ ps h) fun k' hdf => .read k cont (by rw [(k1'.trans k').store]; exact hdf)
      refine ihc (s.store k) { s1 with proc := k :: s1.proc } s' r _ _ (hr _)
        ((ho _).mono fun k' hk' => by rw [k1'.stat.kindAt]; exact hk') (w.of_staticEq k1'.stat)
        (inv1.congr rfl rfl rfl rfl inv1.curStack) (hcur1.trans hcur) hc1 (fun e => ?_) (fun e he => ?_) h
      · rw [mem_insertParent_consistent _ _ _ _ hcons, List.mem_append, List.mem_singleton, hps e]
        exact or_comm
      · rcases List.mem_append.mp he with he | he
        · exact (hcurr e he).keep k1'
        · simp only [List.mem_singleton] at he; subst he
          exact congrFun k1.store k
  | readC c' cont _ ihc =>
    intro s s' r x ps0 hr ho w inv hcur hx hps hcurr h
    cases hr with | readC _ _ hlt hr =>
    cases ho with | readC _ _ ho =>
    simp only [evalTree] at h
    cases hg : rec (.readC c') s with
    | none => simp [hg] at h
    | some res =>
      obtain ⟨s1, r1⟩ := res
      have hSlt' : ∀ q, (S q ∨ q = c) → c' < q := by
        rintro q (h' | h')
        · exact Nat.lt_trans hlt (hSlt q h')
        · exact h' ▸ hlt
      have hpost := ih.get c' s s1 r1 _ w inv (fun h' => Nat.lt_irrefl c' (hSlt' c' h')) hSlt' hg
      obtain ⟨g1, gk, g4, g6, g7⟩ := post_common hpost
      have hab : ∀ q, c' < q → q ≠ c → s1.comps q = s.comps q := fun q hq hne =>
        g6 q hq (by rw [hcur]; exact fun e => hne (Option.some.inj e).symm)
      have hab1 : ∀ q, c < q → s1.comps q = s.comps q := fun q hq => hab q (Nat.lt_trans hlt hq) (Nat.ne_of_gt hq)
      have hbl : Below (· < c) s s1 := g7.widen fun q hq hqc => hab q hq (Nat.ne_of_lt hqc)
      rw [hg] at h
      cases r1 with
      | err e =>
        simp only at h
        cases h
        have pe := hpost.2 e rfl
        refine TreePost.nil g1 gk g4 hab1 hbl (by rw [pe.above c hlt]; exact hx) hps (fun v hv => by cases hv)
          fun _ _ => ?_
        rcases pe.failed with hnone | ⟨y, hy, _, _, hdf, _⟩
        · exact .readCUndef c' cont ((gk.stat.comps c').1.mpr hnone)
        · exact .readCFail c' cont y hy hdf
      | ok v1 =>
        simp only at h
        have pg := hpost.1 v1 rfl
        obtain ⟨own, hc1⟩ := pg.curPar c x hcur hx
        obtain ⟨y1, hy1, hyd1, hyv1, _⟩ := pg.clean
        have hcons : ∀ e ∈ x.parents, e.1 = .comp c' → e.2 = v1 := by
          intro e he hek
          have := hcurr e ((hps e).mpr he)
          rw [hek] at this
          obtain ⟨y, hy, hyv, hyd⟩ := this
          rcases hyd with hyd | hyd
          · have := gk.keepClean c' y hy hyd
            rw [hy1] at this; cases this
            rw [hyv] at hyv1; cases hyv1; rfl
          · exact absurd hyd (by simp [NoP])
        refine TreePost.cons (own := own) (v := v1) gk g4 hab1 hbl ?_ (fun ps v h => .readC c' cont _ ps v h)
          (fun ps h => .readC c' cont _ ps h) fun k' hdf => ?_
        · refine ihc v1 s1 s' r _ _ (hr _) ((ho _).mono fun k' hk' => by rw [gk.stat.kindAt]; exact hk')
            (w.of_staticEq gk.stat) g1 (g4.trans hcur) hc1 (fun e => ?_) (fun e he => ?_) h
          · rw [mem_insertParent_consistent _ _ _ _ hcons, List.mem_append, List.mem_singleton, hps e]
            exact or_comm
          · rcases List.mem_append.mp he with he | he
            · exact (hcurr e he).keep gk
            · simp only [List.mem_singleton] at he; subst he
              exact ⟨y1, hy1, hyv1, Or.inl hyd1⟩
        · -- `c'` is clean in `s1`: it holds what its function returns, also in `s'`
          obtain ⟨v', hv', hden⟩ := clean_den g1 c' y1 hy1 hyd1
          rw [hyv1] at hv'; cases hv'
          obtain ⟨y', hy', _, _, ht⟩ := k'.stat.defined hy1
          exact .readC c' cont y' v1 hy' (by rw [ht]; exact hden.congr k'.store k'.stat) hdf

/-! ### reading a Computable: the dirty pre-check -/

/-- the dirty pre-check of Computed `c` over its remembered parents `ps`: it never raises (G12 repaired) -/
theorem precheck_spec {rec : Rec} (ih : IH rec) (c : Nat) (S : Nat → Prop) (hSlt : ∀ q, S q → c < q) :
    ∀ (ps : List (PRef × V)) (s s' : St) (r : Except Err Bool),
    (∀ e ∈ ps, (∀ c', e.1 = .comp c' → c' < c) ∧ ∃ k, s.keyOf e.1 = some k) → Stat s → Inv S NoP s → s.cur = none →
    precheck rec ps s = some (s', r) →
    ∃ b, r = .ok b ∧ Inv S NoP s' ∧ Keeps s s' ∧ s'.cur = none ∧
      (∀ q, c ≤ q → s'.comps q = s.comps q) ∧ Below (· < c) s s' ∧
      (b = false → ∀ e ∈ ps, Current NoP s' e.1 e.2) ∧
      (b = true → ∃ e ∈ ps, Stale s' e) := by
  intro ps
  induction ps with
  | nil =>
    intro s s' r _ _ inv hcur h
    simp only [precheck] at h
    cases h
    exact ⟨false, rfl, inv, .refl s, hcur, fun _ _ => rfl, Below.refl _ s,
      fun _ e he => (by simp at he), fun h => (by cases h)⟩
  | cons e ps ihp =>
    intro s s' r hpar w inv hcur h
    obtain ⟨p, v⟩ := e
    cases p with
    | obs k =>
      simp only [precheck] at h
      by_cases hne : s.store k ≠ v
      · rw [if_pos hne] at h
        cases h
        exact ⟨true, rfl, inv, .refl s, hcur, fun _ _ => rfl, Below.refl _ s,
          fun h => (by cases h), fun _ => ⟨(.obs k, v), by simp, hne⟩⟩
      · rw [if_neg hne] at h
        obtain ⟨b, hb, i1, ik, i4, i7, ib, i8, i9⟩ := ihp s s' r (fun e he => hpar e (List.mem_cons_of_mem _ he)) w inv hcur h
        refine ⟨b, hb, i1, ik, i4, i7, ib, fun hb' e he => ?_, fun hb' => ?_⟩
        · rcases List.mem_cons.mp he with rfl | he
          · show s'.store k = v
            rw [ik.store]; exact Decidable.not_not.mp hne
          · exact i8 hb' e he
        · obtain ⟨e, he, hs⟩ := i9 hb'
          exact ⟨e, by simp [he], hs⟩
    | comp c4 =>
      have hc4 : c4 < c := (hpar (.comp c4, v) List.mem_cons_self).1 c4 rfl
      simp only [precheck] at h
      cases hg : rec (.readC c4) s with
      | none => simp [hg] at h
      | some res =>
        obtain ⟨s1, r1⟩ := res
        have hpost := ih.get c4 s s1 r1 S w inv (fun h' => Nat.lt_asymm hc4 (hSlt c4 h'))
          (fun q h' => Nat.lt_trans hc4 (hSlt q h')) hg
        obtain ⟨g1, gk, g4, g6, g7⟩ := post_common hpost
        have hab : ∀ q, c ≤ q → s1.comps q = s.comps q := fun q hq => g6 q (Nat.lt_of_lt_of_le hc4 hq) (by rw [hcur]; simp)
        have hbl : Below (· < c) s s1 := g7.widen fun q hq _ => g6 q hq (by rw [hcur]; simp)
        rw [hg] at h
        cases r1 with
        | err e =>
          -- the remembered Computable raises now: that counts as "changed"
          simp only at h
          cases h
          rcases (hpost.2 e rfl).failed with hnone | ⟨y, hy, _, _, hdf, _⟩
          · obtain ⟨_, k, hk⟩ := hpar (.comp c4, v) List.mem_cons_self
            simp [St.keyOf, hnone] at hk
          · exact ⟨true, rfl, g1, gk, g4.trans hcur, hab, hbl, (fun h => nomatch h),
              fun _ => ⟨(.comp c4, v), by simp, y, hy, Or.inr hdf⟩⟩
        | ok v' =>
          simp only at h
          obtain ⟨y, hy, hyd, hyv, _⟩ := (hpost.1 v' rfl).clean
          by_cases hne : v' ≠ v
          · rw [if_pos hne] at h
            cases h
            exact ⟨true, rfl, g1, gk, g4.trans hcur, hab, hbl, (fun h => nomatch h),
              fun _ => ⟨(.comp c4, v), by simp, y, hy, Or.inl ⟨hyd, by rw [hyv]; exact fun e => hne (Option.some.inj e)⟩⟩⟩
          · rw [if_neg hne] at h
            obtain ⟨b, hb, i1, ik, i4, i7, ib, i8, i9⟩ :=
              ihp s1 s' r (fun e he => by
                obtain ⟨h1, k, hk⟩ := hpar e (List.mem_cons_of_mem _ he)
                exact ⟨h1, k, by rw [gk.stat.keyOf]; exact hk⟩) (w.of_staticEq gk.stat) g1 (g4.trans hcur) h
            refine ⟨b, hb, i1, gk.trans ik, i4, fun q hq => (i7 q hq).trans (hab q hq), Below.trans ik hbl ib,
              fun hb' e he => ?_, fun hb' => ?_⟩
            · rcases List.mem_cons.mp he with rfl | he
              · exact ⟨y, ik.keepClean c4 y hy hyd, by rw [hyv, Decidable.not_not.mp hne], Or.inl hyd⟩
              · exact i8 hb' e he
            · obtain ⟨e, he, hs⟩ := i9 hb'
              exact ⟨e, by simp [he], hs⟩

theorem noP_dirty {x : Comp} {c : Nat} (hd : x.dirty = true) : ¬ (x.dirty = false ∨ NoP c) := by
  simp [hd, NoP]

/-! ### reading a Computable: `Computed.__call__` -/

/-- the evaluation of the dirty Computed `c` ends: `c` gets the record `z` (value and flags) and leaves the stack -/
theorem leave_spec {S : Nat → Prop} {c : Nat} {s s4 : St} {x4 z : Comp} {saved : Option Nat} (hSc : ¬ S c)
    (inv4 : Inv (fun q => S q ∨ q = c) NoP s4) (hc4 : s4.comps c = some x4) (hd4 : x4.dirty = true)
    (hz : z = { x4 with dirty := z.dirty, first := z.first, value := z.value, evals := z.evals })
    (hsaved : ∀ p, saved = some p → S p) (hab4 : ∀ q, c < q → s4.comps q = s.comps q)
    (hbl4 : Below (· < c) s s4)
    (hev : Evald z)
    (hcurr : z.dirty = false → ∀ p v, (p, v) ∈ x4.parents → Current NoP s4 p v) :
    Inv S NoP (leave saved (s4.setComp c z)) ∧ Keeps s4 (leave saved (s4.setComp c z)) ∧
    (leave saved (s4.setComp c z)).cur = saved ∧ (∀ q, c < q → (leave saved (s4.setComp c z)).comps q = s.comps q) ∧
    Below (· < c) s (leave saved (s4.setComp c z)) := by
  have kz : Keeps s4 (leave saved (s4.setComp c z)) :=
    (Keeps.setComp hc4 hd4 (by rw [hz]) (by rw [hz]) (by rw [hz])).trans (.same rfl rfl rfl rfl rfl)
  exact ⟨inv4.update_comp hc4 rfl rfl rfl rfl hz (fun _ => Or.inl) (fun _ h hq => h.resolve_right hq) hsaved
      (fun h => absurd h hSc) (fun _ => hev) hcurr (fun _ _ hd => absurd hd (noP_dirty hd4)),
    kz, rfl, fun q hq => (setComp_ne _ _ (Nat.ne_of_gt hq)).trans (hab4 q hq),
    Below.step_eq hbl4 kz fun q (hq : q < c) => setComp_ne _ _ (Nat.ne_of_lt hq)⟩

/-- the re-evaluation branch of `Computed.__call__` for the dirty Computed `c`, entered from `s` through `s1` (where
    `_first` is reset and the pre-check, if any, has run) for the reason `hr`: what `callC_spec` says of it -/
theorem evalBody_spec {rec : Rec} (ih : IH rec) (c : Nat) (S : Nat → Prop) (hSc : ¬ S c) (hSlt : ∀ q, S q → c < q)
    {s s1 s' : St} {r : R} {x0 x : Comp} {saved : Option Nat} (w : Stat s1)
    (inv : Inv (fun q => S q ∨ q = c) NoP s1) (hx0 : s.comps c = some x0) (hd : x0.dirty = true)
    (hx : s1.comps c = some x) (hxe : x = { x0 with first := false }) (k01 : Keeps s s1)
    (hab01 : ∀ q, c < q → s1.comps q = s.comps q) (hbl01 : Below (· < c) s s1)
    (hr : x0.first = true ∨ ∃ e ∈ x0.parents, Stale s1 e) (hsaved : ∀ p, saved = some p → S p)
    (h : evalBody rec c x.tree saved s1 = some (s', r)) :
    Inv S NoP s' ∧ Keeps s s' ∧ s'.cur = saved ∧ (∀ q, c < q → s'.comps q = s.comps q) ∧ Below (· ≤ c) s s' ∧
    (∀ v, r = .ok v → (∃ y, s'.comps c = some y ∧ y.dirty = false ∧ y.value = some v ∧ Justified x0 s' y) ∧
      (x0.dirty = false → x0.value = some v)) ∧
    (∀ e, r = .err e →
      ∃ y, s'.comps c = some y ∧ y.first = true ∧ y.dirty = true ∧ DenFail s' y.tree ∧ Justified x0 s' y) := by
  have hfirst : x.first = false := by rw [hxe]
  -- what the run itself does, from `s1`; the rest relates it to `s` and to the reason
  suffices core : Inv S NoP s' ∧ Keeps s1 s' ∧ s'.cur = saved ∧ (∀ q, c < q → s'.comps q = s1.comps q) ∧
      Below (· < c) s1 s' ∧ ∃ y, s'.comps c = some y ∧ y.evals = x.evals + 1 ∧
        (∀ v, r = .ok v → y.dirty = false ∧ y.value = some v) ∧
        (∀ e, r = .err e → y.first = true ∧ y.dirty = true ∧ DenFail s' y.tree) by
    obtain ⟨i1, k1, c1, a1, b1, y, hy, hye, hok, herr⟩ := core
    have hye' : y.evals = x0.evals + 1 := by rw [hye, hxe]
    have hr' : x0.first = true ∨ ∃ e ∈ x0.parents, Stale s' e := hr.imp id fun ⟨e, he, hs⟩ => ⟨e, he, hs.keep k1⟩
    refine ⟨i1, k01.trans k1, c1, fun q hq => (a1 q hq).trans (hab01 q hq),
      Below.snoc (Below.trans k1 hbl01 b1) fun z hz => ?_, fun v hv => ?_, fun e he => ?_⟩
    · rw [hx0] at hz; cases hz
      exact ⟨y, hy, Or.inr ⟨by omega, hd, hr'⟩⟩
    · exact ⟨⟨y, hy, (hok v hv).1, (hok v hv).2, Or.inr ⟨hye', hd, hr'⟩⟩, fun h' => by simp [hd] at h'⟩
    · obtain ⟨hyf, hyd, hdf⟩ := herr e he
      exact ⟨y, hy, hyf, hyd, hdf, Or.inr ⟨hye', hd, hr'⟩⟩
  have hSc' : (fun q => S q ∨ q = c) c := Or.inr rfl
  obtain ⟨inv2, k2, cur2, oth2, hc2⟩ := removeParents_spec w inv hSc' hx
  have hxd := inv.dirty_of_stack hSc' hx
  unfold evalBody at h
  simp only [hc2] at h
  generalize hs3 : ({ ((removeParents s1 c).setComp c { x with parents := [], evals := x.evals + 1 }) with
      cur := some c, depth := (removeParents s1 c).depth + 1 } : St) = s3 at h
  have inv3 : Inv (fun q => S q ∨ q = c) NoP s3 := by
    subst hs3
    exact inv2.update_comp hc2 rfl rfl rfl rfl rfl (fun _ h => h) (fun _ h _ => h) (fun p hp => by cases hp; exact hSc')
      (fun _ => hxd) (fun h' => absurd hSc' h') (fun hd => by simp [hxd] at hd) (fun v hv hd => ⟨hv, hd⟩)
  have k3 : Keeps s1 s3 := by
    subst hs3
    exact k2.trans ((Keeps.setComp (x' := { x with parents := [], evals := x.evals + 1 }) hc2 hxd rfl rfl rfl).trans
      (.same rfl rfl rfl rfl rfl))
  have hx3 : s3.comps c = some { x with parents := [], evals := x.evals + 1 } := by subst hs3; simp
  have hcur3 : s3.cur = some c := by subst hs3; rfl
  have hoth3 : ∀ q, q ≠ c → s3.comps q = s1.comps q := by
    intro q hq; subst hs3
    show ((removeParents s1 c).setComp c _).comps q = _
    rw [setComp_ne _ _ hq]; exact oth2 q hq
  cases he : evalTree rec x.tree s3 with
  | none => simp [he] at h
  | some res =>
    obtain ⟨s4, r4⟩ := res
    obtain ⟨ps, x4, inv4, se4, hst4, hcur4, hdead4, hk4, hab4, hbl4, hc4, hx4, hmem4, hokp, herrp⟩ :=
      evalTree_spec ih c S hSc hSlt x.tree (w.pure c x hx) s3 s4 r4
      { x with parents := [], evals := x.evals + 1 } [] (w.ranked c x hx)
      ((w.obsKind c x hx).mono fun k hk => by rw [k3.stat.kindAt]; exact hk) (w.of_staticEq k3.stat) inv3 hcur3 hx3
      (fun e => by simp) (fun e he => by simp at he) he
    rw [he] at h
    have hx4t : x4.tree = x.tree := by rw [hx4]
    have hx4f : x4.first = false := by rw [hx4]; exact hfirst
    have hx4e : x4.evals = x.evals + 1 := by rw [hx4]
    have hx4d : x4.dirty = true := by rw [hx4]; exact hxd
    have hmem : ∀ e, e ∈ ps ↔ e ∈ x4.parents := fun e => by simpa using hmem4 e
    have k4 : Keeps s1 s4 := k3.trans ⟨se4, hst4, hdead4, hk4⟩
    have hab14 : ∀ q, c < q → s4.comps q = s1.comps q := fun q hq => (hab4 q hq).trans (hoth3 q (Nat.ne_of_gt hq))
    have hbl14 : Below (· < c) s1 s4 :=
      Below.trans ⟨se4, hst4, hdead4, hk4⟩ (Below.of_eq fun q (hq : q < c) => hoth3 q (Nat.ne_of_lt hq)) hbl4
    cases r4 with
    | err e =>
      simp only at h
      cases h
      obtain ⟨hpre, hdf⟩ := herrp e rfl
      have hmf : markFailed s4 c = s4.setComp c { x4 with first := true } := by simp [markFailed, hc4]
      rw [hmf]
      -- `c` will run its function again next time (`_first = True`) and stays dirty; what it read before the failure
      -- stays remembered (and subscribed) until then
      obtain ⟨i5, k5, c5, a5, b5⟩ := leave_spec (z := { x4 with first := true }) hSc inv4 hc4 hx4d rfl hsaved hab14 hbl14
        ⟨fun _ => ⟨hx4d, ps, by show Prefix x4.tree ps; rw [hx4t]; exact hpre, hmem⟩, fun h => by simp at h⟩
        (fun hd => by simp [hx4d] at hd)
      refine ⟨i5, k4.trans k5, c5, a5, b5, _, setComp_same _ _ _, hx4e, fun v hv => (by cases hv), fun _ _ => ⟨rfl, hx4d, ?_⟩⟩
      have hdf4 : DenFail s4 x4.tree := by rw [hx4t]; exact hdf
      exact hdf4.congr k5.store k5.stat
    | ok v =>
      simp only [hc4] at h
      cases h
      obtain ⟨hp, hcurr4⟩ := hokp v rfl
      obtain ⟨i5, k5, c5, a5, b5⟩ := leave_spec (z := { x4 with value := some v, dirty := false }) hSc inv4 hc4 hx4d rfl hsaved
        hab14 hbl14
        ⟨fun h => by simp [hx4f] at h, fun _ => ⟨v, ps, rfl, by show PathR x4.tree ps v; rw [hx4t]; exact hp, hmem⟩⟩
        (fun _ p v' hp' => hcurr4 (p, v') (by simpa using (hmem (p, v')).mpr hp'))
      exact ⟨i5, k4.trans k5, c5, a5, b5, _, setComp_same _ _ _, hx4e, fun v' hv' => by cases hv'; exact ⟨rfl, rfl⟩,
        fun e he => by cases he⟩

theorem callC_spec {rec : Rec} (ih : IH rec) (c : Nat) (S : Nat → Prop) (hSc : ¬ S c) (hSlt : ∀ q, S q → c < q)
    {s s' : St} {r : R} {x : Comp} (w : Stat s) (inv : Inv S NoP s) (hx : s.comps c = some x)
    (h : callC rec c x s = some (s', r)) :
    Inv S NoP s' ∧ Keeps s s' ∧ s'.cur = s.cur ∧ (∀ q, c < q → s'.comps q = s.comps q) ∧ Below (· ≤ c) s s' ∧
    (∀ v, r = .ok v → (∃ y, s'.comps c = some y ∧ y.dirty = false ∧ y.value = some v ∧ Justified x s' y) ∧
      (x.dirty = false → x.value = some v)) ∧
    (∀ e, r = .err e →
      ∃ y, s'.comps c = some y ∧ y.first = true ∧ y.dirty = true ∧ DenFail s' y.tree ∧ Justified x s' y) := by
  unfold callC at h
  by_cases hd : x.dirty = false
  · rw [if_pos (by simp [hd])] at h
    obtain ⟨v0, ps, hv0, _, _⟩ := (inv.evald c x hx hSc).2 (inv.not_first_of_clean hSc hx hd)
    rw [hv0] at h
    cases h
    exact ⟨inv, .refl s, rfl, fun _ _ => rfl, Below.refl _ s,
      fun v hv => by cases hv; exact ⟨⟨x, hx, hd, hv0, Or.inl rfl⟩, fun _ => hv0⟩, fun e he => by cases he⟩
  · have hd' : x.dirty = true := by simpa using hd
    rw [if_neg (by simp [hd'])] at h
    have hsaved : ∀ p, s.cur = some p → S p := inv.curStack
    by_cases hf : x.first = true
    · rw [if_pos hf] at h
      have k0 : Keeps s (s.setComp c { x with first := false }) := .setComp hx hd' rfl rfl rfl
      have inv0 : Inv (fun q => S q ∨ q = c) NoP (s.setComp c { x with first := false }) :=
        (inv.push hx hd').update_comp hx rfl rfl rfl rfl rfl (fun _ h => h) (fun _ h _ => h)
          (fun p hp => Or.inl (hsaved p hp)) (fun _ => hd') (fun h' => absurd (Or.inr rfl) h')
          (fun hd0 => by simp [hd'] at hd0) (fun v hv hdd => ⟨hv, hdd⟩)
      exact evalBody_spec ih c S hSc hSlt (w.of_staticEq k0.stat) inv0 hx hd' (setComp_same _ _ _) rfl k0
        (fun q hq => setComp_ne _ _ (Nat.ne_of_gt hq)) (Below.of_eq fun q (hq : q < c) => setComp_ne _ _ (Nat.ne_of_lt hq))
        (Or.inl hf) hsaved h
    · have hf' : x.first = false := by simpa using hf
      rw [if_neg hf] at h
      have hxx : ({ x with first := false } : Comp) = x := by rw [← hf']
      rw [hxx, setComp_self hx] at h
      -- the pre-check runs outside the enclosing evaluation
      have k0 : Keeps s { s with cur := none } := .same rfl rfl rfl rfl rfl
      cases hp : precheck rec x.parents { s with cur := none } with
      | none => simp [hp] at h
      | some res =>
        obtain ⟨s1, r1⟩ := res
        obtain ⟨b, hb, i1, ik, i4, i7, ib, i8, i9⟩ := precheck_spec ih c S hSlt x.parents _ s1 r1
          (fun e he => ⟨fun c' hc' => (inv.parents c x hx e.1 e.2 he).1 c' hc', by
            obtain ⟨_, _, k, hk, _, _⟩ := inv.parents c x hx e.1 e.2 he
            exact ⟨k, by rw [k0.stat.keyOf]; exact hk⟩⟩) (w.of_staticEq k0.stat)
          (inv.congr rfl rfl rfl rfl (fun p hp => by cases hp)) rfl hp
        subst hb
        rw [hp] at h
        have hc1 : s1.comps c = some x := (i7 c (Nat.le_refl c)).trans hx
        have kc : Keeps s1 { s1 with cur := s.cur } := .same rfl rfl rfl rfl rfl
        have k1 := (k0.trans ik).trans kc
        have hab1 : ∀ q, c < q → s1.comps q = s.comps q := fun q hq => i7 q (Nat.le_of_lt hq)
        have ib1 : Below (· < c) s s1 := ib
        cases b with
        | true =>
          simp only at h
          exact evalBody_spec ih c S hSc hSlt (w.of_staticEq k1.stat)
            ((i1.congr (s' := { s1 with cur := s.cur }) rfl rfl rfl rfl hsaved).push hc1 hd') hx hd' hc1 hxx.symm k1 hab1
            (Below.step_eq ib1 kc fun _ _ => rfl) (Or.inr ((i9 rfl).imp fun e he => ⟨he.1, he.2.keep kc⟩)) hsaved h
        | false =>
          simp only [hc1] at h
          obtain ⟨v0, ps, hv0, hpath, hmem⟩ := (inv.evald c x hx hSc).2 hf'
          cases h
          have kf : Keeps s1 ({ (s1.setComp c { x with dirty := false }) with cur := s.cur } : St) :=
            (Keeps.setComp (x' := { x with dirty := false }) hc1 hd' rfl rfl rfl).trans (.same rfl rfl rfl rfl rfl)
          refine ⟨?_, (k0.trans ik).trans kf, rfl, fun q hq => (setComp_ne _ _ (Nat.ne_of_gt hq)).trans (hab1 q hq), ?_,
            fun v hv => by
              cases hv; exact ⟨⟨_, setComp_same _ _ _, rfl, by simp [hv0], Or.inl rfl⟩, fun h' => by simp [hd'] at h'⟩,
            fun e he => by cases he⟩
          · exact i1.update_comp hc1 rfl rfl rfl rfl rfl (fun _ h => h) (fun _ h _ => h) hsaved
              (fun h' => absurd h' hSc)
              (fun _ => ⟨fun h' => by simp [hf'] at h', fun _ => ⟨v0, ps, hv0, hpath, hmem⟩⟩)
              (fun _ p v hp => i8 rfl (p, v) hp) (fun _ _ hdd => absurd hdd (noP_dirty hd'))
          · refine Below.snoc (Below.step_eq ib1 kf fun q (hq : q < c) => setComp_ne _ _ (Nat.ne_of_lt hq)) fun x0 hx0 => ?_
            rw [hx] at hx0; cases hx0
            exact ⟨_, setComp_same _ _ _, Or.inl ⟨rfl, fun h' => by simp at h'⟩⟩

/-! ### reading a Computable: `Computable.__get__` -/

/-- the Computable of the dirty Computed `c`, in a state `s2` reached while reading it: every `_set_dirty` subscribed
    to it belongs to a dirty Computed (a clean one would remember a value `c` had while `c` was clean), so the
    notification of its new value is quiet -/
theorem subscribers_dirty {S : Nat → Prop} {c : Nat} {s s2 : St} {x : Comp} (inv : Inv S NoP s) (inv2 : Inv S NoP s2)
    (w2 : Stat s2) (se : StaticEq s s2) (hx : s.comps c = some x) (hxd : x.dirty = true)
    (hab2 : ∀ q, c < q → s.cur ≠ some q → s2.comps q = s.comps q) :
    s2.kindAt (x.owner, x.name) = some .comp ∧
    ∀ q, Sub.dirty q ∈ (s2.regs x.owner).subs x.name .change → ∃ y, s2.comps q = some y ∧ y.dirty = true := by
  obtain ⟨xc2, hxc2, ho2, hn2, _⟩ := se.defined hx
  refine ⟨by have := w2.slotKind c xc2 hxc2; rwa [ho2, hn2] at this, fun q hq => ?_⟩
  obtain ⟨_, y2, hy2, p0, v0, hp0, hk0⟩ := inv2.subsOf x.owner x.name .change q hq
  refine ⟨y2, hy2, ?_⟩
  cases hyd : y2.dirty with
  | true => rfl
  | false =>
    exfalso
    obtain ⟨hr0, hs0, _⟩ := inv2.parents q y2 hy2 p0 v0 hp0
    cases p0 with
    | obs k =>
      simp only [St.keyOf, Option.some.injEq] at hk0
      exact hs0 k rfl ⟨c, xc2, hxc2, by rw [ho2, hn2, hk0]⟩
    | comp c0 =>
      simp only [St.keyOf] at hk0
      cases hc0 : s2.comps c0 with
      | none => simp [hc0] at hk0
      | some y0 =>
        simp only [hc0, Option.map_some, Option.some.injEq, Prod.mk.injEq] at hk0
        have hcc : c0 = c := w2.slots c0 c y0 xc2 hc0 hxc2 (by rw [hk0.1, ho2]) (by rw [hk0.2, hn2])
        subst hcc
        have hne : s.cur ≠ some q := fun e => inv2.not_stack_of_clean hy2 hyd (inv.curStack q e)
        have hsq : s.comps q = some y2 := by rw [← hab2 q (hr0 c0 rfl) hne]; exact hy2
        obtain ⟨z, hz, _, hzd⟩ := inv.current q y2 hsq hyd (.comp c0) v0 hp0
        rw [hx] at hz; cases hz
        exact noP_dirty hxd hzd

theorem getC_spec {rec : Rec} (ih : IH rec) (c : Nat) (S : Nat → Prop) (hSc : ¬ S c) (hSlt : ∀ q, S q → c < q)
    {s s' : St} {r : R} (w : Stat s) (inv : Inv S NoP s) (h : getC rec c s = some (s', r)) :
    (∀ v, r = .ok v → PostGet S c s s' v) ∧ (∀ e, r = .err e → PostErr S c s s') := by
  unfold getC at h
  cases hx : s.comps c with
  | none =>
    simp only [hx] at h
    cases h
    exact ⟨fun v hv => (by cases hv), fun e _ =>
      ⟨inv, StaticEq.refl s, rfl, rfl, rfl, Or.inl hx, fun _ _ h _ => h, fun _ _ => rfl, Below.refl _ s⟩⟩
  | some x =>
    simp only [hx] at h
    cases hcall : callC rec c x s with
    | none => simp [hcall] at h
    | some res =>
      obtain ⟨s1, r1⟩ := res
      obtain ⟨inv1, k1, hcur1, hab1, hbl1, hok1, herr1⟩ := callC_spec ih c S hSc hSlt w inv hx hcall
      rw [hcall] at h
      cases r1 with
      | err e =>
        simp only at h
        cases h
        refine ⟨fun v hv => (by cases hv), fun e' _ => ?_⟩
        obtain ⟨y, hy, hyf, hyd, hdf, hj⟩ := herr1 e rfl
        exact ⟨inv1, k1.stat, k1.store, hcur1, k1.dead,
          Or.inr ⟨y, hy, hyf, hyd, hdf, fun x0 hx0 => by rw [hx] at hx0; cases hx0; exact hj⟩, k1.keepClean, hab1, hbl1⟩
      | ok new =>
        simp only at h
        obtain ⟨⟨y1, hy1, hyd1, hyv1, hyj1⟩, hcl1⟩ := hok1 new rfl
        have w1 : Stat s1 := w.of_staticEq k1.stat
        -- what happens after `_add_parent` (on the enclosing evaluation, if any) succeeded
        have tail : ∀ s2, Inv S NoP s2 → Keeps s1 s2 → s2.cur = s1.cur →
            (∀ q, s1.cur ≠ some q → s2.comps q = s1.comps q) →
            (∀ p xp, s1.cur = some p → s1.comps p = some xp →
              ∃ own, s2.comps p = some { xp with parents := insertParent own (.comp c) new xp.parents }) →
            (if new ≠ x.value.join then
              match rec (.notify (x.owner, x.name) x.value.join new) s2 with
              | none => none
              | some (s3, .err e) => some (s3, .err e)
              | some (s3, .ok _) => some (s3, .ok new)
            else some (s2, R.ok new)) = some (s', r) →
            (∀ v, r = .ok v → PostGet S c s s' v) ∧ (∀ e, r = .err e → PostErr S c s s') := by
          intro s2 inv2 k2 hcur2 hoth2 hpar2 h
          have w2 : Stat s2 := w1.of_staticEq k2.stat
          have hlow : ∀ q, q ≤ c → s1.cur ≠ some q := fun q hq e =>
            Nat.not_le_of_lt (hSlt q (inv1.curStack q e)) hq
          have hc2 : s2.comps c = some y1 := (hoth2 c (hlow c (Nat.le_refl c))).trans hy1
          have hab2 : ∀ q, c < q → s.cur ≠ some q → s2.comps q = s.comps q := fun q hq hne =>
            (hoth2 q (by rw [hcur1]; exact hne)).trans (hab1 q hq)
          have post : ∀ s3, Inv S NoP s3 → Keeps s2 s3 → s3.comps = s2.comps → s3.cur = s2.cur →
              PostGet S c s s3 new := by
            intro s3 i3 k3 hc3 hcu3
            have k13 := k2.trans k3
            have kk := k1.trans k13
            refine ⟨i3, kk.stat, kk.store, by rw [hcu3, hcur2, hcur1], kk.dead,
              ⟨y1, by rw [hc3]; exact hc2, hyd1, hyv1, ?_⟩, kk.keepClean, fun q hq hne => by rw [hc3]; exact hab2 q hq hne,
              Below.step_eq hbl1 k13 fun q (hq : q ≤ c) => by rw [hc3, hoth2 q (hlow q hq)], ?_⟩
            · intro x0 hx0
              rw [hx] at hx0; cases hx0
              exact hyj1.imp id fun ⟨hj1, hj2, hj3⟩ => ⟨hj1, hj2, hj3.imp id fun ⟨e0, he0, hst0⟩ =>
                ⟨e0, he0, hst0.keep k13⟩⟩
            · intro p xp hp hxp
              rw [hc3]
              exact hpar2 p xp (hcur1.trans hp) ((hab1 p (hSlt p (inv.curStack p hp))).trans hxp)
          by_cases hch : new ≠ x.value.join
          · rw [if_pos hch] at h
            have hxd : x.dirty = true := by
              cases hxd : x.dirty with
              | true => rfl
              | false => exact absurd (by rw [hcl1 hxd]; rfl) hch
            obtain ⟨hkc, hquiet⟩ := subscribers_dirty inv inv2 w2 (k1.trans k2).stat hx hxd hab2
            rcases ih.notify (x.owner, x.name) x.value.join new s2 with hnone | ⟨rec', hrec'⟩
            · simp [hnone] at h
            · obtain ⟨s3, hn3, i3, e3, hc3, hs3, hcu3, hd3⟩ :=
                notifyT_quiet rec' (x.owner, x.name) x.value.join new inv2 hkc hquiet
              rw [hrec', hn3] at h
              simp only at h
              cases h
              exact ⟨fun v hv => by cases hv; exact post _ i3 ⟨e3, hs3, hd3, fun q y hy _ => by rw [hc3]; exact hy⟩ hc3 hcu3,
                fun e he => by cases he⟩
          · rw [if_neg hch] at h
            cases h
            exact ⟨fun v hv => by cases hv; exact post _ inv2 (.refl _) rfl rfl, fun e he => by cases he⟩
        cases hc : s1.cur with
        | none =>
          simp only [hc] at h
          exact tail s1 inv1 (.refl s1) rfl (fun _ _ => rfl) (fun p xp hp => by rw [hc] at hp; cases hp) h
        | some p =>
          simp only [hc] at h
          have hSp : S p := inv1.curStack p hc
          obtain ⟨xp, hxp, _⟩ := inv1.stackDirty p hSp
          cases ha : addParent s1 p (.comp c) new with | mk s2 r2 =>
          rw [ha] at h
          cases r2 with
          | err e =>
            exact (addParent_not_err w1 hxp (r := .comp c) (k := (y1.owner, y1.name)) (by simp [St.keyOf, hy1])
              (kindAt_names (w1.slotKind c y1 hy1)) ha).elim
          | ok u =>
            simp only at h
            obtain ⟨i1, ik, i4, i6, i7⟩ := addParent_spec w1 inv1 hSp hxp (r := .comp c)
              (fun c' hc' => by cases hc'; exact hSlt p hSp) (fun k hk => by cases hk) ha
            -- G15: what `c` depends on goes on record as read; the invariant does not speak about the record
            refine tail { s2 with proc := sourcesOf s2 (c + 1) c ++ s2.proc }
              (i1.congr rfl rfl rfl rfl (fun q hq => i1.curStack q hq)) (ik.trans (.same rfl rfl rfl rfl rfl)) i4
              (fun q hq => i6 q (fun e => hq (by rw [hc, e]))) ?_ h
            intro p' xp' hp' hxp'
            rw [hc] at hp'; cases hp'
            rw [hxp] at hxp'; cases hxp'
            exact ⟨_, i7⟩

theorem exec_IH (f : Nat) : IH (exec f) := by
  induction f with
  | zero =>
    exact ⟨fun c s s' r S _ _ _ _ h => by simp [exec] at h, fun k o n s => Or.inl rfl⟩
  | succ f ih =>
    refine ⟨fun c s s' r S w inv hSc hSlt h => ?_, fun k o n s => Or.inr ⟨exec f, rfl⟩⟩
    exact getC_spec ih c S hSc hSlt w inv h


/-! ### assignment: the dirty cascade -/

/-- the evaluation stack (`S` of `Inv`) is empty: outside any evaluation -/
def NoS : Nat → Prop := fun _ => False

/-- Computeds only went from clean to dirty -/
def Dirtied (s s' : St) : Prop :=
  ∀ c, (s.comps c = none → s'.comps c = none) ∧
    ∀ x, s.comps c = some x → s'.comps c = some x ∨ (x.dirty = false ∧ s'.comps c = some { x with dirty := true })

theorem Dirtied.refl (s : St) : Dirtied s s := fun _ => ⟨id, fun _ h => Or.inl h⟩
theorem Dirtied.trans {s s' s'' : St} (a : Dirtied s s') (b : Dirtied s' s'') : Dirtied s s'' := by
  intro c
  refine ⟨fun h => (b c).1 ((a c).1 h), fun x hx => ?_⟩
  rcases (a c).2 x hx with h | ⟨hd, h⟩
  · rcases (b c).2 x h with h' | ⟨hd', h'⟩
    · exact Or.inl h'
    · exact Or.inr ⟨hd', h'⟩
  · rcases (b c).2 _ h with h' | ⟨hd', h'⟩
    · exact Or.inr ⟨hd, h'⟩
    · simp at hd'

theorem Dirtied.dirty {s s' : St} (a : Dirtied s s') {c : Nat} {x : Comp} (hx : s.comps c = some x)
    (hd : x.dirty = true) : ∃ y, s'.comps c = some y ∧ y.dirty = true := by
  rcases (a c).2 x hx with h | ⟨_, h⟩
  · exact ⟨x, h, hd⟩
  · exact ⟨_, h, rfl⟩

theorem Dirtied.mark {s : St} {c : Nat} {x : Comp} (hx : s.comps c = some x) (hd : x.dirty = false) :
    Dirtied s (s.setComp c { x with dirty := true }) := by
  intro q
  by_cases hq : q = c
  · subst hq
    refine ⟨fun hnone => by simp [hx] at hnone, fun y hy => ?_⟩
    rw [hx] at hy; cases hy
    exact Or.inr ⟨hd, setComp_same _ _ _⟩
  · rw [setComp_ne _ _ hq]
    exact ⟨id, fun y hy => Or.inl hy⟩

theorem Inv.mono_P {S P P' : Nat → Prop} {s : St} (inv : Inv S P s) (h : ∀ c, P c → P' c) : Inv S P' s := by
  refine ⟨inv.stackDirty, inv.curStack, inv.evald, inv.parents, inv.subsOf, ?_, inv.userOK⟩
  intro c x hx hd p v hp
  have := inv.current c x hx hd p v hp
  cases p with
  | obs k => exact this
  | comp c' =>
    obtain ⟨y, hy, hv, hdy⟩ := this
    exact ⟨y, hy, hv, hdy.imp id (h c')⟩

/-- once every subscriber of the freshly dirtied `c0` is dirty, `c0` need not be pending any more -/
theorem Inv.drop_P {P : Nat → Prop} {s : St} {c0 : Nat} (inv : Inv NoS (fun q => P q ∨ q = c0) s)
    (hall : ∀ q y k, s.comps q = some y → y.dirty = false → s.keyOf (.comp c0) = some k →
      Sub.dirty q ∉ (s.regs k.1).subs k.2 .change) : Inv NoS P s := by
  refine ⟨inv.stackDirty, inv.curStack, inv.evald, inv.parents, inv.subsOf, ?_, inv.userOK⟩
  intro c x hx hd p v hp
  have := inv.current c x hx hd p v hp
  cases p with
  | obs k => exact this
  | comp c' =>
    obtain ⟨y, hy, hv, hdy⟩ := this
    refine ⟨y, hy, hv, ?_⟩
    rcases hdy with h | h | h
    · exact Or.inl h
    · exact Or.inr h
    · subst h
      exfalso
      obtain ⟨_, _, k, hk, _, hm⟩ := inv.parents c x hx (.comp c') v hp
      exact hall c x k hx hd hk hm

/-- the same state with other values in the Observables -/
def St.withStore (s : St) (σ : Key → V) : St := { s with store := σ }

@[simp] theorem withStore_regs (s : St) (σ) : (s.withStore σ).regs = s.regs := rfl
@[simp] theorem withStore_comps (s : St) (σ) : (s.withStore σ).comps = s.comps := rfl
@[simp] theorem withStore_dead (s : St) (σ) : (s.withStore σ).dead = s.dead := rfl
@[simp] theorem withStore_cur (s : St) (σ) : (s.withStore σ).cur = s.cur := rfl
@[simp] theorem withStore_progs (s : St) (σ) : (s.withStore σ).progs = s.progs := rfl
@[simp] theorem withStore_store (s : St) (σ) : (s.withStore σ).store = σ := rfl
@[simp] theorem withStore_alive (s : St) (σ) : (s.withStore σ).alive = s.alive := rfl
theorem setComp_withStore (s : St) (σ) (c : Nat) (x : Comp) :
    (s.withStore σ).setComp c x = (s.setComp c x).withStore σ := rfl
theorem withStore_self (s : St) : s.withStore s.store = s := rfl

/-- the dirty cascade does not look at the Observables' values: it is stated for a run in which they are `σ` (G7
    repaired: `Observable.__set__` has stored the new value already), while the invariant is that of the state with the
    values the Computeds were evaluated with -/
structure CascadeIH (rec : Rec) : Prop where
  notify : ∀ (k : Key) (o n : V) (s t : St) (r : R) (P : Nat → Prop) (σ : Key → V), Stat s → Inv NoS P s →
    s.kindAt k = some .comp → rec (.notify k o n) (s.withStore σ) = some (t, r) →
    ∃ s', t = s'.withStore σ ∧
    r = .ok none ∧ Inv NoS P s' ∧ StaticEq s s' ∧ s'.store = s.store ∧ s'.cur = s.cur ∧ s'.dead = s.dead ∧
    SameSubs s s' ∧ Dirtied s s' ∧
    (∀ c, Sub.dirty c ∈ (s.regs k.1).subs k.2 .change → ∃ y, s'.comps c = some y ∧ y.dirty = true)

/-- `Computed._set_dirty` of a clean Computed `c`: it is marked, then its Computable sends `change` to its own
    subscribers; once all of those are dirty too, `c` is not pending any more -/
theorem setDirty_spec {rec : Rec} (ih : CascadeIH rec) (σ : Key → V) {s t1 : St} {r1 : R} {P : Nat → Prop} {c : Nat}
    {cx : Comp} (w : Stat s) (inv : Inv NoS P s) (hcx : s.comps c = some cx) (hcd : cx.dirty = false)
    (hn : rec (.notify (cx.owner, cx.name) cx.value.join none) ((s.setComp c { cx with dirty := true }).withStore σ) =
      some (t1, r1)) :
    ∃ s1, t1 = s1.withStore σ ∧ r1 = .ok none ∧ Inv NoS P s1 ∧ StaticEq s s1 ∧ s1.store = s.store ∧ s1.cur = s.cur ∧
      s1.dead = s.dead ∧ SameSubs s s1 ∧ Dirtied s s1 ∧ ∃ y, s1.comps c = some y ∧ y.dirty = true := by
  have invd : Inv NoS (fun q => P q ∨ q = c) (s.setComp c { cx with dirty := true }) :=
    (inv.mono_P (P' := fun q => P q ∨ q = c) (fun q hq => Or.inl hq)).update_comp hcx rfl rfl rfl rfl rfl
      (fun _ h => h) (fun _ h _ => h) inv.curStack (fun h' => absurd h' (by simp [NoS]))
      (fun _ => ⟨fun hf => by simp [inv.not_first_of_clean (by simp [NoS]) hcx hcd] at hf,
        (inv.evald c cx hcx (by simp [NoS])).2⟩)
      (fun hd0 => by simp at hd0) (fun v hv _ => ⟨hv, Or.inr (Or.inr rfl)⟩)
  have sed : StaticEq s (s.setComp c { cx with dirty := true }) := StaticEq.of_setComp hcx rfl rfl rfl
  have hkc : (s.setComp c { cx with dirty := true }).kindAt (cx.owner, cx.name) = some .comp := by
    rw [sed.kindAt]; exact w.slotKind c cx hcx
  obtain ⟨s1, et1, g1, g2, g3, g4, g5, g6, g7, g8, g9⟩ := ih.notify _ _ _ _ t1 r1 _ σ (w.of_staticEq sed) invd hkc hn
  refine ⟨s1, et1, g1, g2.drop_P ?_, sed.trans g3, g4, g5, g6, g7, (Dirtied.mark hcx hcd).trans g8,
    g8.dirty (setComp_same s c { cx with dirty := true }) rfl⟩
  intro q y kk hq hyd hkk hm
  have : s1.keyOf (.comp c) = some (cx.owner, cx.name) := by rw [g3.keyOf]; simp [St.keyOf]
  rw [this] at hkk; cases hkk
  obtain ⟨z, hz, hzd⟩ := g9 q ((g7.2 _ _ _ q).mp hm)
  rw [hq] at hz; cases hz; simp [hyd] at hzd

/-- the first pass of `_mesa_notify`: the dependents (`_set_dirty`), each with the cascade it starts -/
theorem notifyLoop_cascade {rec : Rec} (ih : CascadeIH rec) (k : Key) (old new : V) (σ : Key → V) :
    ∀ (xs : List Sub) (s t : St) (r : Except Err Unit) (P : Nat → Prop), Stat s → Inv NoS P s →
    (∀ x ∈ xs, x.isDep = true) →
    (∀ c, Sub.dirty c ∈ xs → ∃ x, s.comps c = some x) →
    (∀ c, Sub.dirty c ∈ xs → Sub.dirty c ∈ (s.regs k.1).subs k.2 .change) →
    notifyLoop rec k old new xs (s.withStore σ) = some (t, r) →
    ∃ s', t = s'.withStore σ ∧
    r = .ok () ∧ Inv NoS P s' ∧ StaticEq s s' ∧ s'.store = s.store ∧ s'.cur = s.cur ∧
    s'.dead = s.dead ∧ SameSubs s s' ∧ Dirtied s s' ∧
    (∀ c, Sub.dirty c ∈ xs → ∃ y, s'.comps c = some y ∧ y.dirty = true) := by
  intro xs
  induction xs with
  | nil =>
    intro s t r P _ inv _ _ _ h
    simp only [notifyLoop] at h
    cases h
    exact ⟨s, rfl, rfl, inv, StaticEq.refl s, rfl, rfl, rfl, SameSubs.refl s, Dirtied.refl s, fun c hc => by simp at hc⟩
  | cons x xs ihx =>
    intro s t r P w inv hdep hdef hsub h
    unfold notifyLoop at h
    cases x with
    | user hh => have := hdep (Sub.user hh) List.mem_cons_self; simp [Sub.isDep] at this
    | dirty c =>
      have hg : (!(s.withStore σ).alive (Sub.dirty c) ||
          !((((s.withStore σ).regs k.1).subs k.2 .change).contains (Sub.dirty c))) = false := by
        have := hsub c List.mem_cons_self
        simp [this]
      rw [hg] at h
      simp only [Bool.false_eq_true, if_false] at h
      obtain ⟨cx, hcx⟩ := hdef c List.mem_cons_self
      have hcx' : (s.withStore σ).comps c = some cx := hcx
      simp only [hcx'] at h
      have hdep' : ∀ x ∈ xs, x.isDep = true := fun x hx => hdep x (List.mem_cons_of_mem _ hx)
      by_cases hcd : cx.dirty = true
      · rw [if_pos hcd] at h
        obtain ⟨s', e0, h1, h2, h3, h4, h5, h6, h7, h8, h9⟩ := ihx s t r P w inv hdep'
          (fun c' hc' => hdef c' (List.mem_cons_of_mem _ hc')) (fun c' hc' => hsub c' (List.mem_cons_of_mem _ hc')) h
        refine ⟨s', e0, h1, h2, h3, h4, h5, h6, h7, h8, ?_⟩
        intro c' hc'
        rcases List.mem_cons.mp hc' with hc' | hc'
        · cases hc'; exact h8.dirty hcx hcd
        · exact h9 c' hc'
      · rw [if_neg hcd] at h
        have hcd' : cx.dirty = false := by simpa using hcd
        rw [setComp_withStore] at h
        cases hn : rec (.notify (cx.owner, cx.name) cx.value.join none)
            ((s.setComp c { cx with dirty := true }).withStore σ) with
        | none => simp [hn] at h
        | some res =>
          obtain ⟨t1, r1⟩ := res
          obtain ⟨s1, rfl, rfl, inv1, sed1, g4, g5, g6, hss, hdirt, z, hz, hzd⟩ := setDirty_spec ih σ w inv hcx hcd' hn
          rw [hn] at h
          simp only at h
          obtain ⟨s', e0, h1, h2, h3, h4, h5, h6, h7, h8, h9⟩ := ihx s1 t r P (w.of_staticEq sed1) inv1 hdep'
            (fun c' hc' => by
              obtain ⟨z, hz⟩ := hdef c' (List.mem_cons_of_mem _ hc')
              obtain ⟨z', hz', _⟩ := sed1.defined hz
              exact ⟨z', hz'⟩)
            (fun c' hc' => (hss.2 _ _ _ c').mpr (hsub c' (List.mem_cons_of_mem _ hc'))) h
          refine ⟨s', e0, h1, h2, sed1.trans h3, h4.trans g4, h5.trans g5, h6.trans g6,
            hss.trans h7, hdirt.trans h8, ?_⟩
          intro c' hc'
          rcases List.mem_cons.mp hc' with hc' | hc'
          · cases hc'; exact h8.dirty hz hzd
          · exact h9 c' hc'

/-- the first pass of `notifyT` in a cascade: every dependent of `k` ends up dirty; what is left of the call is the
    second pass (the user handlers) and the pruning of the dead references -/
theorem notifyT_deps {rec : Rec} (ih : CascadeIH rec) (k : Key) (old new : V) (σ : Key → V) {s t : St} {r : R}
    {P : Nat → Prop} (w : Stat s) (inv : Inv NoS P s) (h : notifyT rec k old new (s.withStore σ) = some (t, r)) :
    ∃ s1, Inv NoS P s1 ∧ StaticEq s s1 ∧ s1.store = s.store ∧ s1.cur = s.cur ∧ s1.dead = s.dead ∧ SameSubs s s1 ∧
      Dirtied s s1 ∧ (∀ c, Sub.dirty c ∈ (s.regs k.1).subs k.2 .change → ∃ y, s1.comps c = some y ∧ y.dirty = true) ∧
      ∃ s2 r2, notifyLoop rec k old new (((s.regs k.1).subs k.2 .change).filter fun x => !x.isDep) (s1.withStore σ) =
          some (s2, r2) ∧
        ((∃ e, r2 = .error e ∧ t = s2 ∧ r = .err e) ∨ (r2 = .ok () ∧ r = .ok none ∧
          t = s2.setReg k.1 ((s2.regs k.1).setSubs k.2 .change (((s2.regs k.1).subs k.2 .change).filter s2.alive)))) := by
  unfold notifyT at h
  simp only [withStore_regs] at h
  cases hl : notifyLoop rec k old new (((s.regs k.1).subs k.2 .change).filter Sub.isDep) (s.withStore σ) with
  | none => simp [hl] at h
  | some res =>
    obtain ⟨t1, r1⟩ := res
    obtain ⟨s1, e1, h1, h2, h3, h4, h5, h6, h7, h8, h9⟩ := notifyLoop_cascade ih k old new σ _ s t1 r1 P w inv
      (fun x hx => (List.mem_filter.mp hx).2)
      (fun c hc => by
        obtain ⟨_, x, hx, _⟩ := inv.subsOf k.1 k.2 .change c ((mem_filter_isDep_dirty c _).mp hc)
        exact ⟨x, hx⟩) (fun c hc => (mem_filter_isDep_dirty c _).mp hc) hl
    rw [hl] at h
    subst h1 e1
    simp only at h
    refine ⟨s1, h2, h3, h4, h5, h6, h7, h8, fun c hc => h9 c ((mem_filter_isDep_dirty c _).mpr hc), ?_⟩
    split at h
    · cases h
    · next s2 e hl2 => cases h; exact ⟨_, _, hl2, Or.inl ⟨e, rfl, rfl, rfl⟩⟩
    · next s2 u hl2 => cases h; exact ⟨_, _, hl2, Or.inr ⟨rfl, rfl, rfl⟩⟩

/-- the `change` signal of a Computable that was just marked dirty -/
theorem notifyT_cascade {rec : Rec} (ih : CascadeIH rec) (k : Key) (old new : V) (σ : Key → V) {s t : St} {r : R}
    {P : Nat → Prop} (w : Stat s) (inv : Inv NoS P s) (hk : s.kindAt k = some .comp)
    (h : notifyT rec k old new (s.withStore σ) = some (t, r)) :
    ∃ s', t = s'.withStore σ ∧
    r = .ok none ∧ Inv NoS P s' ∧ StaticEq s s' ∧ s'.store = s.store ∧ s'.cur = s.cur ∧ s'.dead = s.dead ∧
    SameSubs s s' ∧ Dirtied s s' ∧
    (∀ c, Sub.dirty c ∈ (s.regs k.1).subs k.2 .change → ∃ y, s'.comps c = some y ∧ y.dirty = true) := by
  obtain ⟨s1, h2, h3, h4, h5, h6, h7, h8, h9, s2, r2, hl2, hres⟩ := notifyT_deps ih k old new σ w inv h
  -- the second pass: the user handlers of a Computable are passive
  have hpass : ∀ hh, Sub.user hh ∈ (s.regs k.1).subs k.2 .change → s1.progs hh = [] := by
    intro hh hm
    rw [h3.progs]
    rcases inv.userOK k.1 k.2 .change hh hm with hp | hp
    · exact hp
    · rw [hk] at hp; cases hp
  obtain ⟨lg, hq⟩ := notifyLoop_quiet rec k old new (((s.regs k.1).subs k.2 .change).filter fun x => !x.isDep)
    (s1.withStore σ) (fun hh hm => hpass hh ((mem_filter_notDep_user hh _).mp hm))
    (fun c hc => absurd hc (mem_filter_notDep_dirty c _))
  rw [hq] at hl2
  cases hl2
  rcases hres with ⟨e, he, _⟩ | ⟨_, rfl, rfl⟩
  · cases he
  have invl : Inv NoS P { s1 with log := s1.log ++ lg } := h2.congr rfl rfl rfl rfl h2.curStack
  have sel : StaticEq s1 { s1 with log := s1.log ++ lg } := .same rfl rfl rfl
  exact ⟨({ s1 with log := s1.log ++ lg } : St).setReg k.1 ((s1.regs k.1).setSubs k.2 .change
      (((s1.regs k.1).subs k.2 .change).filter s1.alive)), rfl, rfl, invl.prune k,
    (h3.trans sel).trans (StaticEq.of_setReg rfl), h4, h5, h6,
    h7.trans (.setReg rfl (prune_dirty ({ s1 with log := s1.log ++ lg } : St) k)), h8, h9⟩

theorem cascade_exec (f : Nat) : CascadeIH (exec f) := by
  induction f with
  | zero => exact ⟨fun k o n s t r P σ _ _ _ h => by simp [exec] at h⟩
  | succ f ih => exact ⟨fun k o n s t r P σ w inv hk h => notifyT_cascade ih k o n σ w inv hk h⟩

/-- the reads a user handler makes run at top level: nothing is evaluating, every dirtying has been propagated -/
theorem readAll_spec {rec : Rec} (ih : IH rec) : ∀ (cs : List Nat) (s s' : St) (r : R), Stat s → Inv NoS NoP s →
    readAll rec cs s = some (s', r) →
    Inv NoS NoP s' ∧ StaticEq s s' ∧ s'.store = s.store ∧ s'.cur = s.cur := by
  intro cs
  induction cs with
  | nil =>
    intro s s' r _ inv h
    simp only [readAll] at h
    cases h
    exact ⟨inv, StaticEq.refl s, rfl, rfl⟩
  | cons c cs ihc =>
    intro s s' r w inv h
    simp only [readAll] at h
    split at h
    · cases h
    · next s1 e hg =>
      cases h
      obtain ⟨g1, gk, g4, _⟩ :=
        post_common (ih.get c s _ _ NoS w inv (by simp [NoS]) (fun q hq => by simp [NoS] at hq) hg)
      exact ⟨g1, gk.stat, gk.store, g4⟩
    · next s1 v hg =>
      obtain ⟨g1, gk, g4, _⟩ :=
        post_common (ih.get c s _ _ NoS w inv (by simp [NoS]) (fun q hq => by simp [NoS] at hq) hg)
      obtain ⟨i1, i2, i3, i4⟩ := ihc s1 s' r (w.of_staticEq gk.stat) g1 h
      exact ⟨i1, gk.stat.trans i2, i3.trans gk.store, i4.trans g4⟩

/-- the second pass of `_mesa_notify` at top level: the user handlers, which may read Computables -/
theorem notifyLoop_users {rec : Rec} (ih : IH rec) (k : Key) (old new : V) :
    ∀ (xs : List Sub) (s s' : St) (r : Except Err Unit), (∀ x ∈ xs, x.isDep = false) → Stat s → Inv NoS NoP s →
    notifyLoop rec k old new xs s = some (s', r) →
    Inv NoS NoP s' ∧ StaticEq s s' ∧ s'.store = s.store ∧ s'.cur = s.cur := by
  intro xs
  induction xs with
  | nil =>
    intro s s' r _ _ inv h
    simp only [notifyLoop] at h
    cases h
    exact ⟨inv, StaticEq.refl s, rfl, rfl⟩
  | cons x xs ihx =>
    intro s s' r hdep w inv h
    have hdep' : ∀ x ∈ xs, x.isDep = false := fun x hx => hdep x (List.mem_cons_of_mem _ hx)
    unfold notifyLoop at h
    split at h
    · exact ihx s s' r hdep' w inv h
    · cases x with
      | dirty c => have := hdep (Sub.dirty c) List.mem_cons_self; simp [Sub.isDep] at this
      | user hh =>
        simp only at h
        have sel : StaticEq s { s with log := s.log ++ [⟨hh, k.1, k.2, old, new⟩] } := .same rfl rfl rfl
        have hra := fun s1 r1 => readAll_spec ih (s.progs hh) _ s1 r1 (w.of_staticEq sel)
          (inv.congr rfl rfl rfl rfl inv.curStack)
        split at h
        · cases h
        · next s1 e hg =>
          cases h
          obtain ⟨g1, g2, g3, g4⟩ := hra _ _ hg
          exact ⟨g1, sel.trans g2, g3, g4⟩
        · next s1 u hg =>
          obtain ⟨g1, g2, g3, g4⟩ := hra _ _ hg
          obtain ⟨i1, i2, i3, i4⟩ := ihx s1 s' r hdep' (w.of_staticEq (sel.trans g2)) g1 h
          exact ⟨i1, (sel.trans g2).trans i2, i3.trans g3, i4.trans g4⟩

/-- a top-level assignment `owner.name = v` (G7 repaired): the value is stored, every dependent is marked dirty, then
    the user handlers run — they may read Computables —; whether it returns or a handler raises, the invariant holds
    afterwards and the Observable holds `v` -/
theorem assign_spec (f : Nat) {k : Key} {v : V} {s s' : St} {r : R} (w : Stat s) (inv : Inv NoS NoP s)
    (hcur : s.cur = none) (h : exec f (.assign k v) s = some (s', r)) :
    Inv NoS NoP s' ∧ StaticEq s s' ∧ s'.cur = none ∧
    s'.store = (fun k' => if k' = k then v else s.store k') := by
  cases f with
  | zero => simp [exec] at h
  | succ f =>
    simp only [exec, stepF, assignT] at h
    rw [if_neg (by simp [hcur])] at h
    generalize hσ : (fun k' => if k' = k then v else s.store k') = σ at h ⊢
    have hs0 : ({ s with store := σ } : St) = s.withStore σ := rfl
    rw [hs0] at h
    cases hn : exec f (.notify k (s.store k) v) (s.withStore σ) with
    | none => simp [hn] at h
    | some res =>
      obtain ⟨t, rt⟩ := res
      have key : Inv NoS NoP t ∧ StaticEq s t ∧ t.cur = none ∧ t.store = σ := by
        cases f with
        | zero => simp [exec] at hn
        | succ f =>
          simp only [exec, stepF] at hn
          obtain ⟨s1, h2, h3, h4, h5, _, h7, _, h9, t2, r2, hl2, hres⟩ :=
            notifyT_deps (cascade_exec f) k (s.store k) v σ w inv hn
          -- with every dependent of `k` dirty, the new value is consistent with all clean Computeds
          have inv1 : Inv NoS NoP (s1.withStore σ) := by
            refine ⟨h2.stackDirty, h2.curStack, h2.evald, h2.parents, h2.subsOf, ?_, h2.userOK⟩
            intro c x hx hd p0 v0 hp0
            have hc0 := h2.current c x hx hd p0 v0 hp0
            cases p0 with
            | comp c' => exact hc0
            | obs k' =>
              show σ k' = v0
              rw [← hσ]
              by_cases hk : k' = k
              · subst hk
                exfalso
                obtain ⟨_, _, kk, hkk, _, hm⟩ := h2.parents c x hx (.obs k') v0 hp0
                simp only [St.keyOf] at hkk; cases hkk
                obtain ⟨z, hz, hzd⟩ := h9 c ((h7.2 _ _ _ c).mp hm)
                have hx' : s1.comps c = some x := hx
                rw [hx'] at hz; cases hz; simp [hd] at hzd
              · simp only [hk, if_false]
                have : s1.store k' = v0 := hc0
                rw [h4] at this; exact this
          have se1 : StaticEq s (s1.withStore σ) := h3.trans (.same rfl rfl rfl)
          obtain ⟨g1, g2, g3, g4⟩ := notifyLoop_users (exec_IH f) k (s.store k) v _ _ t2 r2
            (fun x hx => by simpa using (List.mem_filter.mp hx).2) (w.of_staticEq se1) inv1 hl2
          rcases hres with ⟨e, _, rfl, _⟩ | ⟨_, _, rfl⟩
          · exact ⟨g1, se1.trans g2, g4.trans (h5.trans hcur), g3⟩
          · exact ⟨g1.prune k, (se1.trans g2).trans (StaticEq.of_setReg rfl), g4.trans (h5.trans hcur), g3⟩
      rw [hn] at h
      cases rt <;>
      · simp only at h
        cases h
        exact key


/-! ### the top-level operations -/

/-- conditions under which `owner.name = Computed(func)` is a definition the theorems speak about -/
structure DefineOK (s : St) (c o n : Nat) (t : Tree) : Prop where
  fresh : s.comps c = none
  pure : Pure t
  ranked : Ranked c t
  obsKind : ObsKeys (fun k => s.kindAt k = some .obs) t
  slotKind : s.kindAt (o, n) = some .comp
  slotFree : ¬ s.isSlot (o, n)

theorem setComp_cases {s : St} {c q : Nat} {x y : Comp} (h : (s.setComp c x).comps q = some y) :
    (q = c ∧ y = x) ∨ (q ≠ c ∧ s.comps q = some y) := by
  by_cases hq : q = c
  · subst hq; rw [setComp_same] at h; cases h; exact Or.inl ⟨rfl, rfl⟩
  · rw [setComp_ne _ _ hq] at h; exact Or.inr ⟨hq, h⟩

theorem setComp_elim {s : St} {c : Nat} {x : Comp} {P : Nat → Comp → Prop} (h0 : P c x)
    (h : ∀ q y, s.comps q = some y → P q y) {q : Nat} {y : Comp} (hy : (s.setComp c x).comps q = some y) : P q y := by
  rcases setComp_cases hy with ⟨rfl, rfl⟩ | ⟨_, hy⟩
  · exact h0
  · exact h q y hy

theorem Prefix.obsKeys {ok : Key → Prop} {t : Tree} {ps : List (PRef × V)} (hp : Prefix t ps) (ho : ObsKeys ok t) :
    ∀ k x, (PRef.obs k, x) ∈ ps → ok k := by
  induction hp with
  | nil _ => intro k x hm; simp at hm
  | read k0 cont x0 ps0 _ ih =>
    cases ho with | read _ _ hk0 hc0 =>
    intro k x hm
    rcases List.mem_cons.mp hm with hm | hm
    · cases hm; exact hk0
    · exact ih (hc0 _) k x hm
  | readC c0 cont x0 ps0 _ ih =>
    cases ho with | readC _ _ hc0 =>
    intro k x hm
    rcases List.mem_cons.mp hm with hm | hm
    · cases hm
    · exact ih (hc0 _) k x hm

theorem Inv.obsParent_kind {S P : Nat → Prop} {s : St} (inv : Inv S P s) (w : Stat s) {q : Nat} {y : Comp}
    (hS : ¬ S q) (hy : s.comps q = some y) {k : Key} {v : V} (hp : (PRef.obs k, v) ∈ y.parents) :
    s.kindAt k = some .obs := by
  obtain ⟨e1, e2⟩ := inv.evald q y hy hS
  cases hf : y.first with
  | true =>
    obtain ⟨_, ps, hpr, hmem⟩ := e1 hf
    exact hpr.obsKeys (w.obsKind q y hy) k v ((hmem _).mpr hp)
  | false =>
    obtain ⟨_, ps, _, hpr, hmem⟩ := e2 hf
    exact hpr.prefix.obsKeys (w.obsKind q y hy) k v ((hmem _).mpr hp)

/-- a quiescent state (between top-level operations) in which everything the theorems need holds -/
structure Good (s : St) : Prop where
  stat : Stat s
  inv : Inv NoS NoP s
  cur : s.cur = none

/-- `owner.name = Computed(func)` before its first evaluation -/
theorem Good.define {s : St} {c o n : Nat} {t : Tree} (g : Good s) (ok : DefineOK s c o n t) :
    Good (s.setComp c { owner := o, name := n, tree := t }) := by
  obtain ⟨w, inv, hcur⟩ := g
  have hne : ∀ q y, s.comps q = some y → q ≠ c := by
    intro q y hy e; subst e; rw [ok.fresh] at hy; cases hy
  have hkey : ∀ p k, s.keyOf p = some k → (s.setComp c { owner := o, name := n, tree := t }).keyOf p = some k := by
    intro p k hk
    cases p with
    | obs k' => exact hk
    | comp c' =>
      simp only [St.keyOf] at hk ⊢
      cases hc' : s.comps c' with
      | none => simp [hc'] at hk
      | some y => rw [setComp_ne _ _ (hne c' y hc'), hc']; simpa [hc'] using hk
  refine ⟨⟨w.regs, ?_, ?_, ?_, ?_, ?_⟩,
    ⟨fun q hq => by simp [NoS] at hq, fun p hp => inv.curStack p hp, ?_, ?_, ?_, ?_, inv.userOK⟩, hcur⟩
  · exact fun _ _ => setComp_elim ok.pure w.pure
  · exact fun _ _ => setComp_elim ok.ranked w.ranked
  · exact fun _ _ => setComp_elim ok.obsKind w.obsKind
  · exact fun _ _ => setComp_elim ok.slotKind w.slotKind
  · intro q q' y y' hy hy' ho hn
    rcases setComp_cases hy with ⟨hq, rfl⟩ | ⟨_, hy⟩
    · rcases setComp_cases hy' with ⟨hq', _⟩ | ⟨_, hy'⟩
      · rw [hq, hq']
      · exact absurd ⟨q', y', hy', by simp at ho hn; rw [← ho, ← hn]⟩ ok.slotFree
    · rcases setComp_cases hy' with ⟨_, rfl⟩ | ⟨_, hy'⟩
      · exact absurd ⟨q, y, hy, by simp at ho hn; rw [ho, hn]⟩ ok.slotFree
      · exact w.slots q q' y y' hy hy' ho hn
  · exact fun _ _ hy _ => setComp_elim ⟨fun _ => ⟨rfl, [], .nil _, fun e => Iff.rfl⟩, fun h => by simp at h⟩
      (fun q y hy => inv.evald q y hy (by simp [NoS])) hy
  · intro q y hy p v hp
    rcases setComp_cases hy with ⟨_, rfl⟩ | ⟨_, hy⟩
    · simp at hp
    · obtain ⟨h1, h2, k, h3, h4, h5⟩ := inv.parents q y hy p v hp
      refine ⟨h1, ?_, k, hkey p k h3, h4, h5⟩
      rintro k' rfl ⟨q', y', hy', rfl⟩
      rcases setComp_cases hy' with ⟨_, rfl⟩ | ⟨_, hy'⟩
      · -- the new slot is declared as a Computable, what `q` read was declared as an Observable
        have := inv.obsParent_kind w (by simp [NoS]) hy hp
        rw [ok.slotKind] at this; cases this
      · exact h2 _ rfl ⟨q', y', hy', rfl⟩
  · intro o' n' t' q hq
    obtain ⟨ht, y, hy, p, v, hp, hk⟩ := inv.subsOf o' n' t' q hq
    exact ⟨ht, y, by rw [setComp_ne _ _ (hne q y hy)]; exact hy, p, v, hp, hkey p _ hk⟩
  · intro q y hy hd p v hp
    rcases setComp_cases hy with ⟨_, rfl⟩ | ⟨_, hy⟩
    · simp at hd
    · refine Current.of_eq (s := s) (s' := s.setComp c { owner := o, name := n, tree := t }) rfl ?_
        (inv.current q y hy hd p v hp)
      intro c' z hz vv hv hdz
      exact ⟨z, by rw [setComp_ne _ _ (hne c' z hz)]; exact hz, hv, hdz⟩


inductive OpOK (s : St) : Op → Prop
  | define (c o n : Nat) (t : Tree) (h : DefineOK s c o n t) : OpOK s (.define c o n t)
  | assign (k : Key) (v : V) : OpOK s (.assign k v)
  | read (c : Nat) : OpOK s (.read c)
  | observe (k : Key) (h : Nat) (hp : s.progs h = [] ∨ s.kindAt k = some .obs) : OpOK s (.observe k h)
  | unobserve (k : Key) (h : Nat) : OpOK s (.unobserve k h)
  | drop (h : Nat) : OpOK s (.drop h)

theorem Good.read {s s' : St} (g : Good s) {fuel c : Nat} {r : R} (h : exec fuel (.readC c) s = some (s', r)) :
    ((∀ v, r = .ok v → PostGet NoS c s s' v) ∧ (∀ e, r = .err e → PostErr NoS c s s')) ∧
    Good s' ∧ s'.store = s.store ∧ StaticEq s s' ∧
    (∀ q x, s.comps q = some x → x.dirty = false → s'.comps q = some x) ∧
    (∀ q, c < q → s'.comps q = s.comps q) ∧ Below (· ≤ c) s s' := by
  have hp := (exec_IH fuel).get c s s' r NoS g.stat g.inv (by simp [NoS]) (fun q hq => by simp [NoS] at hq) h
  obtain ⟨i1, ik, i4, i6, i7⟩ := post_common hp
  exact ⟨hp, ⟨g.stat.of_staticEq ik.stat, i1, i4.trans g.cur⟩, ik.store, ik.stat, ik.keepClean,
    fun q hq => i6 q hq (by rw [g.cur]; simp), i7⟩

theorem read_spec_all (fuel : Nat) {s s' : St} {c : Nat} {r : R} (g : Good s)
    (h : exec fuel (.readC c) s = some (s', r)) :
    Good s' ∧ s'.store = s.store ∧ StaticEq s s' ∧
    (∀ v, r = .ok v → ∃ x, s'.comps c = some x ∧ x.dirty = false ∧ x.value = some v ∧ Den s' x.tree v) ∧
    (∀ e, r = .err e → s.comps c = none ∨
      ∃ x, s'.comps c = some x ∧ x.first = true ∧ x.dirty = true ∧ DenFail s' x.tree) := by
  obtain ⟨⟨hok, herr⟩, g', hst, se, _⟩ := g.read h
  refine ⟨g', hst, se, fun v hv => ?_, fun e he => ?_⟩
  · obtain ⟨y, hy, hyd, hyv, _⟩ := (hok v hv).clean
    obtain ⟨v', hv', hden⟩ := clean_den g'.inv c y hy hyd
    rw [hyv] at hv'; cases hv'
    exact ⟨y, hy, hyd, hyv, hden⟩
  · exact (herr e he).failed.imp id fun ⟨y, hy, hyf, hyd, hdf, _⟩ => ⟨y, hy, hyf, hyd, hdf⟩

theorem read_spec (fuel : Nat) {s s' : St} {c : Nat} {v : V} (g : Good s)
    (h : exec fuel (.readC c) s = some (s', .ok v)) :
    Good s' ∧ s'.store = s.store ∧ StaticEq s s' ∧
    ∃ x, s'.comps c = some x ∧ x.dirty = false ∧ x.value = some v ∧ Den s' x.tree v := by
  obtain ⟨g', hst, se, hok, _⟩ := read_spec_all fuel g h
  exact ⟨g', hst, se, hok v rfl⟩

theorem Good.setReg {s : St} (g : Good s) {o : Nat} {r' : Reg Sub} (hdecl : r'.decls = (s.regs o).decls)
    (hdirty : ∀ n t q, Sub.dirty q ∈ r'.subs n t ↔ Sub.dirty q ∈ (s.regs o).subs n t)
    (huser : ∀ n t h, Sub.user h ∈ r'.subs n t →
      Sub.user h ∈ (s.regs o).subs n t ∨ s.progs h = [] ∨ s.kindAt (o, n) = some .obs) :
    Good (s.setReg o r') :=
  ⟨g.stat.of_staticEq (.of_setReg hdecl), g.inv.setReg hdecl hdirty huser, g.cur⟩

/-- every top-level operation — returning or raising — leaves a quiescent state in which the invariant holds -/
theorem step_good (fuel : Nat) {s s' : St} {op : Op} {r : R} (g : Good s) (ok : OpOK s op)
    (h : step fuel s op = some (s', r)) : Good s' := by
  cases ok with
  | define c o n t hd =>
    exact (read_spec_all fuel (g.define hd) h).1
  | assign k x =>
    obtain ⟨i, se, hc, _⟩ := assign_spec fuel g.stat g.inv g.cur h
    exact ⟨g.stat.of_staticEq se, i, hc⟩
  | read c => exact (read_spec_all fuel g h).1
  | observe k hh hprog =>
    simp only [step] at h
    by_cases hv : Reg.validObserve (s.regs k.1) (.one k.2) (.one .change)
    · rw [Reg.observe_ok (g.stat.regs k.1).wf hv] at h
      cases h
      refine g.setReg rfl (fun n t q => ?_) fun n t h' hm => ?_
      · simp only [Reg.updWhere]; split <;> simp
      · simp only [Reg.updWhere] at hm
        split at hm
        · rename_i hc
          rcases List.mem_append.mp hm with hm | hm
          · exact Or.inl hm
          · -- the new handler, on `change` of `k`
            simp only [List.mem_singleton, Sub.user.injEq] at hm
            subst hm
            simp only [Sel.matches, decide_eq_true_eq] at hc
            have : (k.1, n) = k := by rw [← hc.1]
            rw [this]; exact Or.inr hprog
        · exact Or.inl hm
    · rw [Reg.observe_err hv] at h; cases h; exact g
  | unobserve k hh =>
    -- with a concrete signal type `unobserve` does not raise
    simp only [step] at h
    rw [Reg.unobserve_ok (g.stat.regs k.1).wf (fun ⟨a, _, ht, _⟩ => by cases ht)] at h
    cases h
    refine g.setReg rfl (fun n t q => ?_) fun n t h' hm => Or.inl ?_
    · simp only [Reg.updWhere]; split <;> simp [Reg.keep]
    · simp only [Reg.updWhere] at hm
      split at hm
      · exact (List.mem_filter.mp hm).1
      · exact hm
  | drop hh =>
    simp only [step] at h
    cases h
    exact ⟨⟨g.stat.regs, g.stat.pure, g.stat.ranked, g.stat.obsKind, g.stat.slotKind, g.stat.slots⟩,
      g.inv.congr rfl rfl rfl rfl g.inv.curStack, g.cur⟩

/-- declarations of the owners: distinct names, every one an Observable or a Computable -/
def DeclsOK (decls : Nat → List Decl) : Prop :=
  ∀ o, ((decls o).map (·.name)).Nodup ∧ ∀ d ∈ decls o, d.types = [.change]

theorem init_good {decls : Nat → List Decl} (hd : DeclsOK decls) (progs : Nat → List Nat) : Good (init decls progs) := by
  have hc : ∀ {c x}, (init decls progs).comps c = some x → False := fun h => nomatch h
  have hm : ∀ {o n t} {y : Sub}, y ∈ ((init decls progs).regs o).subs n t → False := fun h => nomatch h
  exact ⟨⟨fun o => ⟨(hd o).1, (hd o).2⟩, fun _ _ h => (hc h).elim, fun _ _ h => (hc h).elim, fun _ _ h => (hc h).elim,
      fun _ _ h => (hc h).elim, fun _ _ _ _ h => (hc h).elim⟩,
    ⟨fun _ h => False.elim h, (fun _ h => nomatch h), fun _ _ h _ => (hc h).elim, fun _ _ h => (hc h).elim,
      fun _ _ _ _ h => (hm h).elim, fun _ _ h => (hc h).elim, fun _ _ _ _ h => (hm h).elim⟩, rfl⟩

end Mesa.Computed
