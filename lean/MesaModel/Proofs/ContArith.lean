import MesaModel.Model.Cont
import MesaModel.Proofs.TorusDist
/-! Arithmetic facts about the per-axis functions of the continuous-space model (core Lean only). -/
namespace Mesa.Cont

/-- in the form `omega` consumes: with this in the context `iabs x` is an atom -/
theorem iabs_cases (x : Int) : (0 ≤ x ∧ iabs x = x) ∨ (x < 0 ∧ iabs x = -x) := by
  unfold iabs
  omega

theorem iabs_of_nonneg {x : Int} (h : 0 ≤ x) : iabs x = x := if_neg (by omega)

theorem iabs_nonneg (x : Int) : 0 ≤ iabs x := by
  unfold iabs
  omega

theorem iabs_sub_comm (a b : Int) : iabs (a - b) = iabs (b - a) := by
  unfold iabs
  omega

theorem iabs_neg (x : Int) : iabs (-x) = iabs x := by
  unfold iabs
  omega

theorem sq_neg (x : Int) : sq (-x) = sq x := Int.neg_mul_neg x x

theorem sq_nonneg (x : Int) : 0 ≤ sq x := by
  rcases Int.le_total 0 x with h | h
  · exact Int.mul_nonneg h h
  · rw [← sq_neg]
    exact Int.mul_nonneg (Int.neg_nonneg_of_nonpos h) (Int.neg_nonneg_of_nonpos h)

theorem sq_iabs (x : Int) : sq (iabs x) = sq x := by
  unfold iabs
  split
  · exact sq_neg x
  · rfl

theorem sq_eq_zero {x : Int} (h : sq x = 0) : x = 0 := (Int.mul_eq_zero.mp h).elim id id

theorem sq_le_sq_of_le_iabs {x y : Int} (h0 : 0 ≤ x) (h : x ≤ iabs y) : sq x ≤ sq y := by
  rw [← sq_iabs y]
  exact Int.mul_le_mul h h h0 (iabs_nonneg y)

/-- in the form `omega` consumes (the product is an atom) -/
theorem emod_spec (x s : Int) (hs : 0 < s) : 0 ≤ x % s ∧ x % s < s ∧ x = x % s + x / s * s :=
  ⟨Int.emod_nonneg x (by omega), Int.emod_lt_of_pos x hs, (Int.emod_add_ediv_mul x s).symm⟩

theorem dvd_iff_mul (x s : Int) : s ∣ x ↔ ∃ k : Int, x = k * s :=
  ⟨fun ⟨k, hk⟩ => ⟨k, by rw [hk, Int.mul_comm]⟩, fun ⟨k, hk⟩ => ⟨k, by rw [hk, Int.mul_comm]⟩⟩

theorem iabs_emod_eq_zero_iff (s a b : Int) : iabs (a - b) % s = 0 ↔ ∃ k : Int, a - b = k * s := by
  rw [← dvd_iff_mul, ← Int.dvd_iff_emod_eq_zero]
  unfold iabs
  split
  · exact Int.dvd_neg
  · rfl

/-! ### separation along one axis -/

theorem axisDist_comm (t : Bool) (s a b : Int) : axisDist t s a b = axisDist t s b a := by
  unfold axisDist
  rw [iabs_sub_comm]

theorem axisDist_flat (s a b : Int) : axisDist false s a b = iabs (a - b) := rfl

theorem axisDist_torus_def (s a b : Int) :
    axisDist true s a b = min (iabs (a - b) % s) (s - iabs (a - b) % s) := rfl

theorem axisDist_nonneg (t : Bool) (s a b : Int) (hs : 0 < s) : 0 ≤ axisDist t s a b := by
  cases t
  · exact iabs_nonneg _
  · have := emod_spec (iabs (a - b)) s hs
    rw [axisDist_torus_def]
    omega

theorem axisDist_self (t : Bool) (s a : Int) (hs : 0 ≤ s) : axisDist t s a a = 0 := by
  cases t
  · rw [axisDist_flat, Int.sub_self]
    rfl
  · rw [axisDist_torus_def, Int.sub_self, show iabs 0 = 0 from rfl, Int.zero_emod]
    omega

theorem axisDist_eq_zero_iff (t : Bool) (s a b : Int) (hs : 0 < s) :
    axisDist t s a b = 0 ↔ a = b ∨ (t = true ∧ iabs (a - b) % s = 0) := by
  cases t
  · simp only [axisDist_flat, Bool.false_eq_true, false_and, or_false]
    unfold iabs
    omega
  · have := emod_spec (iabs (a - b)) s hs
    simp only [true_and]
    constructor
    · rw [axisDist_torus_def]
      omega
    · rintro (rfl | h)
      · exact axisDist_self true s a (by omega)
      · rw [axisDist_torus_def]
        omega

theorem axisDist_eq_zero_of_lt {t : Bool} {s a b : Int} (hs : 0 < s) (h : iabs (a - b) < s) :
    axisDist t s a b = 0 ↔ a = b := by
  rw [axisDist_eq_zero_iff t s a b hs, Int.emod_eq_of_lt (iabs_nonneg _) h]
  have := iabs_cases (a - b)
  constructor
  · rintro (e | ⟨_, e⟩) <;> omega
  · exact .inl

/-- for two points of the space nothing is reduced: the value the code computed before repair CS3 -/
theorem axisDist_torus_small (s a b : Int) (h : iabs (a - b) < s) :
    axisDist true s a b = min (iabs (a - b)) (s - iabs (a - b)) := by
  rw [axisDist_torus_def, Int.emod_eq_of_lt (iabs_nonneg _) h]

theorem axisDist_torus_le_image (s a b : Int) (hs : 0 < s) (k : Int) :
    axisDist true s a b ≤ iabs (a - b + k * s) :=
  (torus_least iabs_cases s a b hs).2 k

theorem axisDist_torus_attained (s a b : Int) (hs : 0 < s) :
    ∃ k : Int, axisDist true s a b = iabs (a - b + k * s) :=
  (torus_least iabs_cases s a b hs).1

/-! ### heading along one axis -/

theorem axisHeading_flat (s a b : Int) : axisHeading false s a b = b - a := rfl

/-- in the form `omega` consumes (`sgn x * s` is an atom) -/
theorem sgn_iabs_cases (x s : Int) :
    (x < 0 ∧ iabs x = -x ∧ sgn x * s = -s) ∨ (x = 0 ∧ iabs x = 0 ∧ sgn x * s = 0) ∨
    (0 < x ∧ iabs x = x ∧ sgn x * s = s) := by
  unfold iabs sgn
  rcases Int.lt_trichotomy x 0 with h | h | h
  · exact .inl ⟨h, by rw [if_pos h], by rw [if_pos h]; omega⟩
  · exact .inr (.inl ⟨h, by omega, by rw [if_neg (by omega), if_pos h]; omega⟩)
  · exact .inr (.inr ⟨h, by rw [if_neg (by omega)], by rw [if_neg (by omega), if_neg (by omega)]; omega⟩)

theorem fmodI_eq (x s : Int) : fmodI x s = if x < 0 then -(iabs x % s) else iabs x % s := by
  unfold fmodI iabs
  split <;> rfl

theorem iabs_fmodI (x s : Int) (hs : 0 < s) : iabs (fmodI x s) = iabs x % s := by
  have h0 := (emod_spec (iabs x) s hs).1
  rw [fmodI_eq]
  split
  · rw [iabs_neg]
    exact iabs_of_nonneg h0
  · exact iabs_of_nonneg h0

theorem fmodI_small (x s : Int) (h : iabs x < s) : fmodI x s = x := by
  rw [fmodI_eq, Int.emod_eq_of_lt (iabs_nonneg x) h]
  unfold iabs
  omega

theorem fmodI_full (x s : Int) (h : iabs x = s) : fmodI x s = 0 := by
  rw [fmodI_eq, h, Int.emod_self]
  split <;> rfl

theorem fmodI_congr (x s : Int) : ∃ q : Int, fmodI x s = x + q * s := by
  unfold fmodI
  split
  · exact ⟨(-x) / s, by have := Int.emod_add_ediv_mul (-x) s; omega⟩
  · exact ⟨-(x / s), by have := Int.emod_add_ediv_mul x s; rw [Int.neg_mul]; omega⟩

/-- `|h ∓ s| = s - |h|` for the reduced difference `h`, so the code's comparison of the two lengths is `2|h| < s` -/
theorem axisHeading_torus_eq_fmodI (s a b : Int) (hs : 0 < s) :
    axisHeading true s a b =
      if 2 * iabs (fmodI (b - a) s) < s then fmodI (b - a) s else fmodI (b - a) s - sgn (fmodI (b - a) s) * s := by
  have hlt : iabs (fmodI (b - a) s) < s := by
    rw [iabs_fmodI _ _ hs]
    exact (emod_spec _ s hs).2.1
  simp only [axisHeading, if_true]
  generalize fmodI (b - a) s = h at *
  have := sgn_iabs_cases h s
  have := iabs_cases (h - sgn h * s)
  omega

theorem iabs_axisHeading (t : Bool) (s a b : Int) (hs : 0 < s) : iabs (axisHeading t s a b) = axisDist t s a b := by
  cases t
  · rw [axisHeading_flat, axisDist_flat, iabs_sub_comm]
  · have hlt : iabs (fmodI (b - a) s) < s := by
      rw [iabs_fmodI _ _ hs]
      exact (emod_spec _ s hs).2.1
    rw [axisDist_torus_def, iabs_sub_comm, ← iabs_fmodI _ _ hs, axisHeading_torus_eq_fmodI s a b hs]
    have := sgn_iabs_cases (fmodI (b - a) s) s
    split
    · omega
    · have := iabs_cases (fmodI (b - a) s - sgn (fmodI (b - a) s) * s)
      omega

theorem axisHeading_sq (t : Bool) (s a b : Int) (hs : 0 < s) :
    sq (axisHeading t s a b) = sq (axisDist t s a b) := by
  rw [← sq_iabs, iabs_axisHeading t s a b hs]

/-- on the tie `|b - a| = s/2` the code's `abs(h) < abs(inv)` is false: the image through the edge, which is `a - b` -/
theorem axisHeading_torus_cases (s a b : Int) (hs : 0 < s) (hd : iabs (b - a) ≤ s) :
    (2 * iabs (b - a) < s → axisHeading true s a b = b - a) ∧
    (2 * iabs (b - a) = s → axisHeading true s a b = a - b) ∧
    (s < 2 * iabs (b - a) → axisHeading true s a b = b - a - sgn (b - a) * s) := by
  have := sgn_iabs_cases (b - a) s
  rw [axisHeading_torus_eq_fmodI s a b hs]
  by_cases hlt : iabs (b - a) < s
  · rw [fmodI_small _ _ hlt]
    omega
  · rw [fmodI_full _ _ (by omega)]
    have := sgn_iabs_cases 0 s
    omega

theorem axisHeading_reaches (s a b : Int) : ∃ k : Int, a + axisHeading true s a b = b + k * s := by
  obtain ⟨q, hq⟩ := fmodI_congr (b - a) s
  simp only [axisHeading, if_true]
  split
  · exact ⟨q, by omega⟩
  · exact ⟨q - sgn (fmodI (b - a) s), by rw [Int.sub_mul]; omega⟩

theorem wrap_bounds (lo w x : Int) (hw : 0 < w) :
    lo ≤ lo + (x - lo) % w ∧ lo + (x - lo) % w < lo + w := by
  have := emod_spec (x - lo) w hw
  omega

theorem wrap_congr (lo w x : Int) : ∃ k : Int, lo + (x - lo) % w = x + k * w :=
  ⟨-((x - lo) / w), by have := Int.emod_add_ediv_mul (x - lo) w; rw [Int.neg_mul]; omega⟩

theorem wrap_id (lo w x : Int) (h1 : lo ≤ x) (h2 : x < lo + w) : lo + (x - lo) % w = x := by
  rw [Int.emod_eq_of_lt (by omega) (by omega)]
  omega

theorem growBy_pos (n : Nat) : 1 ≤ growBy n := by
  unfold growBy
  omega

/-- `round(0.2 * n)`: `n/5` is never half-way between two integers, so rounding half-up and
    Python's rounding half-to-even agree -/
theorem growBy_no_tie (n : Nat) : (2 * n + 5) % 10 ≠ 0 := by omega

end Mesa.Cont
