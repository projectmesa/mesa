import MesaModel.Proofs.LegacyHist
import MesaModel.Proofs.LegacyIndex
/-! Observably equal grids answer every read alike (C18: "every later operation behaves as if the rejected call
had never been made" — for the reads). -/
namespace Mesa.Legacy

open Grid

theorem rawCells_forget (g : Grid) (cs : List Coord) : (forget g).rawCells cs = g.rawCells cs := by
  induction cs with
  | nil => rfl
  | cons p ps ih =>
    unfold rawCells
    rw [ih]
    rfl

theorem adjAll_forget (g : Grid) (ps : List Coord) : (forget g).adjAll ps = g.adjAll ps := by
  induction ps with
  | nil => rfl
  | cons p ps ih =>
    unfold adjAll
    rw [ih]
    rfl

/-- every read of the grid — emptiness views, `empties`, agents, iteration / indexing in all forms, cell lists,
    neighbours — gives the same answer on two grids whose views agree and that are observably equal (they may
    differ only in whether the private `_empties` set has been built) -/
theorem reads_cong (g g' : Grid) (hi : Inv g) (hi' : Inv g') (h : ObsEq g g') :
    g'.readEmpties.2 = g.readEmpties.2 ∧ g'.existsEmpty.2 = g.existsEmpty.2 ∧
    (∀ p, g'.isCellEmptyRaw p = g.isCellEmptyRaw p) ∧ g'.mask = g.mask ∧ g'.agentsList = g.agentsList ∧
    (∀ p, g'.getItem p = g.getItem p) ∧
    (∀ ix iy, g'.getItem2 ix iy = g.getItem2 ix iy) ∧ (∀ i, g'.getColumn i = g.getColumn i) ∧
    (∀ ps, g'.getMany ps = g.getMany ps) ∧ g'.content = g.content ∧ g'.pos = g.pos ∧
    (∀ cells, g'.rawCells cells = g.rawCells cells) ∧ (∀ cells, cellsContents g' cells = cellsContents g cells) ∧
    g'.dim = g.dim := by
  have hf : forget g' = forget g := (obsEq_iff_forget g g').mp h
  have he : g'.readEmpties.2 = g.readEmpties.2 := by
    rw [readEmpties_eq_build g' hi', readEmpties_eq_build g hi, buildEmpties_forget hf]
  refine ⟨he, by unfold existsEmpty; simp only []; rw [he],
    fun p => read_congr (·.isCellEmptyRaw p) (fun _ => rfl) hf, h.2.2.2.2.2.2.2,
    read_congr (·.agentsList) (fun _ => rfl) hf, fun p => read_congr (·.getItem p) (fun _ => rfl) hf,
    fun ix iy => read_congr (·.getItem2 ix iy) (fun _ => rfl) hf, fun i => read_congr (·.getColumn i) (fun _ => rfl) hf,
    fun ps => read_congr (·.getMany ps) (fun g => by unfold getMany; rw [adjAll_forget]) hf,
    h.2.2.2.2.2.1, h.2.2.2.2.2.2.1, fun cells => read_congr (·.rawCells cells) (fun g => rawCells_forget g cells) hf,
    fun cells => read_congr (cellsContents · cells) (fun _ => rfl) hf, read_congr (·.dim) (fun _ => rfl) hf⟩

end Mesa.Legacy
