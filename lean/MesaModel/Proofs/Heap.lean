import MesaModel.Model.Heap
/-! `heapq` is a correct priority queue for every strict weak order: `heappush` / `heappop` keep the heap
invariant and the multiset of elements, and `heappop` hands out a minimum. -/
namespace Mesa.Heap

variable {α : Type}

/-- strict weak order, as `SimulationEvent.__lt__` is -/
structure SWO (lt : α → α → Bool) : Prop where
  asymm : ∀ a b, lt a b = true → lt b a = false
  negtrans : ∀ a b c, lt a b = false → lt b c = false → lt a c = false

theorem SWO.mixed {lt : α → α → Bool} (w : SWO lt) {c p item : α} (h1 : lt c p = false) (h2 : lt item p = true) :
    lt c item = false := by
  cases h : lt c item
  · rfl
  · have h3 : lt p item = false := w.asymm _ _ h2
    have := w.negtrans c p item h1 h3
    rw [h] at this
    cases this

theorem parent_lt {i : Nat} (h : 0 < i) : (i - 1) / 2 < i := by
  omega

/-- every element is not smaller than its parent -/
def IsHeap (lt : α → α → Bool) (l : List α) : Prop :=
  ∀ i x p, 0 < i → l[i]? = some x → l[(i - 1) / 2]? = some p → lt x p = false

/-- the heap with a hole at `pos` whose content does not matter -/
structure InvB (lt : α → α → Bool) (l : List α) (pos : Nat) : Prop where
  /-- relations that do not involve the hole -/
  other : ∀ i x p, 0 < i → i ≠ pos → (i - 1) / 2 ≠ pos → l[i]? = some x → l[(i - 1) / 2]? = some p → lt x p = false
  /-- children of the hole are not smaller than the hole's parent -/
  grand : ∀ c x g, 0 < pos → 0 < c → (c - 1) / 2 = pos → l[c]? = some x → l[(pos - 1) / 2]? = some g → lt x g = false

/-- the heap with a hole at `pos`, and an `item` — about to be put somewhere between the hole and the root — that is not above
    the hole's children -/
structure InvSD (lt : α → α → Bool) (l : List α) (pos : Nat) (item : α) : Prop extends InvB lt l pos where
  child : ∀ c x, 0 < c → (c - 1) / 2 = pos → l[c]? = some x → lt x item = false

/-- Filling the hole with a `v` that is not smaller than the hole's parent and not above the hole's children: all relations of
    the new array hold, except those position `q` takes part in (`q`: where `v` came from, the next hole; for a `q` outside the
    array, all of them). -/
theorem InvB.fill {lt : α → α → Bool} {l : List α} {pos q : Nat} {v : α} (inv : InvB lt l pos) (hlen : pos < l.length)
    (up : ∀ p, 0 < pos → (pos - 1) / 2 ≠ q → l[(pos - 1) / 2]? = some p → lt v p = false)
    (down : ∀ c x, 0 < c → (c - 1) / 2 = pos → c ≠ q → l[c]? = some x → lt x v = false) :
    ∀ i x p, 0 < i → i ≠ q → (i - 1) / 2 ≠ q → (l.set pos v)[i]? = some x → (l.set pos v)[(i - 1) / 2]? = some p →
      lt x p = false := by
  intro i x p hi hq1 hq2 hx hp
  by_cases h1 : i = pos
  · subst h1
    rw [List.getElem?_set_self hlen] at hx
    cases hx
    rw [List.getElem?_set_ne (Nat.ne_of_gt (parent_lt hi))] at hp
    exact up p hi hq2 hp
  · rw [List.getElem?_set_ne (Ne.symm h1)] at hx
    by_cases h2 : (i - 1) / 2 = pos
    · rw [h2, List.getElem?_set_self hlen] at hp
      cases hp
      exact down i x hi h2 hq1 hx
    · rw [List.getElem?_set_ne (Ne.symm h2)] at hp
      exact inv.other i x p hi h1 h2 hx hp

theorem InvSD.place {lt : α → α → Bool} {l : List α} {pos : Nat} {item : α} (inv : InvSD lt l pos item) (hlen : pos < l.length)
    (hp : ∀ p, 0 < pos → l[(pos - 1) / 2]? = some p → lt item p = false) : IsHeap lt (l.set pos item) := by
  intro i x p hi hx hpar
  have hil := (List.getElem?_eq_some_iff.mp hx).1
  rw [List.length_set] at hil
  exact inv.fill hlen (q := l.length) (fun p h0 _ => hp p h0) (fun c x hc hcp _ => inv.child c x hc hcp) i x p hi
    (by omega) (by omega) hx hpar

/-- the parent, larger than the item, moves down into the hole; the hole moves to the parent's place -/
theorem InvSD.up {lt : α → α → Bool} (w : SWO lt) {l : List α} {pos : Nat} {item parent : α} (inv : InvSD lt l pos item)
    (hlen : pos < l.length) (hpos : 0 < pos) (hparent : l[(pos - 1) / 2]? = some parent) (hlt : lt item parent = true) :
    InvSD lt (l.set pos parent) ((pos - 1) / 2) item := by
  -- what sits below the new hole: the old parent (at `pos`), or a child `x` of the new hole that was below it before
  have below : ∀ c x, 0 < c → (c - 1) / 2 = (pos - 1) / 2 → (l.set pos parent)[c]? = some x →
      x = parent ∨ lt x parent = false := by
    intro c x hc hcp hx
    by_cases h1 : c = pos
    · rw [h1, List.getElem?_set_self hlen] at hx
      cases hx
      exact Or.inl rfl
    · rw [List.getElem?_set_ne (Ne.symm h1)] at hx
      exact Or.inr (inv.other c x parent hc h1 (hcp ▸ Nat.ne_of_lt (parent_lt hpos)) hx (by
        rw [hcp]
        exact hparent))
  refine ⟨⟨?_, ?_⟩, ?_⟩
  · exact inv.fill hlen (fun _ _ hne _ => absurd rfl hne)
      (fun c x hc hcp _ hx => inv.grand c x parent hpos hc hcp hx hparent)
  · intro c x g hpp0 hc hcp hx hg
    have hgp : ((pos - 1) / 2 - 1) / 2 < pos := Nat.lt_trans (parent_lt hpp0) (parent_lt hpos)
    rw [List.getElem?_set_ne (Nat.ne_of_gt hgp)] at hg
    -- the old parent is not smaller than its own parent
    have hpg : lt parent g = false :=
      inv.other ((pos - 1) / 2) parent g hpp0 (Nat.ne_of_lt (parent_lt hpos)) (Nat.ne_of_lt hgp) hparent hg
    rcases below c x hc hcp hx with rfl | hxp
    · exact hpg
    · exact w.negtrans _ _ _ hxp hpg
  · intro c x hc hcp hx
    rcases below c x hc hcp hx with rfl | hxp
    · exact w.asymm _ _ hlt
    · exact w.mixed hxp hlt

theorem siftDown_heap {lt : α → α → Bool} (w : SWO lt) (item : α) :
    ∀ (pos : Nat) (l : List α), pos < l.length → InvSD lt l pos item → IsHeap lt (siftDown lt l pos item) := by
  intro pos
  induction pos using Nat.strongRecOn with
  | ind pos ih =>
    intro l hlen inv
    rw [siftDown]
    split
    · rename_i hpos
      split
      · rename_i parent hparent
        split
        · rename_i hlt
          exact ih _ (parent_lt hpos) _ (by
            rw [List.length_set]
            exact Nat.lt_trans (parent_lt hpos) hlen) (inv.up w hlen hpos hparent hlt)
        · rename_i hnlt
          refine inv.place hlen fun p _ hp => ?_
          rw [hparent] at hp
          cases hp
          simpa using hnlt
      · rename_i hnone
        exact inv.place hlen fun p _ hp => by
          rw [hnone] at hp
          cases hp
    · rename_i hpos
      exact inv.place hlen fun p h0 _ => absurd h0 hpos

theorem InvSD.leaf {lt : α → α → Bool} {l : List α} {pos : Nat} {item : α} (hleaf : ¬ 2 * pos + 1 < l.length)
    (other : ∀ i x p, 0 < i → i ≠ pos → (i - 1) / 2 ≠ pos → l[i]? = some x → l[(i - 1) / 2]? = some p → lt x p = false) :
    InvSD lt l pos item := by
  have nochild : ∀ {c : Nat} {x : α}, 0 < c → (c - 1) / 2 = pos → l[c]? = some x → False := fun hc hcp hx => by
    have := (List.getElem?_eq_some_iff.mp hx).1
    omega
  exact ⟨⟨other, fun c x g _ hc hcp hx _ => (nochild hc hcp hx).elim⟩, fun c x hc hcp hx => (nochild hc hcp hx).elim⟩

/-! ### heappush -/

theorem heappush_heap {lt : α → α → Bool} (w : SWO lt) {l : List α} (h : IsHeap lt l) (x : α) :
    IsHeap lt (heappush lt l x) := by
  unfold heappush
  have hleaf : ¬ 2 * l.length + 1 < (l ++ [x]).length := by
    rw [List.length_append, List.length_singleton]
    omega
  refine siftDown_heap w x l.length (l ++ [x]) (by simp) (InvSD.leaf hleaf fun i y p hi hne1 hne2 hy hp => ?_)
  have hil : i < l.length := by
    have := (List.getElem?_eq_some_iff.mp hy).1
    simp only [List.length_append, List.length_cons, List.length_nil] at this
    omega
  rw [List.getElem?_append_left hil] at hy
  rw [List.getElem?_append_left (Nat.lt_trans (parent_lt hi) hil)] at hp
  exact h i y p hi hy hp

/-! ### heappop: the bubbling phase -/

/-- `smallerChild` picks the right child only when both children are there and the left one is not smaller -/
theorem smallerChild_spec (lt : α → α → Bool) (l : List α) (pos : Nat) :
    (smallerChild lt l pos = 2 * pos + 1 ∧
      ∀ a b, l[2 * pos + 1]? = some a → l[2 * pos + 2]? = some b → lt a b = true) ∨
    (smallerChild lt l pos = 2 * pos + 2 ∧
      ∃ a b, l[2 * pos + 1]? = some a ∧ l[2 * pos + 2]? = some b ∧ lt a b = false) := by
  unfold smallerChild
  split
  · rename_i a b ha hb
    cases hlt : lt a b
    · exact Or.inr ⟨by simp, a, b, ha, hb, hlt⟩
    · refine Or.inl ⟨by simp, fun a' b' ha' hb' => ?_⟩
      rw [ha] at ha'
      rw [hb] at hb'
      cases ha'
      cases hb'
      exact hlt
  · rename_i hnot
    exact Or.inl ⟨rfl, fun a b ha hb => (hnot a b ha hb).elim⟩

theorem smallerChild_range (lt : α → α → Bool) (l : List α) (pos : Nat) (h : 2 * pos + 1 < l.length) :
    pos < smallerChild lt l pos ∧ (smallerChild lt l pos - 1) / 2 = pos ∧ smallerChild lt l pos < l.length := by
  rcases smallerChild_spec lt l pos with ⟨hs, _⟩ | ⟨hs, a, b, _, hb, _⟩
  · rw [hs]
    exact ⟨by omega, by omega, h⟩
  · rw [hs]
    exact ⟨by omega, by omega, (List.getElem?_eq_some_iff.mp hb).1⟩

/-- the sibling of the chosen child is not smaller than the chosen child -/
theorem smallerChild_le {lt : α → α → Bool} (w : SWO lt) (l : List α) (pos c : Nat) (x v : α)
    (hc : 0 < c) (hcp : (c - 1) / 2 = pos) (hne : c ≠ smallerChild lt l pos)
    (hx : l[c]? = some x) (hv : l[smallerChild lt l pos]? = some v) : lt x v = false := by
  have hcc : c = 2 * pos + 1 ∨ c = 2 * pos + 2 := by
    omega
  rcases smallerChild_spec lt l pos with ⟨hs, hlt⟩ | ⟨hs, a, b, ha, hb, hlt⟩
  · rw [hs] at hne hv
    rcases hcc with rfl | rfl
    · exact absurd rfl hne
    · exact w.asymm _ _ (hlt v x hv hx)
  · rw [hs] at hne hv
    have : c = 2 * pos + 1 := hcc.resolve_right hne
    subst this
    rw [ha] at hx
    rw [hb] at hv
    cases hx
    cases hv
    exact hlt

theorem bubble_range (lt : α → α → Bool) :
    ∀ (n : Nat) (l : List α) (pos : Nat), l.length - pos = n →
      (bubble lt l pos).1.length = l.length ∧ (pos < l.length → (bubble lt l pos).2 < l.length) := by
  intro n
  induction n using Nat.strongRecOn with
  | ind n ih =>
    intro l pos hn
    rw [bubble]
    split
    · rename_i hchild
      obtain ⟨hcgt, _, hclen⟩ := smallerChild_range lt l pos hchild
      split
      · rename_i v hv
        have := ih (l.length - smallerChild lt l pos) (by omega) (l.set pos v) (smallerChild lt l pos) (by simp)
        simp only [List.length_set] at this
        exact ⟨this.1, fun _ => this.2 hclen⟩
      · exact ⟨rfl, id⟩
    · exact ⟨rfl, id⟩

/-- the chosen child moves up into the hole; the hole moves to the child's place -/
theorem InvB.down {lt : α → α → Bool} (w : SWO lt) {l : List α} {pos : Nat} {v : α} (inv : InvB lt l pos)
    (hlen : pos < l.length) (hchild : 2 * pos + 1 < l.length) (hv : l[smallerChild lt l pos]? = some v) :
    InvB lt (l.set pos v) (smallerChild lt l pos) := by
  obtain ⟨hcgt, hcpar, _⟩ := smallerChild_range lt l pos hchild
  refine ⟨?_, ?_⟩
  · exact inv.fill hlen (fun p h0 _ hp => inv.grand _ v p h0 (Nat.zero_lt_of_lt hcgt) hcpar hv hp)
      (fun c x hc hcp hne hx => smallerChild_le w l pos c x v hc hcp hne hx hv)
  · intro c x g _ hc hcp hx hg
    have hcc : pos < c := Nat.lt_trans hcgt (hcp ▸ parent_lt hc)
    rw [List.getElem?_set_ne (Nat.ne_of_lt hcc)] at hx
    rw [hcpar, List.getElem?_set_self hlen] at hg
    cases hg
    exact inv.other c x v hc (Nat.ne_of_gt hcc) (hcp ▸ Nat.ne_of_gt hcgt) hx (by
      rw [hcp]
      exact hv)

theorem bubble_inv {lt : α → α → Bool} (w : SWO lt) :
    ∀ (n : Nat) (l : List α) (pos : Nat), l.length - pos = n → pos < l.length → InvB lt l pos →
      InvB lt (bubble lt l pos).1 (bubble lt l pos).2 ∧ ¬ (2 * (bubble lt l pos).2 + 1 < (bubble lt l pos).1.length) := by
  intro n
  induction n using Nat.strongRecOn with
  | ind n ih =>
    intro l pos hn hlen inv
    rw [bubble]
    split
    · rename_i hchild
      obtain ⟨hcgt, _, hclen⟩ := smallerChild_range lt l pos hchild
      split
      · rename_i v hv
        exact ih (l.length - smallerChild lt l pos) (by omega) (l.set pos v) (smallerChild lt l pos)
          (by simp) (by simpa using hclen) (inv.down w hlen hchild hv)
      · rename_i hnone
        have := List.getElem?_eq_none_iff.mp hnone
        omega
    · rename_i hleaf
      exact ⟨inv, hleaf⟩

/-! ### the multiset of elements is preserved -/

section Count
variable [DecidableEq α]

theorem count_set' {l : List α} {i : Nat} (h : i < l.length) (a y : α) :
    (l.set i a).count y + (if l[i] = y then 1 else 0) = l.count y + (if a = y then 1 else 0) := by
  rw [List.count_set h]
  have hpos : l[i] = y → 0 < l.count y := fun e => List.count_pos_iff.mpr (e ▸ List.getElem_mem h)
  by_cases h1 : l[i] = y
  · have := hpos h1
    by_cases h2 : a = y <;> simp [h1, h2] <;> omega
  · by_cases h2 : a = y <;> simp [h1, h2]

/-- moving the hole to position `q`, whose value fills the old hole, does not change what filling the hole gives -/
theorem count_set_move {l : List α} {pos q : Nat} {v : α} (hpos : pos < l.length) (hne : q ≠ pos) (hv : l[q]? = some v)
    (item y : α) : ((l.set pos v).set q item).count y = (l.set pos item).count y := by
  obtain ⟨hq, hvv⟩ := List.getElem?_eq_some_iff.mp hv
  have hq' : q < (l.set pos v).length := by
    rw [List.length_set]
    exact hq
  have e1 := count_set' hq' item y
  have e2 := count_set' hpos v y
  have e3 := count_set' hpos item y
  rw [List.getElem_set_ne (Ne.symm hne), hvv] at e1
  omega

theorem siftDown_count (lt : α → α → Bool) (item : α) :
    ∀ (pos : Nat) (l : List α), pos < l.length → ∀ y, (siftDown lt l pos item).count y = (l.set pos item).count y := by
  intro pos
  induction pos using Nat.strongRecOn with
  | ind pos ih =>
    intro l hlen y
    rw [siftDown]
    split
    · rename_i hpos
      split
      · rename_i parent hparent
        split
        · have hpl : (pos - 1) / 2 < (l.set pos parent).length := by
            rw [List.length_set]
            exact Nat.lt_trans (parent_lt hpos) hlen
          rw [ih _ (parent_lt hpos) _ hpl y]
          exact count_set_move hlen (Nat.ne_of_lt (parent_lt hpos)) hparent item y
        · rfl
      · rfl
    · rfl

/-- after bubbling, filling the final hole with `item` gives the same multiset as filling the original hole -/
theorem bubble_count (lt : α → α → Bool) (item : α) :
    ∀ (n : Nat) (l : List α) (pos : Nat), l.length - pos = n → pos < l.length → ∀ y,
      ((bubble lt l pos).1.set (bubble lt l pos).2 item).count y = (l.set pos item).count y := by
  intro n
  induction n using Nat.strongRecOn with
  | ind n ih =>
    intro l pos hn hlen y
    rw [bubble]
    split
    · rename_i hchild
      obtain ⟨hcgt, _, hclen⟩ := smallerChild_range lt l pos hchild
      split
      · rename_i v hv
        rw [ih (l.length - smallerChild lt l pos) (by omega) (l.set pos v) (smallerChild lt l pos) (by simp)
          (by simpa using hclen) y]
        exact count_set_move hlen (by omega) hv item y
      · rfl
    · rfl

end Count

/-! ### the root is a minimum; specification of push and pop -/

theorem root_min {lt : α → α → Bool} (w : SWO lt) {l : List α} (h : IsHeap lt l) :
    ∀ (i : Nat) (x r : α), l[i]? = some x → l[0]? = some r → lt x r = false := by
  intro i
  induction i using Nat.strongRecOn with
  | ind i ih =>
    intro x r hx hr
    by_cases hi : i = 0
    · subst hi
      rw [hx] at hr
      cases hr
      cases hxx : lt x x
      · rfl
      · have := w.asymm x x hxx
        rw [hxx] at this
        cases this
    · have hlen := (List.getElem?_eq_some_iff.mp hx).1
      have hi := Nat.pos_of_ne_zero hi
      have hp : (i - 1) / 2 < l.length := Nat.lt_trans (parent_lt hi) hlen
      have h1 := h i x l[(i - 1) / 2] hi hx (List.getElem?_eq_getElem hp)
      have h2 := ih ((i - 1) / 2) (parent_lt hi) l[(i - 1) / 2] r (List.getElem?_eq_getElem hp) hr
      exact w.negtrans _ _ _ h1 h2

theorem heappop_none_iff (lt : α → α → Bool) (l : List α) : heappop lt l = none ↔ l = [] := by
  unfold heappop
  cases hl : l.getLast? with
  | none => simp [List.getLast?_eq_none_iff.mp hl]
  | some last =>
    have : l ≠ [] := by
      intro e
      simp [e] at hl
    simp only [this, iff_false]
    split <;> simp

/-- a heap whose root does not count: any array that, below the root, holds what a heap holds there -/
theorem InvB.root {lt : α → α → Bool} {l l' : List α} (h : IsHeap lt l)
    (hsub : ∀ i x, 0 < i → l'[i]? = some x → l[i]? = some x) : InvB lt l' 0 :=
  ⟨fun i x p hi _ hne hx hp => h i x p hi (hsub i x hi hx) (hsub _ p (by omega) hp), fun _ _ _ h0 => absurd h0 (by omega)⟩

theorem heappop_cases {lt : α → α → Bool} {l l' : List α} {m : α} (hp : heappop lt l = some (m, l')) :
    (l = [m] ∧ l' = []) ∨
    ∃ last rest, l = m :: rest ++ [last] ∧
      l' = siftDown lt (bubble lt (last :: rest) 0).1 (bubble lt (last :: rest) 0).2 last := by
  unfold heappop at hp
  split at hp
  · cases hp
  · rename_i last hlast
    obtain ⟨ys, rfl⟩ := List.getLast?_eq_some_iff.mp hlast
    rw [List.dropLast_concat] at hp
    cases ys with
    | nil =>
      cases hp
      exact Or.inl ⟨rfl, rfl⟩
    | cons ret rest =>
      cases hp
      exact Or.inr ⟨last, rest, rfl, rfl⟩

section Spec
variable [DecidableEq α]

theorem heappush_perm (lt : α → α → Bool) (l : List α) (x : α) : (heappush lt l x).Perm (x :: l) := by
  rw [List.perm_iff_count]
  intro y
  unfold heappush
  rw [siftDown_count lt x l.length (l ++ [x]) (by simp) y]
  have : (l ++ [x]).set l.length x = l ++ [x] := by
    rw [List.set_append_right _ _ (Nat.le_refl _)]
    simp
  rw [this, List.count_append, List.count_cons, List.count_cons, List.count_nil]
  omega

/-- `heappop` on ANY array (heap or not): the popped element and the array left behind are the array, as a multiset -/
theorem heappop_perm (lt : α → α → Bool) {l l' : List α} {m : α} (hp : heappop lt l = some (m, l')) :
    l.Perm (m :: l') := by
  rcases heappop_cases hp with ⟨rfl, rfl⟩ | ⟨last, rest, rfl, rfl⟩
  · exact List.Perm.refl _
  · obtain ⟨hb1, hb2⟩ := bubble_range lt _ (last :: rest) 0 rfl
    rw [List.perm_iff_count]
    intro y
    rw [List.count_cons, siftDown_count lt last _ _ (by
      rw [hb1]
      exact hb2 (by simp)) y,
      bubble_count lt last _ (last :: rest) 0 rfl (by simp) y]
    simp only [List.set_cons_zero, List.cons_append, List.count_append, List.count_cons, List.count_nil]
    omega

/-- `heappop` on a heap: hands out a minimum, keeps the rest (as a multiset) and the heap invariant -/
theorem heappop_spec {lt : α → α → Bool} (w : SWO lt) {l l' : List α} {m : α} (h : IsHeap lt l)
    (hp : heappop lt l = some (m, l')) :
    l.Perm (m :: l') ∧ IsHeap lt l' ∧ (∀ y ∈ l', lt y m = false) ∧ l[0]? = some m := by
  have hperm := heappop_perm lt hp
  rcases heappop_cases hp with ⟨rfl, rfl⟩ | ⟨last, rest, rfl, rfl⟩
  · exact ⟨hperm, fun i x p _ hx _ => by simp at hx, by simp, by simp⟩
  · have hinvB : InvB lt (last :: rest) 0 := by
      refine InvB.root h fun i x hi hx => ?_
      obtain ⟨k, rfl⟩ : ∃ k, i = k + 1 := ⟨i - 1, by omega⟩
      rw [List.getElem?_cons_succ] at hx
      rw [List.cons_append, List.getElem?_cons_succ, List.getElem?_append_left (List.getElem?_eq_some_iff.mp hx).1]
      exact hx
    obtain ⟨hb1, hb4⟩ := bubble_inv w _ (last :: rest) 0 rfl (by simp) hinvB
    obtain ⟨hb3, hb2⟩ := bubble_range lt _ (last :: rest) 0 rfl
    refine ⟨hperm, ?_, ?_, rfl⟩
    · exact siftDown_heap w last _ _ (by
        rw [hb3]
        exact hb2 (by simp)) (InvSD.leaf hb4 hb1.other)
    · intro y hy
      have hyl := hperm.symm.subset (List.mem_cons_of_mem _ hy)
      obtain ⟨i, hi, rfl⟩ := List.getElem_of_mem hyl
      exact root_min w h i _ m (List.getElem?_eq_getElem hi) rfl

end Spec

end Mesa.Heap
