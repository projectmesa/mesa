import MesaModel.Proofs.ContExp
/-! Facts about the distance functions of the model; the (toroidal) Euclidean metric, stated without them, and the lemmas
that tie `edist2` / `ldist2` to it; vectors of the right length (`WfOps`) and what every recorded position satisfies; the
calls and queries with a vector of any length (`…V`, `estepV`, `normOp`); the closed form of "last assigned". -/
namespace Mesa.Cont

/-! ### the distance functions of the model -/

theorem dist2Aux_comm (t : Bool) : ∀ (ds : List (Int × Int)) (p q : Pos), dist2Aux t ds p q = dist2Aux t ds q p
  | d :: ds, a :: p, b :: q => by simp only [dist2Aux, axisDist_comm t _ a b, dist2Aux_comm t ds p q]
  | [], _, _ => by simp [dist2Aux]
  | _ :: _, [], q => by cases q <;> rfl
  | _ :: _, _ :: _, [] => rfl

theorem dist2Aux_self (t : Bool) :
    ∀ (ds : List (Int × Int)) (p : Pos), (∀ d ∈ ds, d.1 ≤ d.2) → dist2Aux t ds p p = 0
  | d :: ds, a :: p, hw => by
    rw [dist2Aux, axisDist_self t _ a (by have := hw d (by simp); omega),
      dist2Aux_self t ds p (fun d' hd' => hw d' (by simp [hd']))]; rfl
  | [], _, _ => by simp [dist2Aux]
  | _ :: _, [], _ => rfl

theorem dist2Aux_nonneg (t : Bool) : ∀ (ds : List (Int × Int)) (p q : Pos), 0 ≤ dist2Aux t ds p q
  | d :: ds, a :: p, b :: q => by
    have := sq_nonneg (axisDist t (d.2 - d.1) a b)
    have := dist2Aux_nonneg t ds p q
    simp only [dist2Aux]
    omega
  | [], _, _ => by simp [dist2Aux]
  | _ :: _, [], _ => by simp [dist2Aux]
  | _ :: _, _ :: _, [] => by simp [dist2Aux]

/-- squared Euclidean length of a vector -/
def norm2 : Pos → Int
  | [] => 0
  | x :: xs => sq x + norm2 xs

theorem diffAux_norm2 (t : Bool) :
    ∀ (ds : List (Int × Int)) (p q : Pos), (∀ d ∈ ds, d.1 < d.2) → norm2 (diffAux t ds p q) = dist2Aux t ds p q
  | d :: ds, a :: p, b :: q, hw => by
    simp only [diffAux, dist2Aux, norm2]
    rw [axisHeading_sq t _ a b (by have := hw d (by simp); omega),
      diffAux_norm2 t ds p q (fun d' hd' => hw d' (by simp [hd']))]
  | [], _, _, _ => by simp [diffAux, dist2Aux, norm2]
  | _ :: _, [], _, _ => by simp [diffAux, dist2Aux, norm2]
  | _ :: _, _ :: _, [], _ => by simp [diffAux, dist2Aux, norm2]

/-! ### the metric of the property -/

/-- squared Euclidean distance of two points -/
def euclid2 : Pos → Pos → Int
  | a :: as, b :: bs => sq (a - b) + euclid2 as bs
  | _, _ => 0

/-- squared Euclidean distance from `p` to the periodic image of `q` that lies `ks[i]` circumferences further along
    axis `i` (`ds` = the (min, max) rows of the space) -/
def imgDist2 : List (Int × Int) → List Int → Pos → Pos → Int
  | d :: ds, k :: ks, a :: as, b :: bs => sq (a - b + k * (d.2 - d.1)) + imgDist2 ds ks as bs
  | _, _, _, _ => 0

/-- `d` is the squared distance of the property between the points `p` and `q` of an `n`-dimensional space with bounds
    `ds`: the squared Euclidean distance if the space is bounded, and on a torus the least squared Euclidean distance
    from `p` to a periodic image of `q` (no image is nearer, one image is exactly that far).  Nothing of the model
    occurs in this definition. -/
def MetricDist2 (ds : List (Int × Int)) (torus : Bool) (p q : Pos) (d : Int) : Prop :=
  (torus = false → d = euclid2 p q) ∧
  (torus = true → (∀ ks : List Int, ks.length = ds.length → d ≤ imgDist2 ds ks p q) ∧
    ∃ ks : List Int, ks.length = ds.length ∧ d = imgDist2 ds ks p q)

theorem axes_induction
    {motive : (ds : List (Int × Int)) → (p q : Pos) → p.length = ds.length → q.length = ds.length → Prop}
    (nil : motive [] [] [] rfl rfl)
    (cons : ∀ d ds a p b q (hp : p.length = ds.length) (hq : q.length = ds.length), motive ds p q hp hq →
      motive (d :: ds) (a :: p) (b :: q) (by simp [hp]) (by simp [hq])) :
    ∀ ds p q hp hq, motive ds p q hp hq := by
  intro ds
  induction ds with
  | nil =>
    intro p q hp hq
    cases p with
    | nil => cases q with
      | nil => exact nil
      | cons _ _ => simp at hq
    | cons _ _ => simp at hp
  | cons d ds ih =>
    intro p q hp hq
    cases p with
    | nil => simp at hp
    | cons a p =>
      cases q with
      | nil => simp at hq
      | cons b q => exact cons d ds a p b q (by simpa using hp) (by simpa using hq) (ih p q _ _)

theorem dist2Aux_flat (ds : List (Int × Int)) (p q : Pos) (hp : p.length = ds.length) (hq : q.length = ds.length) :
    dist2Aux false ds p q = euclid2 p q := by
  induction ds, p, q, hp, hq using axes_induction with
  | nil => rfl
  | cons d ds a p b q hp hq ih => simp only [dist2Aux, euclid2, axisDist_flat, sq_iabs, ih]

theorem dist2Aux_le_img (ds : List (Int × Int)) (hw : ∀ d ∈ ds, d.1 < d.2) (ks : List Int) (p q : Pos)
    (hk : ks.length = ds.length) (hp : p.length = ds.length) (hq : q.length = ds.length) :
    dist2Aux true ds p q ≤ imgDist2 ds ks p q := by
  induction ds, p, q, hp, hq using axes_induction generalizing ks with
  | nil => simp [dist2Aux, imgDist2]
  | cons d ds a p b q hp hq ih =>
    cases ks with
    | nil => simp at hk
    | cons k ks =>
      have hs : 0 < d.2 - d.1 := by have := hw d (by simp); omega
      have h1 := sq_le_sq_of_le_iabs (axisDist_nonneg true _ a b hs) (axisDist_torus_le_image _ a b hs k)
      have h2 := ih (fun d' hd' => hw d' (by simp [hd'])) ks (by simpa using hk)
      simp only [dist2Aux, imgDist2]
      omega

theorem dist2Aux_img_attained (ds : List (Int × Int)) (hw : ∀ d ∈ ds, d.1 < d.2) (p q : Pos)
    (hp : p.length = ds.length) (hq : q.length = ds.length) :
    ∃ ks : List Int, ks.length = ds.length ∧ dist2Aux true ds p q = imgDist2 ds ks p q := by
  induction ds, p, q, hp, hq using axes_induction with
  | nil => exact ⟨[], rfl, by simp [dist2Aux, imgDist2]⟩
  | cons d ds a p b q hp hq ih =>
    obtain ⟨k, hk⟩ := axisDist_torus_attained (d.2 - d.1) a b (by have := hw d (by simp); omega)
    obtain ⟨ks, hl, he⟩ := ih (fun d' hd' => hw d' (by simp [hd']))
    exact ⟨k :: ks, by simp [hl], by simp only [dist2Aux, imgDist2, hk, sq_iabs, he]⟩

theorem dist2Aux_metric (ds : List (Int × Int)) (hw : ∀ d ∈ ds, d.1 < d.2) (t : Bool) (p q : Pos)
    (hp : p.length = ds.length) (hq : q.length = ds.length) (d : Int) :
    MetricDist2 ds t p q d ↔ d = dist2Aux t ds p q := by
  cases t
  · simp [MetricDist2, dist2Aux_flat ds p q hp hq]
  · simp only [MetricDist2, Bool.true_eq_false, false_imp_iff, true_and, true_imp_iff]
    constructor
    · rintro ⟨hle, ks, hl, he⟩
      obtain ⟨ks', hl', he'⟩ := dist2Aux_img_attained ds hw p q hp hq
      have h1 := hle ks' hl'
      have h2 := dist2Aux_le_img ds hw ks p q hl hp hq
      omega
    · rintro rfl
      exact ⟨fun ks hl => dist2Aux_le_img ds hw ks p q hl hp hq, dist2Aux_img_attained ds hw p q hp hq⟩

/-- the sign convention is the code's: `positions - point`, from the point to the agent -/
theorem diffAux_reaches (t : Bool) (ds : List (Int × Int)) (p q : Pos) (hp : p.length = ds.length)
    (hq : q.length = ds.length) :
    (diffAux t ds p q).length = ds.length ∧
    ∀ i, i < ds.length → ∃ x y h d, p[i]? = some x ∧ q[i]? = some y ∧ (diffAux t ds p q)[i]? = some h ∧ ds[i]? = some d ∧
      (t = false → x + h = y) ∧ (t = true → ∃ k : Int, x + h = y + k * (d.2 - d.1)) := by
  induction ds, p, q, hp, hq using axes_induction with
  | nil => exact ⟨rfl, fun i hi => by simp at hi⟩
  | cons d ds a p b q hp hq ih =>
    obtain ⟨h1, h2⟩ := ih
    refine ⟨congrArg (· + 1) h1, fun i hi => ?_⟩
    cases i with
    | zero =>
      refine ⟨a, b, axisHeading t (d.2 - d.1) a b, d, rfl, rfl, rfl, rfl, ?_, ?_⟩
      · rintro rfl
        rw [axisHeading_flat]
        omega
      · rintro rfl
        exact axisHeading_reaches _ a b
    | succ i =>
      obtain ⟨x, y, h, d', e1, e2, e3, e4, e5⟩ := h2 i (Nat.lt_of_succ_lt_succ hi)
      exact ⟨x, y, h, d', e1, e2, e3, e4, e5⟩

theorem dist2Aux_eq_zero_iff (t : Bool) (ds : List (Int × Int)) (hw : ∀ d ∈ ds, d.1 < d.2) (p q : Pos)
    (hp : p.length = ds.length) (hq : q.length = ds.length) :
    dist2Aux t ds p q = 0 ↔
      ∀ (i : Nat) (x y : Int) (d : Int × Int), p[i]? = some x → q[i]? = some y → ds[i]? = some d →
        x = y ∨ (t = true ∧ ∃ k : Int, x - y = k * (d.2 - d.1)) := by
  induction ds, p, q, hp, hq using axes_induction with
  | nil => simp [dist2Aux]
  | cons d ds a p b q hp hq ih =>
    have ih := ih (fun d' hd' => hw d' (by simp [hd']))
    -- a sum of two non-negative terms: the first axis and the rest
    have n1 := sq_nonneg (axisDist t (d.2 - d.1) a b)
    have n2 := dist2Aux_nonneg t ds p q
    have h1 : sq (axisDist t (d.2 - d.1) a b) = 0 ↔ a = b ∨ (t = true ∧ ∃ k : Int, a - b = k * (d.2 - d.1)) := by
      rw [← iabs_emod_eq_zero_iff, ← axisDist_eq_zero_iff t _ a b (by have := hw d (by simp); omega)]
      exact ⟨sq_eq_zero, fun e => by rw [e]; rfl⟩
    simp only [dist2Aux]
    constructor
    · intro h0 i x y d' e1 e2 e3
      cases i with
      | zero => cases e1; cases e2; cases e3; exact h1.mp (by omega)
      | succ i => exact ih.mp (by omega) i x y d' e1 e2 e3
    · intro h
      have z1 := h1.mpr (h 0 a b d rfl rfl rfl)
      have z2 := ih.mpr (fun i x y d' e1 e2 e3 => h (i + 1) x y d' e1 e2 e3)
      omega

/-- the legacy space as a 2-row `dimensions` array -/
def LCfg.dims (c : LCfg) : List (Int × Int) := [(c.xmin, c.xmax), (c.ymin, c.ymax)]

theorem ldist2_eq_dist2Aux (c : LCfg) (p q : P2) :
    ldist2 c p q = dist2Aux c.torus c.dims [p.1, p.2] [q.1, q.2] := by
  simp [ldist2, dist2Aux, LCfg.dims, LCfg.width, LCfg.height]

/-! ### vectors of the right length; coordinates of a stored position -/

/-- the vector a call carries, if any -/
def EOp.vec : EOp → Option Pos
  | .set _ p => some p
  | .iadd _ v => some v
  | .raw _ p => some p
  | _ => none

/-- every vector of the history has as many coordinates as the space has axes -/
def WfOps (c : ECfg) (ops : List EOp) : Prop := ∀ op ∈ ops, ∀ v, op.vec = some v → v.length = c.dims.length

theorem bcast_of_length {nd : Nat} {p : Pos} (h : p.length = nd) : bcast nd p = .ok p := if_pos h

theorem bcast_singleton {nd : Nat} (x : Int) (h : nd ≠ 1) : bcast nd [x] = .ok (List.replicate nd x) :=
  if_neg (Ne.symm h)

theorem bcast_error {nd : Nat} {p : Pos} (h : p.length ≠ nd) (h1 : p.length ≠ 1) : bcast nd p = .error .value := by
  unfold bcast
  rw [if_neg h]
  match p, h1 with
  | [], _ => rfl
  | [_], h1 => simp at h1
  | _ :: _ :: _, _ => rfl

theorem bcast_ok_length {nd : Nat} {p q : Pos} (h : bcast nd p = .ok q) : q.length = nd := by
  unfold bcast at h
  split at h
  · cases h
    assumption
  · split at h
    · cases h
      simp
    · cases h

theorem normOp_vec {nd : Nat} {op op' : EOp} {v : Pos} (h : normOp nd op = some op') (hv : op'.vec = some v) :
    v.length = nd := by
  cases op with
  | new a | remove a =>
    cases h
    cases hv
  | set a p | iadd a p | raw a p =>
    simp only [normOp] at h
    split at h
    · next q hq => cases h; cases hv; exact bcast_ok_length hq
    · cases h

theorem torusCorrect_length (ds : List (Int × Int)) (p : Pos) (h : p.length = ds.length) :
    (torusCorrect ds p).length = ds.length := by
  induction ds generalizing p with
  | nil => cases p <;> simp [torusCorrect]
  | cons d ds ih =>
    cases p with
    | nil => simp at h
    | cons x p =>
      simp only [List.length_cons, Nat.add_right_cancel_iff] at h
      simp [torusCorrect, ih p h]

theorem eassign_length (c : ECfg) {p p' : Pos} (h : eassign c p = some p') (hl : p.length = c.dims.length) :
    p'.length = c.dims.length := by
  unfold eassign at h
  split at h
  · cases h
    exact hl
  · split at h
    · cases h
      exact torusCorrect_length _ _ hl
    · cases h

theorem vadd_length (p v : Pos) (h : v.length = p.length) : (vadd p v).length = p.length := by
  induction p generalizing v with
  | nil => cases v <;> simp [vadd]
  | cons x p ih =>
    cases v with
    | nil => simp at h
    | cons y v =>
      simp only [List.length_cons, Nat.add_right_cancel_iff] at h
      simp [vadd, ih v h]

theorem torusCorrect_getElem (ds : List (Int × Int)) (hw : ∀ d ∈ ds, d.1 < d.2) (p : Pos)
    (i : Nat) (h1 : i < ds.length) (h2 : i < p.length) (h3 : i < (torusCorrect ds p).length) :
    ds[i].1 ≤ (torusCorrect ds p)[i] ∧ (torusCorrect ds p)[i] < ds[i].2 ∧
    ∃ k : Int, (torusCorrect ds p)[i] = p[i] + k * (ds[i].2 - ds[i].1) := by
  induction ds generalizing p i with
  | nil => simp at h1
  | cons d ds ih =>
    cases p with
    | nil => simp at h2
    | cons x p =>
      cases i with
      | zero =>
        simp only [torusCorrect, List.getElem_cons_zero]
        have hb := wrap_bounds d.1 (d.2 - d.1) x (by have := hw d (by simp); omega)
        exact ⟨hb.1, by omega, wrap_congr _ _ _⟩
      | succ i =>
        exact ih (fun d' hd' => hw d' (by simp [hd'])) p i (Nat.lt_of_succ_lt_succ h1) (Nat.lt_of_succ_lt_succ h2)
          (Nat.lt_of_succ_lt_succ h3)

theorem inBounds_getElem (ds : List (Int × Int)) (p : Pos) (h : inBounds ds p = true)
    (i : Nat) (h1 : i < ds.length) (h2 : i < p.length) : ds[i].1 ≤ p[i] ∧ p[i] ≤ ds[i].2 := by
  induction ds generalizing p i with
  | nil => simp at h1
  | cons d ds ih =>
    cases p with
    | nil => simp at h2
    | cons x p =>
      simp only [inBounds, Bool.and_eq_true, decide_eq_true_eq] at h
      cases i with
      | zero => simpa using h.1
      | succ i => exact ih p h.2 i (Nat.lt_of_succ_lt_succ h1) (Nat.lt_of_succ_lt_succ h2)

theorem espec_pos_invariant (c : ECfg) (P : Pos → Prop) (ops : List EOp)
    (hset : ∀ a p, EOp.set a p ∈ ops → ∀ p', eassign c p = some p' → P p')
    (hiadd : ∀ a v q, EOp.iadd a v ∈ ops → P q → ∀ p', eassign c (vadd q v) = some p' → P p')
    (hraw : ∀ i p, EOp.raw i p ∈ ops → P p) :
    ∀ a p, (espec c ops).pos a = some p → P p := by
  refine foldl_inv (P := fun st : ESpec => ∀ a p, st.pos a = some p → P p) (by simp) (fun st h op hop => ?_)
  · show ∀ a p, (especStep c st op).pos a = some p → P p
    have hupd : ∀ (a : Aid) (p' : Pos), P p' → ∀ b q, (upd st.pos a (some p')) b = some q → P q := by
      intro a p' hp' b q hb
      by_cases hba : b = a
      · simp only [upd, hba, if_true, Option.some.injEq] at hb
        subst hb
        exact hp'
      · simp only [upd_other _ _ hba] at hb
        exact h b q hb
    have hnone : ∀ (a : Aid) b q, (upd st.pos a none) b = some q → P q := by
      intro a b q hb
      by_cases hba : b = a
      · simp only [hba, upd_same, reduceCtorEq] at hb
      · simp only [upd_other _ _ hba] at hb
        exact h b q hb
    cases op with
    | new a =>
      simp only [especStep]
      split
      · exact h
      · exact hnone a
    | set a p =>
      simp only [especStep]
      split
      · split
        · rename_i p' hp
          exact hupd a p' (hset a p hop p' hp)
        · exact h
      · exact h
    | remove a =>
      simp only [especStep]
      split
      · exact hnone a
      · exact h
    | iadd a v =>
      simp only [especStep]
      split
      · split
        · rename_i q hq
          split
          · rename_i p' hp
            exact hupd a p' (hiadd a v q hop (h a q hq) p' hp)
          · exact h
        · exact h
      · exact h
    | raw i p =>
      simp only [especStep]
      split
      · rename_i a _
        exact hupd a p (hraw i p hop)
      · exact h

/-! ### calls and queries with a vector of any length, given what numpy makes of the vector -/

theorem agentSetV_of_bcast {s : ESpace} {a : Aid} {p q : Pos} (hb : bcast s.nd p = .ok q) : agentSetV s a p = agentSet s a q := by
  simp only [agentSetV, agentSet, hb]

theorem agentIaddV_of_bcast {s : ESpace} {a : Aid} {v w : Pos} (hb : bcast s.nd v = .ok w) : agentIaddV s a v = agentIadd s a w := by
  simp only [agentIaddV, agentIadd, hb]

theorem rawWriteV_of_bcast {s : ESpace} {i : Nat} {p q : Pos} (hb : bcast s.nd p = .ok q) : rawWriteV s i p = rawWrite s i q := by
  simp only [rawWriteV, rawWrite, hb]

/-- everything but the distances of a bounded space (`cdist`) broadcasts the point -/
theorem queryPoint_bcast {s : ESpace} {vc : Bool} (h : vc = false ∨ s.cfg.torus = true) (pt : Pos) :
    queryPoint s vc pt = bcast s.nd pt := by
  rcases h with h | h <;> simp [queryPoint, h]

theorem queryPoint_cdist {s : ESpace} (h : s.cfg.torus = false) (pt : Pos) :
    queryPoint s true pt = if pt.length = s.nd then .ok pt else .error .value := by
  simp [queryPoint, h]

theorem queryPoint_of_length {s : ESpace} {pt : Pos} (h : pt.length = s.nd) (vc : Bool) : queryPoint s vc pt = .ok pt := by
  simp only [queryPoint, bcast, h, if_true]
  split <;> rfl

theorem withPoint_none {α : Type} (s : ESpace) (vc : Bool) (pt : Pos) (f : Pos → Except Err α) :
    withPoint s vc pt none f = match queryPoint s vc pt with | .error e => .error e | .ok q => f q := rfl

/-- with `agents=sub` the rows are selected first; `f` selects the same rows, so it raises what the selection raises -/
theorem withPoint_of_query {α : Type} {s : ESpace} {vc : Bool} {pt q : Pos} (sub : Option (List Aid)) (f : Pos → Except Err α)
    (hq : queryPoint s vc pt = .ok q) (hf : ∀ l e, sub = some l → rowsOf s l = .error e → f q = .error e) :
    withPoint s vc pt sub f = f q := by
  cases sub with
  | none => simp only [withPoint, hq]
  | some l =>
    cases hr : rowsOf s l with
    | error e =>
      simp only [withPoint, hr]
      exact (hf l e rfl hr).symm
    | ok _ => simp only [withPoint, hr, hq]

theorem distancesOfV_of_query {s : ESpace} {pt q : Pos} (hq : queryPoint s true pt = .ok q) (sub : Option (List Aid)) :
    distancesOfV s pt sub = distancesOf s q sub :=
  withPoint_of_query sub _ hq (fun l e hs hr => by subst hs; simp [distancesOf, hr, Except.map])

theorem diffsOfV_of_query {s : ESpace} {pt q : Pos} (hq : queryPoint s false pt = .ok q) (sub : Option (List Aid)) :
    diffsOfV s pt sub = diffsOf s q sub :=
  withPoint_of_query sub _ hq (fun l e hs hr => by subst hs; simp [diffsOf, hr, Except.map])
theorem estepV_eq (s : ESpace) (op : EOp) :
    estepV s op = match normOp s.nd op with | some op' => estep s op' | none => s := by
  cases op with
  | new a | remove a => rfl
  | set a p =>
    simp only [estepV, normOp]
    cases hb : bcast s.nd p with
    | error e => cases hg : s.gone a <;> simp [agentSetV, hg, hb]
    | ok q => simp only [agentSetV_of_bcast hb, estep]
  | iadd a v =>
    simp only [estepV, normOp]
    cases hb : bcast s.nd v with
    | error e => cases hget : agentGet s a <;> simp [agentIaddV, hget, hb]
    | ok w => simp only [agentIaddV_of_bcast hb, estep]
  | raw i p =>
    simp only [estepV, normOp]
    cases hb : bcast s.nd p with
    | error e => by_cases hlt : i < s.view <;> simp [rawWriteV, hlt, hb]
    | ok q => simp only [rawWriteV_of_bcast hb, estep]

theorem foldl_estepV (ops : List EOp) (s : ESpace) :
    ops.foldl estepV s = (ops.filterMap (normOp s.nd)).foldl estep s := by
  induction ops generalizing s with
  | nil => rfl
  | cons op ops ih =>
    rw [List.foldl_cons, estepV_eq, List.filterMap_cons]
    cases normOp s.nd op with
    | none => exact ih s
    | some op' =>
      have : (estep s op').nd = s.nd := by rw [ESpace.nd, estep_cfg]; rfl
      rw [ih, this]
      rfl

/-! ### the closed form of "last assigned": calls about other agents change neither membership nor position -/

theorem especStep_members_frame (c : ECfg) (st : ESpec) (op : EOp) (a : Aid) (ha : a ∈ st.members)
    (hne : op ≠ .remove a) : a ∈ (especStep c st op).members := by
  cases op with
  | new b =>
    simp only [especStep]
    split <;> simp [ha]
  | set b p =>
    simp only [especStep]
    repeat' split
    all_goals exact ha
  | remove b =>
    simp only [especStep]
    split
    · have : a ≠ b := fun e => hne (by rw [e])
      simp [List.mem_filter, ha, this]
    · exact ha
  | iadd b v =>
    simp only [especStep]
    repeat' split
    all_goals exact ha
  | raw i p =>
    simp only [especStep]
    split <;> exact ha

theorem erun_frame_fold (c : ECfg) (cap : Nat) (a : Aid) (post : List EOp) :
    ∀ ops0 : List EOp, a ∈ (erun c cap ops0).active →
    (∀ k (hk : k < post.length), (post[k]).target (erun c cap (ops0 ++ post.take k)) ≠ some a) →
    a ∈ (erun c cap (ops0 ++ post)).active ∧ getPos (erun c cap (ops0 ++ post)) a = getPos (erun c cap ops0) a := by
  induction post with
  | nil =>
    intro ops0 ha _
    simp [ha]
  | cons op rest ih =>
    intro ops0 ha h
    have h0 : op.target (erun c cap ops0) ≠ some a := by
      have := h 0 (by simp)
      simpa only [List.getElem_cons_zero, List.take_zero, List.append_nil] using this
    have hmem : a ∈ (erun c cap (ops0 ++ [op])).active := by
      rw [(erun_refines c cap (ops0 ++ [op])).active, espec_snoc]
      apply especStep_members_frame
      · rw [← (erun_refines c cap ops0).active]
        exact ha
      · rintro rfl
        exact h0 rfl
    have hpos : getPos (erun c cap (ops0 ++ [op])) a = getPos (erun c cap ops0) a := by
      rw [erun_snoc]
      exact getPos_estep_frame (erun_refines c cap ops0).inv op ha h0
    have h' := ih (ops0 ++ [op]) hmem (fun k hk => by
      have := h (k + 1) (by simp; omega)
      simpa [List.append_assoc] using this)
    rw [List.append_assoc] at h'
    simp only [List.cons_append, List.nil_append] at h'
    exact ⟨h'.1, by rw [h'.2, hpos]⟩

theorem lspec_fold_frame (c : LCfg) (a : Aid) (p' : P2) (post : List LOp)
    (hpost : ∀ op ∈ post, ∀ b q, (op = .place b q ∨ op = .move b q ∨ op = .remove b) → b ≠ a) :
    ∀ st : List Aid × (Aid → Option P2), a ∈ st.1 → st.2 a = some p' →
      a ∈ (post.foldl (lspecStep c) st).1 ∧ (post.foldl (lspecStep c) st).2 a = some p' :=
  fun st h1 h2 => foldl_inv (P := fun st : List Aid × (Aid → Option P2) => a ∈ st.1 ∧ st.2 a = some p') ⟨h1, h2⟩
    fun st h op hop => by
      obtain ⟨e, hm⟩ := lspecStep_frame c st op a (hpost op hop)
      exact ⟨hm h.1, e.trans h.2⟩

end Mesa.Cont
