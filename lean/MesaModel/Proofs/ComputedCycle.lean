import MesaModel.Proofs.Computed
/-!
For the cycle clause of C17.  `Frame`: what any call does to the evaluation context (`CURRENT_COMPUTED`,
`EVALUATION_DEPTH`, `PROCESSING_SIGNALS`) — reads of Computables with their pre-checks and nested evaluations,
assignments with their notification cascades and user handlers (`exec_frame`); no well-formedness of the state is
assumed.  Then the vocabulary of the cycle theorems: the path a function body takes (`TStep`, `TSteps`, `Inside`,
`tsteps_write_rejected`) and the dependencies through Computables (`DependsOn`, `sourcesOf_of_dependsOn`,
`getC_records`).
-/
namespace Mesa.Computed
open Mesa.Signals

/-- what a call that returns (normally or by raising) does to the evaluation context: `CURRENT_COMPUTED` and
    `EVALUATION_DEPTH` are restored; while some function is running nothing is dropped from the record of what was
    read; outside any evaluation the record stays empty -/
structure Frame (s s' : St) : Prop where
  cur : s'.cur = s.cur
  depth : s'.depth = s.depth
  proc : 0 < s.depth → ∀ k, k ∈ s.proc → k ∈ s'.proc
  idle : s.depth = 0 → s.cur = none → s.proc = [] → s'.proc = []

theorem Frame.of_eq {s s' : St} (hc : s'.cur = s.cur) (hd : s'.depth = s.depth) (hp : s'.proc = s.proc) : Frame s s' :=
  ⟨hc, hd, fun _ k hk => by rw [hp]; exact hk, fun _ _ h => by rw [hp]; exact h⟩

theorem Frame.refl (s : St) : Frame s s := Frame.of_eq rfl rfl rfl

theorem Frame.trans {s s' s'' : St} (a : Frame s s') (b : Frame s' s'') : Frame s s'' :=
  ⟨b.cur.trans a.cur, b.depth.trans a.depth,
    fun h k hk => b.proc (by rw [a.depth]; exact h) k (a.proc h k hk),
    fun hd hc hp => b.idle (by rw [a.depth]; exact hd) (by rw [a.cur]; exact hc) (a.idle hd hc hp)⟩

theorem Frame.after {s s1 s' : St} (f : Frame s1 s') (hc : s1.cur = s.cur) (hd : s1.depth = s.depth)
    (hp : s1.proc = s.proc) : Frame s s' := (Frame.of_eq hc hd hp).trans f

/-- `Frame` for every call that `rec` answers: what the `_frame` lemmas assume of the level of `exec` below -/
def FrameRec (rec : Rec) : Prop := ∀ t s s' r, rec t s = some (s', r) → Frame s s'

theorem addParent_ctx {s s' : St} {p : Nat} {r : PRef} {v : V} {res : R} (h : addParent s p r v = (s', res)) :
    s'.cur = s.cur ∧ s'.depth = s.depth ∧ s'.proc = s.proc ∧ s'.store = s.store := by
  unfold addParent at h
  split at h
  · split at h
    · cases h; exact ⟨rfl, rfl, rfl, rfl⟩
    · cases h; exact ⟨rfl, rfl, rfl, rfl⟩
  · cases h; exact ⟨rfl, rfl, rfl, rfl⟩

theorem addParent_frame {s s' : St} {p : Nat} {r : PRef} {v : V} {res : R} (h : addParent s p r v = (s', res)) :
    Frame s s' :=
  let ⟨c1, d1, p1, _⟩ := addParent_ctx h
  .of_eq c1 d1 p1

/-- inside an evaluation a read puts keys on record -/
theorem Frame.of_addParent {s s1 : St} {p : Nat} {r : PRef} {v : V} {res : R} (hcur : s.cur = some p)
    (h : addParent s p r v = (s1, res)) (ks : List Key) : Frame s { s1 with proc := ks ++ s1.proc } :=
  let ⟨c1, d1, p1, _⟩ := addParent_ctx h
  ⟨c1, d1, fun _ k hk => List.mem_append_right ks (p1 ▸ hk), fun _ hc _ => by rw [hcur] at hc; cases hc⟩

theorem removeFold_frame (c : Nat) (L : List Nat) (s : St) :
    Frame s (L.foldl (fun s o =>
      match (s.regs o).unobserve s.alive .all .all (Sub.dirty c) with
      | .ok reg => s.setReg o reg
      | .error _ => s) s) := by
  induction L generalizing s with
  | nil => exact .refl _
  | cons o L ih =>
    simp only [List.foldl_cons]
    cases (s.regs o).unobserve s.alive .all .all (Sub.dirty c) with
    | ok reg => exact (ih (s.setReg o reg)).after rfl rfl rfl
    | error e => exact ih s

theorem removeParents_frame (s : St) (c : Nat) : Frame s (removeParents s c) := by
  unfold removeParents
  split
  · exact .refl _
  · next x _ => exact (removeFold_frame c (parentOwners s x.parents) s).trans (.of_eq rfl rfl rfl)

theorem markFailed_frame (s : St) (c : Nat) : Frame s (markFailed s c) := by
  unfold markFailed
  split <;> exact .of_eq rfl rfl rfl

/-- leaving an evaluation: entered at `s3` from a state `s2` that has the context of `s`, it ran to `s4` -/
theorem Frame.leave {s s2 s3 s4 : St} (f2 : Frame s s2) (f4 : Frame s3 s4) (hd : s3.depth = s2.depth + 1)
    (hp : s3.proc = s2.proc) : Frame s (leave s.cur s4) := by
  have d4 : s4.depth = s.depth + 1 := by rw [f4.depth, hd, f2.depth]
  refine ⟨rfl, by simp [Mesa.Computed.leave, d4], fun h k hk => ?_, fun h _ _ => ?_⟩
  · have : ¬ (s4.depth - 1 = 0) := by omega
    simp only [Mesa.Computed.leave, this, if_false]
    exact f4.proc (by omega) k (by rw [hp]; exact f2.proc h k hk)
  · have : s4.depth - 1 = 0 := by omega
    simp [Mesa.Computed.leave, this]

theorem evalTree_frame {rec : Rec} (hrec : FrameRec rec) {t : Tree} {s s' : St} {r : R}
    (h : evalTree rec t s = some (s', r)) : Frame s s' := by
  induction t generalizing s with
  | ret v => simp only [evalTree] at h; cases h; exact .refl _
  | fail => simp only [evalTree] at h; cases h; exact .refl _
  | read k cont ih =>
    simp only [evalTree] at h
    split at h
    · exact ih _ h
    · next p hcur =>
      split at h
      · next ha => cases h; exact addParent_frame ha
      · next ha => exact (Frame.of_addParent hcur ha [k]).trans (ih _ h)
  | readC c cont ih =>
    simp only [evalTree] at h
    split at h
    · cases h
    · next hg => cases h; exact hrec _ _ _ _ hg
    · next hg => exact (hrec _ _ _ _ hg).trans (ih _ h)
  | write k v next ih =>
    simp only [evalTree] at h
    split at h
    · cases h
    · next hg => cases h; exact hrec _ _ _ _ hg
    · next hg => exact (hrec _ _ _ _ hg).trans (ih h)

theorem precheck_frame {rec : Rec} (hrec : FrameRec rec) {ps : List (PRef × V)} {s s' : St} {r : Except Err Bool}
    (h : precheck rec ps s = some (s', r)) : Frame s s' := by
  induction ps generalizing s with
  | nil => simp only [precheck] at h; cases h; exact .refl _
  | cons e rest ih =>
    obtain ⟨p, v⟩ := e
    cases p with
    | obs k =>
      simp only [precheck] at h
      split at h
      · cases h; exact .refl _
      · exact ih h
    | comp c =>
      simp only [precheck] at h
      split at h
      · cases h
      · next hg => cases h; exact hrec _ _ _ _ hg
      · next hg =>
        have f1 := hrec _ _ _ _ hg
        split at h
        · cases h; exact f1
        · exact f1.trans (ih h)

theorem readAll_frame {rec : Rec} (hrec : FrameRec rec) {cs : List Nat} {s s' : St} {r : R}
    (h : readAll rec cs s = some (s', r)) : Frame s s' := by
  induction cs generalizing s with
  | nil => simp only [readAll] at h; cases h; exact .refl _
  | cons c cs ih =>
    simp only [readAll] at h
    split at h
    · cases h
    · next hg => cases h; exact hrec _ _ _ _ hg
    · next hg => exact (hrec _ _ _ _ hg).trans (ih h)

theorem notifyLoop_frame {rec : Rec} (hrec : FrameRec rec) {k : Key} {old new : V} {xs : List Sub} {s s' : St}
    {r : Except Err Unit} (h : notifyLoop rec k old new xs s = some (s', r)) : Frame s s' := by
  induction xs generalizing s with
  | nil => simp only [notifyLoop] at h; cases h; exact .refl _
  | cons x xs ih =>
    simp only [notifyLoop] at h
    split at h
    · exact ih h
    · cases x with
      | dirty c =>
        simp only at h
        split at h
        · cases h; exact .refl _
        · split at h
          · exact ih h
          · split at h
            · cases h
            · next hg => cases h; exact (hrec _ _ _ _ hg).after rfl rfl rfl
            · next hg => exact ((hrec _ _ _ _ hg).trans (ih h)).after rfl rfl rfl
      | user hh =>
        simp only at h
        split at h
        · cases h
        · next hg => cases h; exact (readAll_frame hrec hg).after rfl rfl rfl
        · next hg => exact ((readAll_frame hrec hg).trans (ih h)).after rfl rfl rfl

theorem notifyT_frame {rec : Rec} (hrec : FrameRec rec) {k : Key} {old new : V} {s s' : St} {r : R}
    (h : notifyT rec k old new s = some (s', r)) : Frame s s' := by
  unfold notifyT at h
  simp only at h
  split at h
  · cases h
  · next hg => cases h; exact notifyLoop_frame hrec hg
  · next hg =>
    have f1 := notifyLoop_frame hrec hg
    split at h
    · cases h
    · next hg2 => cases h; exact f1.trans (notifyLoop_frame hrec hg2)
    · next hg2 => cases h; exact (f1.trans (notifyLoop_frame hrec hg2)).trans (.of_eq rfl rfl rfl)

/-- G10 repaired: an assignment (rejected, raising in a handler, or completed) leaves the record alone -/
theorem assignT_frame {rec : Rec} (hrec : FrameRec rec) {k : Key} {v : V} {s s' : St} {r : R}
    (h : assignT rec k v s = some (s', r)) : Frame s s' := by
  unfold assignT at h
  split at h
  · cases h; exact .refl _
  · split at h
    · cases h
    · next hg => cases h; exact (hrec _ _ _ _ hg).after rfl rfl rfl
    · next hg => cases h; exact (hrec _ _ _ _ hg).after rfl rfl rfl

/-- an evaluation entered from a state `s1` that has the context of `s0` (`saved` = its `CURRENT_COMPUTED`) -/
theorem evalBody_frame {rec : Rec} (hrec : FrameRec rec) {c : Nat} {tree : Tree} {s0 s1 s' : St} {r : R}
    (h : evalBody rec c tree s0.cur s1 = some (s', r)) (f1 : Frame s0 s1) : Frame s0 s' := by
  unfold evalBody at h
  have f2 := f1.trans (removeParents_frame s1 c)
  simp only at h
  split at h
  · cases h; exact f2
  · split at h
    · cases h
    · next s4 _ he => cases h; exact f2.leave ((evalTree_frame hrec he).trans (markFailed_frame s4 c)) rfl rfl
    · next he =>
      have f4 := evalTree_frame hrec he
      split at h
      · cases h; exact f2.leave f4 rfl rfl
      · cases h; exact f2.leave (f4.trans (.of_eq rfl rfl rfl)) rfl rfl

theorem callC_frame {rec : Rec} (hrec : FrameRec rec) {c : Nat} {x : Comp} {s s' : St} {r : R}
    (h : callC rec c x s = some (s', r)) : Frame s s' := by
  unfold callC at h
  split at h
  · cases h; exact .refl _
  · simp only at h
    split at h
    · exact evalBody_frame hrec (s0 := s) h (.of_eq rfl rfl rfl)
    · -- the pre-check runs with `CURRENT_COMPUTED = None`, which is restored afterwards
      have key : ∀ {s1 : St} {b : Except Err Bool},
          precheck rec x.parents { (s.setComp c { x with first := false }) with cur := none } = some (s1, b) →
          Frame s { s1 with cur := s.cur } :=
        fun hp => have f1 := precheck_frame hrec hp
          ⟨rfl, f1.depth, f1.proc, fun hd _ hq => f1.idle hd rfl hq⟩
      split at h
      · cases h
      · next hp => cases h; exact key hp
      · next s1 hp => exact (key hp).trans (evalBody_frame hrec (s0 := { s1 with cur := s.cur }) h (.refl _))
      · next hp =>
        split at h
        · cases h; exact key hp
        · cases h; exact (key hp).trans (.of_eq rfl rfl rfl)

/-- what `getC` does between the call and the notification: the value is remembered by the evaluating Computed, if
    any, and (G15) the record grows by what `c` depends on -/
theorem getC_added_frame {c : Nat} {new : V} {s1 s2 : St} {res : R}
    (h : (match s1.cur with
      | none => (s1, R.ok none)
      | some p =>
        match addParent s1 p (.comp c) new with
        | (s2, .err e) => (s2, .err e)
        | (s2, .ok u) => ({ s2 with proc := sourcesOf s2 (c + 1) c ++ s2.proc }, .ok u)) = (s2, res)) :
    Frame s1 s2 := by
  split at h
  · cases h; exact .refl _
  · next hcur =>
    split at h
    · next ha => cases h; exact addParent_frame ha
    · next ha => cases h; exact .of_addParent hcur ha _

theorem getC_frame {rec : Rec} (hrec : FrameRec rec) {c : Nat} {s s' : St} {r : R}
    (h : getC rec c s = some (s', r)) : Frame s s' := by
  unfold getC at h
  split at h
  · cases h; exact .refl _
  · split at h
    · cases h
    · next hc => cases h; exact callC_frame hrec hc
    · next hc =>
      have f1 := callC_frame hrec hc
      simp only at h
      split at h
      · next ha => cases h; exact f1.trans (getC_added_frame ha)
      · next ha =>
        have f2 := f1.trans (getC_added_frame ha)
        split at h
        · split at h
          · cases h
          · next hn => cases h; exact f2.trans (hrec _ _ _ _ hn)
          · next hn => cases h; exact f2.trans (hrec _ _ _ _ hn)
        · cases h; exact f2

/-- **every call respects the evaluation context**, whatever the state and however deep the recursion -/
theorem exec_frame : ∀ f, FrameRec (exec f) := by
  intro f
  induction f with
  | zero => intro t s s' r h; simp [exec] at h
  | succ f ih =>
    intro t s s' r h
    simp only [exec] at h
    cases t with
    | notify k old new => exact notifyT_frame ih h
    | assign k v => exact assignT_frame ih h
    | readC c => exact getC_frame ih h

theorem step_frame (fuel : Nat) {s s' : St} {op : Op} {r : R} (h : step fuel s op = some (s', r)) : Frame s s' := by
  cases op with
  | define c o n t =>
    exact (exec_frame fuel _ _ _ _ h).after rfl rfl rfl
  | assign k v => exact exec_frame fuel _ _ _ _ h
  | read c => exact exec_frame fuel _ _ _ _ h
  | observe k hh =>
    simp only [step] at h
    split at h <;>
    · cases h; exact .of_eq rfl rfl rfl
  | unobserve k hh =>
    simp only [step] at h
    split at h <;>
    · cases h; exact .of_eq rfl rfl rfl
  | drop hh => simp only [step] at h; cases h; exact .of_eq rfl rfl rfl

/-! ### the path a function body takes -/

/-- one node of a function body, executed with the recursive calls `rec`: what `evalTree` does before it goes
    on with the rest of the function (`t, s` ⟶ `t', s'`); no step = the node raised, ran out of fuel, or is `ret` -/
inductive TStep (rec : Rec) : Tree → St → Tree → St → Prop
  | read {s s1 : St} {p : Nat} {u : V} (k : Key) (cont : V → Tree) (hcur : s.cur = some p)
      (h : addParent s p (.obs k) (s.store k) = (s1, .ok u)) :
      TStep rec (.read k cont) s (cont (s.store k)) { s1 with proc := k :: s1.proc }
  | readTop {s : St} (k : Key) (cont : V → Tree) (hcur : s.cur = none) :
      TStep rec (.read k cont) s (cont (s.store k)) s
  | readC {s s1 : St} {v : V} (c : Nat) (cont : V → Tree) (h : rec (.readC c) s = some (s1, .ok v)) :
      TStep rec (.readC c cont) s (cont v) s1
  | write {s s1 : St} {u : V} (k : Key) (v : V) (next : Tree) (h : rec (.assign k v) s = some (s1, .ok u)) :
      TStep rec (.write k v next) s next s1

/-- the nodes a function body executes from `t, s` until it stands at `t', s'` (closure of `TStep`) -/
inductive TSteps (rec : Rec) : Tree → St → Tree → St → Prop
  | refl (t : Tree) (s : St) : TSteps rec t s t s
  | head {t t1 t2 : Tree} {s s1 s2 : St} (h : TStep rec t s t1 s1) (hs : TSteps rec t1 s1 t2 s2) : TSteps rec t s t2 s2

/-- the steps are the evaluator's: evaluating the function is evaluating what is left of it -/
theorem evalTree_tstep {rec : Rec} {t t' : Tree} {s s' : St} (h : TStep rec t s t' s') :
    evalTree rec t s = evalTree rec t' s' := by
  cases h with
  | read k cont hcur h => simp only [evalTree, hcur, h]
  | readTop k cont hcur => simp only [evalTree, hcur]
  | readC c cont h => simp only [evalTree, h]
  | write k v next h => simp only [evalTree, h]

theorem evalTree_tsteps {rec : Rec} {t t' : Tree} {s s' : St} (h : TSteps rec t s t' s') :
    evalTree rec t s = evalTree rec t' s' := by
  induction h with
  | refl => rfl
  | head h _ ih => rw [evalTree_tstep h, ih]

/-- inside an evaluation on behalf of Computed `p`, with `k` on record as read -/
structure Inside (p : Nat) (k : Key) (s : St) : Prop where
  cur : s.cur = some p
  depth : 0 < s.depth
  mem : k ∈ s.proc

theorem Inside.of_frame {p : Nat} {k : Key} {s s' : St} (i : Inside p k s) (f : Frame s s') : Inside p k s' :=
  ⟨f.cur.trans i.cur, by rw [f.depth]; exact i.depth, f.proc i.depth k i.mem⟩

theorem Inside.read {p : Nat} {k : Key} {s s1 : St} {r : PRef} {v : V} {res : R} (hcur : s.cur = some p)
    (hd : 0 < s.depth) (h : addParent s p r v = (s1, res)) : Inside p k { s1 with proc := k :: s1.proc } :=
  let ⟨c1, d1, _, _⟩ := addParent_ctx h
  ⟨c1.trans hcur, Nat.lt_of_lt_of_eq hd d1.symm, List.mem_cons_self⟩

theorem TStep.frame {rec : Rec} (hrec : FrameRec rec) {t t' : Tree} {s s' : St} (h : TStep rec t s t' s') :
    Frame s s' := by
  cases h with
  | read k cont hcur h => exact .of_addParent hcur h [k]
  | readTop k cont hcur => exact Frame.refl _
  | readC c cont h => exact hrec _ _ _ _ h
  | write k v next h => exact hrec _ _ _ _ h

theorem TSteps.frame {rec : Rec} (hrec : FrameRec rec) {t t' : Tree} {s s' : St} (h : TSteps rec t s t' s') :
    Frame s s' := by
  induction h with
  | refl => exact Frame.refl _
  | head h _ ih => exact (h.frame hrec).trans ih

/-! ### dependencies through Computables (finding G15) -/

/-- Computed `c` depends on the Observable `k`: it remembers `k` itself, or a Computable that depends on `k` -/
inductive DependsOn (s : St) : Nat → Key → Prop
  | obs {c : Nat} {x : Comp} {k : Key} {v : V} (hx : s.comps c = some x) (hm : (PRef.obs k, v) ∈ x.parents) :
      DependsOn s c k
  | comp {c c' : Nat} {x : Comp} {k : Key} {v : V} (hx : s.comps c = some x) (hm : (PRef.comp c', v) ∈ x.parents)
      (h : DependsOn s c' k) : DependsOn s c k

/-- a Computed remembers only Computables defined before it -/
def RankedParents (s : St) : Prop :=
  ∀ c x, s.comps c = some x → ∀ c' v, (PRef.comp c', v) ∈ x.parents → c' < c

theorem sourcesOf_congr {s s' : St} (h : s'.comps = s.comps) : ∀ f c, sourcesOf s' f c = sourcesOf s f c := by
  intro f
  induction f with
  | zero => intro c; rfl
  | succ f ih =>
    intro c
    simp only [sourcesOf, h]
    cases s.comps c with
    | none => rfl
    | some x =>
      simp only
      congr 1
      funext e
      cases e.1 with
      | obs k => rfl
      | comp c' => exact ih c'

/-- the walk of `Computed._sources` finds every dependency (with parents ranked, `c + 1` levels suffice) -/
theorem sourcesOf_of_dependsOn {s : St} (hr : RankedParents s) {c : Nat} {k : Key} (h : DependsOn s c k) :
    ∀ f, c < f → k ∈ sourcesOf s f c := by
  induction h with
  | obs hx hm =>
    intro f hf
    cases f with
    | zero => omega
    | succ f =>
      simp only [sourcesOf, hx, List.mem_flatMap]
      exact ⟨_, hm, by simp⟩
  | comp hx hm _ ih =>
    intro f hf
    cases f with
    | zero => omega
    | succ f =>
      simp only [sourcesOf, hx, List.mem_flatMap]
      exact ⟨_, hm, ih f (by have := hr _ _ hx _ _ hm; omega)⟩

theorem dependsOn_of_sourcesOf {s : St} : ∀ (f c : Nat) (k : Key), k ∈ sourcesOf s f c → DependsOn s c k := by
  intro f
  induction f with
  | zero => intro c k h; simp [sourcesOf] at h
  | succ f ih =>
    intro c k h
    simp only [sourcesOf] at h
    cases hx : s.comps c with
    | none => simp [hx] at h
    | some x =>
      simp only [hx, List.mem_flatMap] at h
      obtain ⟨⟨r, v⟩, hm, hk⟩ := h
      cases r with
      | obs k' =>
        simp only [List.mem_singleton] at hk
        subst hk
        exact .obs hx hm
      | comp c' => exact .comp hx hm (ih c' k hk)

/-- G15 repaired: a read of Computable `c` inside an evaluation that hands out the value `c` held before — served
    from the cache, re-validated, or recomputed to the same value — leaves everything `c` depends on on record -/
theorem getC_records {rec : Rec} (hrec : FrameRec rec) {c p : Nat} {x : Comp} {s s' : St} {a : V}
    (hcur : s.cur = some p) (hx : s.comps c = some x) (h : getC rec c s = some (s', .ok a))
    (hsame : a = x.value.join) : ∀ k, k ∈ sourcesOf s' (c + 1) c → k ∈ s'.proc := by
  unfold getC at h
  rw [hx] at h
  simp only at h
  split at h
  · cases h
  · cases h
  · next hc =>
    rw [(callC_frame hrec hc).cur.trans hcur] at h
    simp only at h
    split at h
    · cases h
    · next hadd =>
      split at hadd
      · cases hadd
      · next s2 _ _ =>
        cases hadd
        split at h
        · next hn =>
          -- a new value: not the case considered
          split at h
          · cases h
          · cases h
          · cases h; exact absurd hsame hn
        · cases h
          intro k hk
          rw [sourcesOf_congr (s := s2) (s' := { s2 with proc := sourcesOf s2 (c + 1) c ++ s2.proc }) rfl] at hk
          exact List.mem_append_left _ hk

theorem write_inside {p : Nat} {k : Key} {s : St} (hcur : s.cur = some p) (hmem : k ∈ s.proc) (f : Nat) (v : V)
    (next : Tree) : evalTree (exec (f + 1)) (.write k v next) s = some (s, .err .value) := by
  simp [evalTree, exec, stepF, assignT, hcur, hmem]

theorem tsteps_write_rejected {f p : Nat} {k : Key} {t : Tree} {s s' : St} {v : V} {next : Tree} (i : Inside p k s)
    (path : TSteps (exec (f + 1)) t s (.write k v next) s') :
    evalTree (exec (f + 1)) t s = some (s', .err .value) := by
  have i' := i.of_frame (path.frame (exec_frame (f + 1)))
  rw [evalTree_tsteps path]
  exact write_inside i'.cur i'.mem f v next

end Mesa.Computed
