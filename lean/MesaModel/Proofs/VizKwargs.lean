import MesaModel.Model.VizKwargs
import MesaModel.Proofs.Viz
/-!
Helper lemmas for the plotting-keyword part of C20 (`Model/VizKwargs.lean`).
-/
namespace Mesa.Viz

/-- some entry specifies the key / the key is among the plotting keywords -/
def clashes (es : List Entry) (kw : List (Key × Val)) (kf : Key × (Entry → Option Val)) : Prop :=
  (∃ e ∈ es, kf.2 e ≠ none) ∧ kf.1 ∈ kw.map (·.1)

theorem clash_iff (es : List Entry) (kw : List (Key × Val)) (kf : Key × (Entry → Option Val)) :
    (!(optArray kf.2 es).isEmpty && kw.any (·.1 == kf.1)) = true ↔ clashes es kw kf := by
  unfold clashes
  rw [Bool.and_eq_true, optArray_isEmpty, Bool.not_eq_true', ← Bool.not_eq_true, all_isNone_iff, List.any_eq_true]
  refine and_congr (by simp) ⟨fun ⟨kv, hm, he⟩ => ?_, fun h2 => ?_⟩
  · exact List.mem_map.mpr ⟨kv, hm, beq_iff_eq.mp he⟩
  · obtain ⟨kv, hm, he⟩ := List.mem_map.mp h2
    exact ⟨kv, hm, by simp [he]⟩

theorem kwConflict_none_iff (es : List Entry) (kw : List (Key × Val)) :
    kwConflict es kw = none ↔ ∀ kf ∈ optKeys, ¬ clashes es kw kf := by
  unfold kwConflict
  rw [Option.map_eq_none_iff, List.find?_eq_none]
  constructor
  · intro h kf hm hc
    exact h kf hm ((clash_iff es kw kf).mpr hc)
  · intro h kf hm hc
    exact h kf hm ((clash_iff es kw kf).mp hc)

theorem kwConflict_first {es : List Entry} {kw : List (Key × Val)} {k : Key} (h : kwConflict es kw = some k) :
    ∃ kf before after, optKeys = before ++ kf :: after ∧ kf.1 = k ∧ clashes es kw kf ∧ ∀ kf' ∈ before, ¬ clashes es kw kf' := by
  unfold kwConflict at h
  obtain ⟨kf, hf, rfl⟩ := Option.map_eq_some_iff.mp h
  obtain ⟨hp, before, after, hsplit, hbefore⟩ := List.find?_eq_some_iff_append.mp hf
  refine ⟨kf, before, after, hsplit, rfl, (clash_iff es kw kf).mp hp, fun kf' hm hc => ?_⟩
  have := hbefore kf' hm
  rw [(clash_iff es kw kf').mpr hc] at this
  cases this

theorem kwConflict_some {es : List Entry} {kw : List (Key × Val)} {k : Key} (h : kwConflict es kw = some k) :
    ∃ kf ∈ optKeys, kf.1 = k ∧ clashes es kw kf := by
  obtain ⟨kf, before, after, hs, hk, hc, _⟩ := kwConflict_first h
  exact ⟨kf, hs ▸ List.mem_append_right _ List.mem_cons_self, hk, hc⟩

theorem applyKw_nil (e : Entry) : applyKw [] e = e := rfl

theorem scatterKw_ok_iff (es : List Entry) (kw : List (Key × Val)) (d : KwDrawing) :
    scatterKw es kw = .ok d ↔ d = ⟨scatter es, kw⟩ ∧ (es = [] ∨ kwConflict es kw = none) := by
  unfold scatterKw
  cases es with
  | nil => exact ⟨fun h => ⟨(Except.ok.inj h).symm, Or.inl rfl⟩, fun h => h.1 ▸ rfl⟩
  | cons e es =>
    simp only [List.isEmpty_cons, Bool.false_eq_true, if_false]
    cases kwConflict (e :: es) kw with
    | none => exact ⟨fun h => ⟨(Except.ok.inj h).symm, Or.inr rfl⟩, fun h => by rw [h.1]⟩
    | some k => exact ⟨fun h => (nomatch h), fun h => h.2.elim (fun h => (nomatch h)) (fun h => (nomatch h))⟩

theorem scatterKw_error_iff (es : List Entry) (kw : List (Key × Val)) (err : KwErr) :
    scatterKw es kw = .error err ↔ es ≠ [] ∧ ∃ k, kwConflict es kw = some k ∧ err = .conflict k := by
  unfold scatterKw
  cases es with
  | nil => exact ⟨fun h => (nomatch h), fun h => absurd rfl h.1⟩
  | cons e es =>
    simp only [List.isEmpty_cons, Bool.false_eq_true, if_false]
    cases kwConflict (e :: es) kw with
    | none => exact ⟨fun h => (nomatch h), fun ⟨_, _, h, _⟩ => (nomatch h)⟩
    | some k =>
      exact ⟨fun h => ⟨List.cons_ne_nil _ _, k, rfl, (Except.error.inj h).symm⟩,
        fun ⟨_, k', hk, he⟩ => by rw [he, Option.some.inj hk]⟩

theorem drawSpaceKw_eq {sp : Space} (hw : sp.WF) (hr : drawRaises sp = none) (heap : Heap) (p : Portrayal) (kw : List (Key × Val)) :
    drawSpaceKw sp heap p kw = scatterKw (drawEntries sp heap p) (if forwardsKwargs sp.fam then kw else []) := by
  unfold drawSpaceKw
  rw [hr, collect_eq_filterMap _ _ _ _ (spaceAgents_located hw)]
  simp only
  rw [map_transform_entries]
  rfl

end Mesa.Viz
