import MesaModel.Model.Activation
import MesaModel.Proofs.ListOps
/-! Helper lemmas for C04 and for what is proved of whole histories (model: `Model/Registry.lean`, `Model/Activation.lean`).
    Two facts carry most of the rest: what every callback action preserves a walk preserves (`walk_inv`), and every
    activation is a walk (`step_act`). -/
namespace Mesa.Agents

theorem registered_iff {w : World} {a : Aid} :
    registered w a = true ↔ ∃ i r, w.info[a]? = some i ∧ w.regs[i.model]? = some r ∧ a ∈ r.hard := by
  unfold registered
  cases hi : w.info[a]? with
  | none => simp
  | some i =>
    cases hr : w.regs[i.model]? with
    | none => simp [hr]
    | some r => simp [hr]

theorem alive_iff {w : World} {a : Aid} :
    alive w a = true ↔ a < w.info.length ∧ (registered w a = true ∨ a ∈ w.held) := by
  simp [alive]

theorem alive_lt {w : World} {a : Aid} (h : alive w a = true) : a < w.info.length := (alive_iff.mp h).1

theorem alive_congr {w w' : World} (h1 : w'.info = w.info) (h2 : w'.regs = w.regs) (h3 : w'.held = w.held) (a : Aid) :
    alive w' a = alive w a := by
  simp [alive, registered, h1, h2, h3]

/-- `w'` is a later world: the agents of `w` are still there, and none that was dead came back -/
structure Le (w w' : World) : Prop where
  ext : ∃ e, w'.info = w.info ++ e
  dead : ∀ a, a < w.info.length → alive w' a = true → alive w a = true

theorem Le.refl (w : World) : Le w w := ⟨⟨[], by simp⟩, fun _ _ h => h⟩

theorem Le.len {w w' : World} (h : Le w w') : w.info.length ≤ w'.info.length := by
  obtain ⟨e, he⟩ := h.ext
  rw [he]
  simp

theorem Le.trans {a b c : World} (h1 : Le a b) (h2 : Le b c) : Le a c := by
  refine ⟨?_, fun x hx hc => h1.dead x hx (h2.dead x (Nat.lt_of_lt_of_le hx h1.len) hc)⟩
  obtain ⟨e1, he1⟩ := h1.ext
  obtain ⟨e2, he2⟩ := h2.ext
  exact ⟨e1 ++ e2, by rw [he2, he1, List.append_assoc]⟩

theorem Le.info_get {w w' : World} (h : Le w w') {a : Aid} (ha : a < w.info.length) : w'.info[a]? = w.info[a]? := by
  obtain ⟨e, he⟩ := h.ext
  rw [he, List.getElem?_append_left ha]

theorem Le.of_alive {w w' : World} (hi : w'.info = w.info) (ha : ∀ a, alive w' a = alive w a) : Le w w' :=
  ⟨⟨[], by simp [hi]⟩, fun a _ h => ha a ▸ h⟩

/-! ### what a callback is made of: `removeAgent`, `createAgent`, `unhold`, edits of program-made sets -/

theorem deregister_hard (r : Reg) (b : Aid) (ty : Ty) :
    (r.deregister b ty).hard = if b ∈ r.hard then r.hard.erase b else r.hard := by
  unfold Reg.deregister
  by_cases hb : b ∈ r.hard
  · simp only [hb, if_true]
    cases r.byType.lookup ty with
    | none => rfl
    | some s =>
      simp only
      by_cases hs : b ∈ s
      · simp only [hs, if_true]
        split <;> rfl
      · simp only [hs, if_false]
  · simp only [hb, if_false]

theorem deregister_hard_subset (r : Reg) (b : Aid) (ty : Ty) : ∀ a, a ∈ (r.deregister b ty).hard → a ∈ r.hard := by
  intro a h
  rw [deregister_hard] at h
  split at h
  · exact List.mem_of_mem_erase h
  · exact h

theorem removeAgent_none {w : World} {b : Aid} (h : w.info[b]? = none) : removeAgent w b = w := by
  simp [removeAgent, h]

theorem removeAgent_noreg {w : World} {b : Aid} {i : Info} (hi : w.info[b]? = some i)
    (hr : w.regs[i.model]? = none) : removeAgent w b = w := by
  simp [removeAgent, hi, hr]

theorem removeAgent_some {w : World} {b : Aid} {i : Info} {r : Reg} (hi : w.info[b]? = some i)
    (hr : w.regs[i.model]? = some r) :
    removeAgent w b = { w with regs := w.regs.set i.model (r.deregister b i.ty), removedLog := w.removedLog ++ [b] } := by
  simp [removeAgent, hi, hr]

theorem removeAgent_info (w : World) (b : Aid) : (removeAgent w b).info = w.info := by
  unfold removeAgent
  split
  rfl
  split <;> rfl

theorem removeAgent_sets (w : World) (b : Aid) : (removeAgent w b).sets = w.sets := by
  unfold removeAgent
  split
  rfl
  split <;> rfl

theorem removeAgent_log (w : World) (b : Aid) : (removeAgent w b).log = w.log := by
  unfold removeAgent
  split
  rfl
  split <;> rfl

theorem createAgent_sets (w : World) (m ty hold x) : (createAgent w m ty hold x).sets = w.sets := by
  unfold createAgent
  split <;> rfl

theorem createAgent_log (w : World) (m ty hold x) : (createAgent w m ty hold x).log = w.log := by
  unfold createAgent
  split <;> rfl

theorem le_removeAgent (w : World) (b : Aid) : Le w (removeAgent w b) := by
  cases hi : w.info[b]? with
  | none =>
    rw [removeAgent_none hi]
    exact Le.refl w
  | some i =>
    cases hr : w.regs[i.model]? with
    | none =>
      rw [removeAgent_noreg hi hr]
      exact Le.refl w
    | some r =>
      rw [removeAgent_some hi hr]
      refine ⟨⟨[], by simp⟩, fun a ha h => ?_⟩
      rw [alive_iff] at h ⊢
      refine ⟨ha, h.2.imp_left fun h => ?_⟩
      rw [registered_iff] at h ⊢
      obtain ⟨ia, ra, h1, h2, h3⟩ := h
      rcases getElem?_set_cases h2 with ⟨e, rfl⟩ | ⟨_, h2⟩
      · exact ⟨ia, r, h1, by rw [e]; exact hr, deregister_hard_subset _ _ _ _ h3⟩
      · exact ⟨ia, ra, h1, h2, h3⟩

theorem le_createAgent (w : World) (m : Nat) (ty : Ty) (hold : Bool) (x : Payload) : Le w (createAgent w m ty hold x) := by
  unfold createAgent
  cases hr : w.regs[m]? with
  | none => exact Le.refl w
  | some r =>
    refine ⟨⟨_, rfl⟩, fun a ha h => ?_⟩
    rw [alive_iff] at h ⊢
    have hne : a ≠ w.info.length := Nat.ne_of_lt ha
    refine ⟨ha, h.2.imp (fun h => ?_) fun h => ?_⟩
    · rw [registered_iff] at h ⊢
      obtain ⟨ia, ra, h1, h2, h3⟩ := h
      simp only at h1
      rw [List.getElem?_append_left ha] at h1
      rcases getElem?_set_cases h2 with ⟨e, rfl⟩ | ⟨_, h2⟩
      · exact ⟨ia, r, h1, by rw [e]; exact hr, (mem_addKey.mp h3).resolve_right hne⟩
      · exact ⟨ia, ra, h1, h2, h3⟩
    · simp only at h
      split at h
      · exact (List.mem_append.mp h).resolve_right (by simpa using hne)
      · exact h

theorem le_createN (w : World) (m : Nat) (ty : Ty) (hold : Bool) (xs : List Payload) : Le w (createN w m ty hold xs) :=
  foldl_inv (P := Le w) (Le.refl w) fun w' h x _ => h.trans (le_createAgent w' m ty hold x)

theorem le_unhold (w : World) (b : Aid) : Le w (unhold w b) := by
  refine ⟨⟨[], by simp [unhold]⟩, fun a ha h => ?_⟩
  rw [alive_iff] at h ⊢
  refine ⟨ha, h.2.imp (fun h => ?_) fun h => ?_⟩
  · simpa [registered, unhold] using h
  · simp [unhold] at h
    exact h.1

/-! ### program-made sets: what `add` / `discard` may change -/

def Action.isSetEdit : Action → Bool
  | .addTo _ _ | .discardFrom _ _ => true
  | _ => false

/-- the same callbacks without their `add` / `discard` calls on program-made sets -/
def stripEdits (script : Aid → List Action) : Aid → List Action := fun a => (script a).filter (fun act => !act.isSetEdit)

/-- `w` with other program-made sets -/
def withSets (w : World) (s : List (Nat × List Aid)) : World := { w with sets := s }

theorem withSets_self (w : World) : withSets w w.sets = w := rfl

theorem withSets_withSets (w : World) (s s' : List (Nat × List Aid)) : withSets (withSets w s) s' = withSets w s' := rfl

section
variable (script : Aid → List Action) (raises : Aid → Bool) (arg : Nat) (ret : Aid → Nat → Nat)

theorem alive_withSets (w : World) (s : List (Nat × List Aid)) (a : Aid) : alive (withSets w s) a = alive w a :=
  alive_congr rfl rfl rfl a

/-- what `add` and `discard` make of the program-made sets: each keeps its generator and stays duplicate-free -/
structure SetsEdit (s s' : List (Nat × List Aid)) : Prop where
  handles : s'.map (·.1) = s.map (·.1)
  nodup : (∀ p ∈ s, p.2.Nodup) → ∀ p ∈ s', p.2.Nodup

theorem SetsEdit.refl (s : List (Nat × List Aid)) : SetsEdit s s := ⟨rfl, id⟩

theorem map_fst_set {s : List (Nat × List Aid)} {k m : Nat} {l l' : List Aid} (hk : s[k]? = some (m, l)) :
    (s.set k (m, l')).map (·.1) = s.map (·.1) := by
  rw [List.map_set]
  exact set_getElem?_self (by rw [List.getElem?_map, hk]; rfl)

theorem SetsEdit.set {s : List (Nat × List Aid)} {k m : Nat} {l l' : List Aid} (hk : s[k]? = some (m, l))
    (hl : l.Nodup → l'.Nodup) : SetsEdit s (s.set k (m, l')) := by
  refine ⟨map_fst_set hk, fun h q hq => ?_⟩
  · rcases List.mem_or_eq_of_mem_set hq with hq | rfl
    · exact h q hq
    · exact hl (h (m, l) (List.mem_of_getElem? hk))

theorem setAdd_eq_withSets (w : World) (k : Nat) (b : Aid) : ∃ s', setAdd w k b = withSets w s' ∧ SetsEdit w.sets s' := by
  unfold setAdd
  split
  · rename_i m l hk
    split
    · exact ⟨_, rfl, .set hk nodup_addKey⟩
    · exact ⟨w.sets, rfl, .refl _⟩
  · exact ⟨w.sets, rfl, .refl _⟩

theorem setDiscard_eq_withSets (w : World) (k : Nat) (b : Aid) :
    ∃ s', setDiscard w k b = withSets w s' ∧ SetsEdit w.sets s' := by
  unfold setDiscard
  split
  · rename_i m l hk
    exact ⟨_, rfl, .set hk fun h => h.sublist List.erase_sublist⟩
  · exact ⟨w.sets, rfl, .refl _⟩

theorem le_withSets (w : World) (s : List (Nat × List Aid)) : Le w (withSets w s) := .of_alive rfl (alive_withSets w s)

theorem le_withLog (w : World) (l : List (Aid × Nat)) : Le w { w with log := l } := .of_alive rfl (alive_congr rfl rfl rfl)

/-! ### from those to callback actions, and from actions to walks -/

theorem runAction_inv {P : World → Prop}
    (rm : ∀ w b, P w → P (removeAgent w b))
    (cr : ∀ w m ty hold x, P w → P (createAgent w m ty hold x))
    (un : ∀ w b, P w → P (unhold w b))
    (ed : ∀ w s, SetsEdit w.sets s → P w → P (withSets w s))
    (self : Aid) {w : World} (h : P w) (act : Action) : P (runAction self w act) := by
  cases act with
  | rmSelf => exact rm w self h
  | rm b => exact rm w b h
  | create m ty n hold => exact foldl_inv h fun w h x _ => cr w m ty hold x h
  | unhold b => exact un w b h
  | addTo k b =>
    obtain ⟨s, e, hs⟩ := setAdd_eq_withSets w k b
    show P (setAdd w k b)
    rw [e]
    exact ed w s hs h
  | discardFrom k b =>
    obtain ⟨s, e, hs⟩ := setDiscard_eq_withSets w k b
    show P (setDiscard w k b)
    rw [e]
    exact ed w s hs h

theorem walk_inv {P : World → Prop} {script : Aid → List Action}
    (log : ∀ w l, P w → P { w with log := l })
    (act : ∀ a w, P w → ∀ x ∈ script a, P (runAction a w x))
    (arg : Nat) (refs : List Aid) {w : World} (h : P w) : P (walk script arg w refs) :=
  foldl_inv h fun w h a _ => by
    unfold turn
    split
    · exact foldl_inv (log w _ h) fun w h x hx => act a w h x hx
    · exact h

theorem le_runAction (self : Aid) (w : World) (act : Action) : Le w (runAction self w act) :=
  runAction_inv (P := Le w) (fun w' b h => h.trans (le_removeAgent w' b))
    (fun w' m ty hold x h => h.trans (le_createAgent w' m ty hold x)) (fun w' b h => h.trans (le_unhold w' b))
    (fun w' s _ h => h.trans (le_withSets w' s)) self (Le.refl w) act

theorem le_invoke (w : World) (a : Aid) : Le w (invoke script arg w a) :=
  foldl_inv (le_withLog w _) fun w' h x _ => h.trans (le_runAction a w' x)

theorem le_walk (w : World) (refs : List Aid) : Le w (walk script arg w refs) :=
  walk_inv (P := Le w) (fun w' l h => h.trans (le_withLog w' l)) (fun a w' h x _ => h.trans (le_runAction a w' x))
    arg refs (Le.refl w)

/-! ### the log, and the agents a walk invokes -/

theorem runAction_log (self : Aid) (w : World) (act : Action) : (runAction self w act).log = w.log :=
  runAction_inv (P := fun w' => w'.log = w.log) (fun w' b h => (removeAgent_log w' b).trans h)
    (fun w' m ty hold x h => (createAgent_log w' m ty hold x).trans h) (fun _ _ h => h) (fun _ _ _ h => h) self rfl act

theorem invoke_log (w : World) (a : Aid) :
    (invoke script arg w a).log = w.log ++ [(a, arg)] :=
  foldl_inv (P := fun w' => w'.log = w.log ++ [(a, arg)]) rfl fun w' h x _ => (runAction_log a w' x).trans h

end

/-- the agents a walk invokes, in invocation order -/
def visited (script : Aid → List Action) (arg : Nat) : World → List Aid → List Aid
  | _, [] => []
  | w, a :: rest =>
    if alive w a then a :: visited script arg (invoke script arg w a) rest else visited script arg w rest

section
variable (script : Aid → List Action) (raises : Aid → Bool) (arg : Nat) (ret : Aid → Nat → Nat)

theorem walk_cons (w : World) (a : Aid) (rest : List Aid) :
    walk script arg w (a :: rest) = walk script arg (turn script arg w a) rest := rfl

theorem walk_append (w : World) (l1 l2 : List Aid) :
    walk script arg w (l1 ++ l2) = walk script arg (walk script arg w l1) l2 := by
  simp [walk, List.foldl_append]

theorem visited_alive {script : Aid → List Action} {arg : Nat} {w : World} {a : Aid} (rest : List Aid)
    (h : alive w a = true) :
    visited script arg w (a :: rest) = a :: visited script arg (invoke script arg w a) rest := by
  simp [visited, h]

theorem visited_dead {script : Aid → List Action} {arg : Nat} {w : World} {a : Aid} (rest : List Aid)
    (h : ¬ alive w a = true) : visited script arg w (a :: rest) = visited script arg w rest := by
  simp [visited, h]

theorem turn_alive {script : Aid → List Action} {arg : Nat} {w : World} {a : Aid} (h : alive w a = true) :
    turn script arg w a = invoke script arg w a := by simp [turn, h]

theorem turn_dead {script : Aid → List Action} {arg : Nat} {w : World} {a : Aid} (h : ¬ alive w a = true) :
    turn script arg w a = w := by simp [turn, h]

theorem walk_log (w : World) (refs : List Aid) :
    (walk script arg w refs).log = w.log ++ (visited script arg w refs).map (fun a => (a, arg)) := by
  induction refs generalizing w with
  | nil => simp [walk, visited]
  | cons a refs ih =>
    rw [walk_cons, ih]
    by_cases hal : alive w a = true
    · rw [turn_alive hal, visited_alive _ hal, invoke_log]
      simp
    · rw [turn_dead hal, visited_dead _ hal]

theorem visited_sublist (w : World) (refs : List Aid) :
    (visited script arg w refs).Sublist refs := by
  induction refs generalizing w with
  | nil => simp [visited]
  | cons a refs ih =>
    by_cases hal : alive w a = true
    · rw [visited_alive _ hal]
      exact (ih _).cons_cons a
    · rw [visited_dead _ hal]
      exact (ih _).cons a

theorem visited_cons (w : World) (x : Aid) (refs : List Aid) :
    visited script arg w (x :: refs)
      = (if alive w x = true then [x] else []) ++ visited script arg (turn script arg w x) refs := by
  by_cases h : alive w x = true
  · rw [visited_alive _ h, turn_alive h, if_pos h]
    rfl
  · rw [visited_dead _ h, turn_dead h, if_neg h]
    rfl

theorem mem_visited_iff (w : World) (refs : List Aid) (a : Aid) :
    a ∈ visited script arg w refs ↔
      ∃ pre post, refs = pre ++ a :: post ∧ alive (walk script arg w pre) a = true := by
  induction refs generalizing w with
  | nil => simp [visited]
  | cons x refs ih =>
    rw [visited_cons, List.mem_append, ih]
    constructor
    · rintro (h | ⟨pre, post, rfl, h⟩)
      · by_cases hal : alive w x = true
        · rw [if_pos hal, List.mem_singleton] at h
          exact ⟨[], refs, by rw [h]; rfl, by rw [h]; exact hal⟩
        · rw [if_neg hal] at h
          cases h
      · exact ⟨x :: pre, post, rfl, h⟩
    · rintro ⟨pre, post, h1, h2⟩
      cases pre with
      | nil =>
        obtain ⟨rfl, rfl⟩ := List.cons.inj h1
        exact .inl (by rw [if_pos (show alive w x = true from h2)]; exact List.mem_singleton_self _)
      | cons p pre =>
        obtain ⟨rfl, rfl⟩ := List.cons.inj h1
        exact .inr ⟨pre, post, rfl, h2⟩

/-- a reference that is alive when the walk ends was alive at its turn: the dead stay dead -/
theorem visited_of_alive_end (w : World) (refs : List Aid)
    (hex : ∀ x ∈ refs, x < w.info.length) (a : Aid) (ha : a ∈ refs)
    (hend : alive (walk script arg w refs) a = true) : a ∈ visited script arg w refs := by
  obtain ⟨pre, post, rfl⟩ := List.append_of_mem ha
  refine (mem_visited_iff script arg w _ a).mpr ⟨pre, post, rfl, ?_⟩
  rw [walk_append] at hend
  exact (le_walk script arg _ (a :: post)).dead a (Nat.lt_of_lt_of_le (hex a ha) (le_walk script arg w pre).len) hend

theorem visited_count_of_alive_end (w : World) (refs : List Aid) (hn : refs.Nodup)
    (hex : ∀ x ∈ refs, x < w.info.length) (a : Aid) (ha : a ∈ refs)
    (hend : alive (walk script arg w refs) a = true) : (visited script arg w refs).count a = 1 := by
  have h1 := List.nodup_iff_count.mp (hn.sublist (visited_sublist script arg w refs)) a
  have h2 := List.count_pos_iff.mpr (visited_of_alive_end script arg w refs hex a ha hend)
  omega

theorem walkMap_eq (w : World) (refs : List Aid) :
    walkMap script arg ret w refs = (walk script arg w refs, (visited script arg w refs).map (fun a => ret a arg)) := by
  induction refs generalizing w with
  | nil => rfl
  | cons a refs ih =>
    rw [walk_cons]
    by_cases hal : alive w a = true
    · simp only [walkMap, hal, if_true, ih, turn_alive hal, visited_alive _ hal, List.map_cons]
    · simp only [walkMap, hal, ih, turn_dead hal, visited_dead _ hal, Bool.false_eq_true, if_false]

end

theorem members_lt (w : World) (t : Target) : ∀ a ∈ members w t, a < w.info.length := by
  intro a ha
  simp only [members, List.mem_filter] at ha
  exact alive_lt ha.2

theorem members_sublist (w : World) (t : Target) : (members w t).Sublist (rawMembers w t) := List.filter_sublist

/-! ### shuffle_do: the shuffle step -/

theorem setRng_info (w : World) (m : Nat) (g : Rng) : (setRng w m g).info = w.info := by
  unfold setRng
  split <;> rfl

theorem setRng_held (w : World) (m : Nat) (g : Rng) : (setRng w m g).held = w.held := by
  unfold setRng
  split <;> rfl

theorem setRng_sets (w : World) (m : Nat) (g : Rng) : (setRng w m g).sets = w.sets := by
  unfold setRng
  split <;> rfl

theorem setRng_log (w : World) (m : Nat) (g : Rng) : (setRng w m g).log = w.log := by
  unfold setRng
  split <;> rfl

theorem setRng_regs (w : World) (m : Nat) (g : Rng) (j : Nat) :
    (setRng w m g).regs[j]? = (w.regs[j]?).map fun r => if j = m then { r with rng := g } else r := by
  unfold setRng
  cases hm : w.regs[m]? with
  | none =>
    simp only
    cases hj : w.regs[j]? with
    | none => rfl
    | some r =>
      have : j ≠ m := by
        intro h
        rw [h, hm] at hj
        simp at hj
      simp [this]
  | some r =>
    simp only [List.getElem?_set]
    by_cases hjm : m = j
    · subst hjm
      have : m < w.regs.length := (List.getElem?_eq_some_iff.mp hm).1
      rw [hm]
      simp [this]
    · have : j ≠ m := fun h => hjm h.symm
      simp only [hjm, if_false]
      cases w.regs[j]? <;> simp [this]

theorem setRng_registered (w : World) (m : Nat) (g : Rng) (a : Aid) : registered (setRng w m g) a = registered w a := by
  unfold registered
  rw [setRng_info]
  cases w.info[a]? with
  | none => rfl
  | some i =>
    simp only [setRng_regs]
    cases w.regs[i.model]? with
    | none => rfl
    | some r =>
      simp only [Option.map_some]
      split <;> rfl

theorem setRng_alive (w : World) (m : Nat) (g : Rng) (a : Aid) : alive (setRng w m g) a = alive w a := by
  simp [alive, setRng_info, setRng_held, setRng_registered]

theorem le_setRng (w : World) (m : Nat) (g : Rng) : Le w (setRng w m g) := .of_alive (setRng_info w m g) (setRng_alive w m g)

theorem setRng_rawMembers (w : World) (m : Nat) (g : Rng) (t : Target) :
    rawMembers (setRng w m g) t = rawMembers w t := by
  cases t with
  | all j =>
    simp only [rawMembers, setRng_regs]
    cases w.regs[j]? with
    | none => rfl
    | some r =>
      simp only [Option.map_some]
      split <;> rfl
  | byType j ty =>
    simp only [rawMembers, setRng_regs]
    cases w.regs[j]? with
    | none => rfl
    | some r =>
      simp only [Option.map_some]
      split <;> rfl
  | set k => simp only [rawMembers, setRng_sets]

theorem setRng_members (w : World) (m : Nat) (g : Rng) (t : Target) : members (setRng w m g) t = members w t := by
  unfold members
  rw [setRng_rawMembers]
  apply List.filter_congr
  intro a _
  exact setRng_alive w m g a

theorem Target.model_lt {w : World} {t : Target} (h : t.exists? w = true) : t.model w < w.regs.length := by
  cases t with
  | all m => simpa [Target.exists?, Target.model] using h
  | byType m ty =>
    simp only [Target.exists?] at h
    cases hr : w.regs[m]? with
    | none => simp [hr] at h
    | some r => simpa [Target.model] using (List.getElem?_eq_some_iff.mp hr).1
  | set k =>
    simp only [Target.exists?] at h
    cases hs : w.sets[k]? with
    | none => simp [hs] at h
    | some p =>
      obtain ⟨m, l⟩ := p
      simpa [hs, Target.model] using h

theorem lookup_byTypeSet (bt : List (Ty × List Aid)) (ty : Ty) (l : List Aid) (h : (bt.lookup ty).isSome) :
    (byTypeSet bt ty l).lookup ty = some l := by
  induction bt with
  | nil => simp [List.lookup] at h
  | cons p bt ih =>
    obtain ⟨t, s⟩ := p
    unfold byTypeSet
    by_cases hts : t = ty
    · subst hts
      simp
    · have hne : (ty == t) = false := by
        simp
        exact fun h => hts h.symm
      simp only [hts, if_false, List.lookup, hne]
      apply ih
      simpa [List.lookup, hne] using h

theorem shuffleInPlace_spec (w : World) (t : Target) (h : t.exists? w = true) :
    rawMembers (shuffleInPlace w t) t = (Rng.shuffle (members w t) (rngOf w t)).1 ∧
    rngOf (shuffleInPlace w t) t = (Rng.shuffle (members w t) (rngOf w t)).2 := by
  cases t with
  | all m =>
    simp only [Target.exists?, decide_eq_true_eq] at h
    obtain ⟨r, hr⟩ : ∃ r, w.regs[m]? = some r := ⟨w.regs[m], List.getElem?_eq_getElem h⟩
    simp only [shuffleInPlace, Target.model, setRaw, hr, rngOf, setRng, rawMembers,
      List.getElem?_set, List.length_set, h, if_true, and_self]
  | byType m ty =>
    simp only [Target.exists?] at h
    cases hr : w.regs[m]? with
    | none => simp [hr] at h
    | some r =>
      simp only [hr] at h
      have hm : m < w.regs.length := (List.getElem?_eq_some_iff.mp hr).1
      simp only [shuffleInPlace, Target.model, setRaw, hr, rngOf, setRng, rawMembers,
        List.getElem?_set, List.length_set, hm, if_true, lookup_byTypeSet _ _ _ h, Option.getD_some, and_self]
  | set k =>
    simp only [Target.exists?] at h
    cases hs : w.sets[k]? with
    | none => simp [hs] at h
    | some p =>
      obtain ⟨m, l⟩ := p
      simp only [hs, decide_eq_true_eq] at h
      have hk : k < w.sets.length := (List.getElem?_eq_some_iff.mp hs).1
      obtain ⟨r, hr⟩ : ∃ r, w.regs[m]? = some r := ⟨w.regs[m], List.getElem?_eq_getElem h⟩
      simp only [shuffleInPlace, Target.model, setRaw, hs, rngOf, setRng, rawMembers, hr,
        List.getElem?_set, hk, h, if_true, and_self]

/-! ### GroupBy.do = do over the members regrouped by key -/

section
variable (script : Aid → List Action) (raises : Aid → Bool) (arg : Nat) (ret : Aid → Nat → Nat)

theorem visited_append (w : World) (l1 l2 : List Aid) :
    visited script arg w (l1 ++ l2) = visited script arg w l1 ++ visited script arg (walk script arg w l1) l2 := by
  induction l1 generalizing w with
  | nil => simp [visited, walk]
  | cons a l1 ih => rw [List.cons_append, visited_cons, visited_cons, walk_cons, ih, List.append_assoc]

/-- `GroupBy` takes the snapshot of a group when its turn comes; for a recursion that skips dead references that is
    the same as having dropped, beforehand, those already dead in the earlier world `w0`: the dead stay dead -/
theorem filter_alive_skip {β} {script : Aid → List Action} {arg : Nat} (F : World → List Aid → β) (G : World → Aid → β → β)
    (hdead : ∀ w a rest, ¬ alive w a = true → F w (a :: rest) = F w rest)
    (hlive : ∀ w a rest, alive w a = true → F w (a :: rest) = G w a (F (invoke script arg w a) rest))
    {w0 w : World} (h0 : Le w0 w) (g : List Aid) (hg : ∀ a ∈ g, a < w0.info.length) :
    F w (g.filter (alive w0)) = F w g := by
  induction g generalizing w with
  | nil => rfl
  | cons a g ih =>
    have hg' : ∀ x ∈ g, x < w0.info.length := fun x hx => hg x (List.mem_cons_of_mem _ hx)
    by_cases ha0 : alive w0 a = true
    · rw [List.filter_cons_of_pos ha0]
      by_cases hal : alive w a = true
      · rw [hlive w a _ hal, hlive w a _ hal, ih (h0.trans (le_invoke script arg w a)) hg']
      · rw [hdead w a _ hal, hdead w a _ hal, ih h0 hg']
    · have hal : ¬ alive w a = true := fun h => ha0 (h0.dead a (hg a List.mem_cons_self) h)
      rw [List.filter_cons_of_neg ha0, hdead w a _ hal, ih h0 hg']

theorem walk_filter_alive (w0 w : World) (h0 : Le w0 w) (g : List Aid)
    (hg : ∀ a ∈ g, a < w0.info.length) :
    walk script arg w (g.filter (alive w0)) = walk script arg w g ∧
    visited script arg w (g.filter (alive w0)) = visited script arg w g :=
  ⟨filter_alive_skip (walk script arg) (fun _ _ r => r) (fun _ _ _ h => by rw [walk_cons, turn_dead h])
      (fun _ _ _ h => by rw [walk_cons, turn_alive h]) h0 g hg,
   filter_alive_skip (script := script) (visited script arg) (fun _ a r => a :: r) (fun _ _ rest h => visited_dead rest h)
      (fun _ _ rest h => visited_alive rest h) h0 g hg⟩

theorem groupWalk_eq (w : World) (gs : List (Nat × List Aid))
    (hg : ∀ g ∈ gs, ∀ a ∈ g.2, a < w.info.length) :
    gs.foldl (fun w g => walk script arg w (g.2.filter (alive w))) w
      = walk script arg w (gs.map (·.2)).flatten := by
  induction gs generalizing w with
  | nil => simp [walk]
  | cons g gs ih =>
    simp only [List.foldl_cons, List.map_cons, List.flatten_cons, walk_append]
    have h1 := (walk_filter_alive script arg w w (Le.refl w) g.2 (hg g (List.mem_cons_self))).1
    rw [h1]
    apply ih
    intro g' hg' a ha
    exact Nat.lt_of_lt_of_le (hg g' (List.mem_cons_of_mem _ hg') a ha) (le_walk script arg w g.2).len

theorem groupBy_members_lt (key : Aid → Nat) (w : World) (t : Target) :
    ∀ g ∈ groupBy key (members w t), ∀ a ∈ g.2, a < w.info.length := fun g hg a ha =>
  members_lt w t a ((groupBy_flatten_perm key (members w t)).subset
    (List.mem_flatten.mpr ⟨g.2, List.mem_map.mpr ⟨g, hg, rfl⟩, ha⟩))

theorem groupDo_eq (key : Aid → Nat) (w : World) (t : Target) :
    groupDo script arg key w t = walk script arg w ((groupBy key (members w t)).map (·.2)).flatten :=
  groupWalk_eq script arg w _ (groupBy_members_lt key w t)

theorem groupMap_fold (gs : List (Nat × List Aid))
    (w : World) (acc : List (Nat × List Nat)) (hg : ∀ g ∈ gs, ∀ a ∈ g.2, a < w.info.length)
    {r : World × List (Nat × List Nat)}
    (hr : gs.foldl (fun (acc : World × List (Nat × List Nat)) g =>
        let (w', rs) := walkMap script arg ret acc.1 (g.2.filter (alive acc.1))
        (w', acc.2 ++ [(g.1, rs)])) (w, acc) = r) :
    r.1 = walk script arg w (gs.map (·.2)).flatten ∧
    r.2.map (·.1) = acc.map (·.1) ++ gs.map (·.1) ∧
    (r.2.map (·.2)).flatten
      = (acc.map (·.2)).flatten ++ (visited script arg w (gs.map (·.2)).flatten).map (fun a => ret a arg) := by
  subst hr
  induction gs generalizing w acc with
  | nil => simp [visited, walk]
  | cons g gs ih =>
    have hfa := walk_filter_alive script arg w w (Le.refl w) g.2 (hg g List.mem_cons_self)
    have hstep : walkMap script arg ret w (g.2.filter (alive w)) =
        (walk script arg w g.2, (visited script arg w g.2).map (fun a => ret a arg)) := by
      rw [walkMap_eq, hfa.1, hfa.2]
    simp only [List.foldl_cons, List.map_cons, List.flatten_cons, hstep]
    obtain ⟨i1, i2, i3⟩ := ih (walk script arg w g.2) (acc ++ [(g.1, (visited script arg w g.2).map (fun a => ret a arg))])
      (fun g' hg' a ha => Nat.lt_of_lt_of_le (hg g' (List.mem_cons_of_mem _ hg') a ha) (le_walk script arg w g.2).len)
    refine ⟨by rw [i1, walk_append], by rw [i2]; simp, ?_⟩
    rw [i3, visited_append]
    simp [List.map_append, List.flatten_append]

/-! ### callbacks that raise: the call ends at the raiser -/

theorem walkX_cons (w : World) (x : Aid) (refs : List Aid) :
    walkX script raises arg w (x :: refs) =
      if alive w x = true ∧ raises x = true then (turn script arg w x, true)
      else walkX script raises arg (turn script arg w x) refs := by
  by_cases hal : alive w x = true
  · by_cases hr : raises x = true
    · simp [walkX, turn, hal, hr]
    · simp [walkX, turn, hal, hr]
  · simp [walkX, turn, hal]

theorem walkX_spec (w : World) (refs : List Aid) :
    ∃ pre post, refs = pre ++ post ∧
      (walkX script raises arg w refs).1 = walk script arg w pre ∧
      ((walkX script raises arg w refs).2 = true →
        ∃ pre' a, pre = pre' ++ [a] ∧ alive (walk script arg w pre') a = true ∧ raises a = true ∧
          ∀ b ∈ visited script arg w pre', raises b = false) ∧
      ((walkX script raises arg w refs).2 = false → post = [] ∧ ∀ b ∈ visited script arg w refs, raises b = false) := by
  induction refs generalizing w with
  | nil => exact ⟨[], [], rfl, rfl, by simp [walkX], by simp [walkX, visited]⟩
  | cons x refs ih =>
    by_cases hr : alive w x = true ∧ raises x = true
    · rw [walkX_cons, if_pos hr]
      exact ⟨[x], refs, rfl, rfl, fun _ => ⟨[], x, rfl, hr.1, hr.2, by simp [visited]⟩, nofun⟩
    · -- the turn of `x` ends no call: what follows is the call on the rest, from the world after that turn
      have hw := walkX_cons script raises arg w x refs
      rw [if_neg hr] at hw
      have hv : ∀ l, ∀ b ∈ visited script arg w (x :: l),
          raises b = false ∨ b ∈ visited script arg (turn script arg w x) l := by
        intro l b hb
        by_cases hal : alive w x = true
        · rw [visited_alive _ hal, ← turn_alive hal] at hb
          rcases List.mem_cons.mp hb with rfl | hb
          · exact .inl (by simpa [hal] using hr)
          · exact .inr hb
        · rw [visited_dead _ hal, ← turn_dead (script := script) (arg := arg) hal] at hb
          exact .inr hb
      obtain ⟨pre, post, h1, h2, h3, h4⟩ := ih (turn script arg w x)
      rw [hw]
      refine ⟨x :: pre, post, by rw [h1]; rfl, h2, fun hx => ?_,
        fun hx => ⟨(h4 hx).1, fun b hb => (hv refs b hb).elim id ((h4 hx).2 b)⟩⟩
      obtain ⟨pre', a, e1, e2, e3, e4⟩ := h3 hx
      exact ⟨x :: pre', a, by rw [e1]; rfl, e2, e3, fun b hb => (hv pre' b hb).elim id (e4 b)⟩

theorem walkX_fst_walk (w : World) (refs : List Aid) :
    ∃ pre, pre <+: refs ∧ (walkX script raises arg w refs).1 = walk script arg w pre := by
  obtain ⟨pre, post, h1, h2, _, _⟩ := walkX_spec script raises arg w refs
  exact ⟨pre, ⟨post, h1.symm⟩, h2⟩

theorem le_walkX (w : World) (refs : List Aid) :
    Le w (walkX script raises arg w refs).1 := by
  obtain ⟨pre, _, h⟩ := walkX_fst_walk script raises arg w refs
  rw [h]
  exact le_walk script arg w pre

theorem walkX_never (w : World) (refs : List Aid) :
    walkX script (fun _ => false) arg w refs = (walk script arg w refs, false) := by
  induction refs generalizing w with
  | nil => rfl
  | cons x refs ih => rw [walkX_cons, if_neg (by simp), ih, walk_cons]

theorem walkX_append (w : World) (l1 l2 : List Aid) :
    walkX script raises arg w (l1 ++ l2) =
      if (walkX script raises arg w l1).2 then ((walkX script raises arg w l1).1, true)
      else walkX script raises arg (walkX script raises arg w l1).1 l2 := by
  induction l1 generalizing w with
  | nil => simp [walkX]
  | cons a l1 ih =>
    rw [List.cons_append, walkX_cons, walkX_cons]
    split
    · rfl
    · exact ih _

theorem walkX_filter_alive (w0 w : World) (h0 : Le w0 w)
    (g : List Aid) (hg : ∀ a ∈ g, a < w0.info.length) :
    walkX script raises arg w (g.filter (alive w0)) = walkX script raises arg w g :=
  filter_alive_skip (script := script) (arg := arg) (walkX script raises arg)
    (fun w a r => if raises a then (invoke script arg w a, true) else r)
    (fun _ _ _ h => by simp only [walkX, h, Bool.false_eq_true, if_false])
    (fun _ _ _ h => by simp only [walkX, h, if_true]) h0 g hg

theorem groupsX_eq (w : World) (gs : List (Nat × List Aid))
    (hg : ∀ g ∈ gs, ∀ a ∈ g.2, a < w.info.length) :
    groupsX script raises arg w gs = walkX script raises arg w (gs.map (·.2)).flatten := by
  induction gs generalizing w with
  | nil => rfl
  | cons g gs ih =>
    simp only [groupsX, List.map_cons, List.flatten_cons, walkX_append]
    rw [walkX_filter_alive script raises arg w w (Le.refl w) g.2 (hg g (List.mem_cons_self))]
    cases hr : (walkX script raises arg w g.2).2 with
    | true => simp
    | false =>
      simp only [Bool.false_eq_true, if_false]
      apply ih
      intro g' hg' a ha
      exact Nat.lt_of_lt_of_le (hg g' (List.mem_cons_of_mem _ hg') a ha) (le_walkX script raises arg w g.2).len

theorem groupDoX_eq (key : Aid → Nat) (w : World) (t : Target) :
    groupDoX script raises arg key w t =
      walkX script raises arg w ((groupBy key (members w t)).map (·.2)).flatten :=
  groupsX_eq script raises arg w _ (groupBy_members_lt key w t)

theorem walkMapX_eq (w : World) (refs : List Aid) :
    walkMapX script raises arg ret w refs =
      ((walkX script raises arg w refs).1,
        if (walkX script raises arg w refs).2 then none
        else some ((visited script arg w refs).map fun a => ret a arg)) := by
  induction refs generalizing w with
  | nil => rfl
  | cons a refs ih =>
    by_cases hal : alive w a = true
    · by_cases hr : raises a = true
      · simp [walkMapX, walkX, hal, hr]
      · have hr' : raises a = false := by simpa using hr
        simp only [walkMapX, walkX, hal, hr', if_true, Bool.false_eq_true, if_false, visited_alive _ hal, ih]
        cases (walkX script raises arg (invoke script arg w a) refs).2 <;> rfl
    · simp only [walkMapX, walkX, hal, visited_dead _ hal]
      exact ih w

theorem walkMapX_spec (w : World) (refs : List Aid) :
    (walkMapX script raises arg ret w refs).1 = (walkX script raises arg w refs).1 ∧
    ((walkMapX script raises arg ret w refs).2 = none ↔ (walkX script raises arg w refs).2 = true) ∧
    (∀ rs, (walkMapX script raises arg ret w refs).2 = some rs →
      rs = (visited script arg w refs).map (fun a => ret a arg)) := by
  rw [walkMapX_eq]
  cases (walkX script raises arg w refs).2 <;> simp

theorem groupsMapX_spec (w : World) (gs : List (Nat × List Aid)) :
    (groupsMapX script raises arg ret w gs).1 = (groupsX script raises arg w gs).1 ∧
    ((groupsMapX script raises arg ret w gs).2 = none ↔ (groupsX script raises arg w gs).2 = true) := by
  induction gs generalizing w with
  | nil => simp [groupsMapX, groupsX]
  | cons g gs ih =>
    simp only [groupsMapX, groupsX, walkMapX_eq]
    cases (walkX script raises arg w (g.2.filter (alive w))).2 with
    | true => simp
    | false =>
      obtain ⟨j1, j2⟩ := ih (walkX script raises arg w (g.2.filter (alive w))).1
      simp [j1, ← j2]

/-! ### callbacks that edit program-made sets (possibly the activated one): invisible to the walk -/

theorem removeAgent_withSets (w : World) (s : List (Nat × List Aid)) (b : Aid) :
    removeAgent (withSets w s) b = withSets (removeAgent w b) s := by
  simp only [removeAgent, withSets]
  cases w.info[b]? with
  | none => rfl
  | some i =>
    simp only
    cases w.regs[i.model]? with
    | none => rfl
    | some r => rfl

theorem createAgent_withSets (w : World) (s : List (Nat × List Aid)) (m : Nat) (ty : Ty) (hold : Bool) (x : Payload) :
    createAgent (withSets w s) m ty hold x = withSets (createAgent w m ty hold x) s := by
  simp only [createAgent, withSets]
  cases w.regs[m]? with
  | none => rfl
  | some r => rfl

theorem createN_withSets (w : World) (s : List (Nat × List Aid)) (m : Nat) (ty : Ty) (hold : Bool) (xs : List Payload) :
    createN (withSets w s) m ty hold xs = withSets (createN w m ty hold xs) s := by
  unfold createN
  induction xs generalizing w with
  | nil => rfl
  | cons x xs ih => simp only [List.foldl_cons, createAgent_withSets, ih]

theorem runAction_withSets (self : Aid) (w : World) (s : List (Nat × List Aid)) (act : Action) :
    ∃ s', runAction self (withSets w s) act = withSets (if act.isSetEdit then w else runAction self w act) s' := by
  cases act with
  | rmSelf => exact ⟨s, removeAgent_withSets w s self⟩
  | rm b => exact ⟨s, removeAgent_withSets w s b⟩
  | create m ty n hold => exact ⟨s, createN_withSets w s m ty hold _⟩
  | unhold b => exact ⟨s, rfl⟩
  | addTo k b =>
    obtain ⟨s', h, _⟩ := setAdd_eq_withSets (withSets w s) k b
    exact ⟨s', by simp only [runAction, h, Action.isSetEdit, if_true, withSets_withSets]⟩
  | discardFrom k b =>
    obtain ⟨s', h, _⟩ := setDiscard_eq_withSets (withSets w s) k b
    exact ⟨s', by simp only [runAction, h, Action.isSetEdit, if_true, withSets_withSets]⟩

theorem foldl_runAction_withSets (self : Aid) (acts : List Action) (w : World) (s : List (Nat × List Aid)) :
    ∃ s', acts.foldl (runAction self) (withSets w s)
      = withSets ((acts.filter (fun act => !act.isSetEdit)).foldl (runAction self) w) s' := by
  induction acts generalizing w s with
  | nil => exact ⟨s, rfl⟩
  | cons act acts ih =>
    obtain ⟨s1, h1⟩ := runAction_withSets self w s act
    simp only [List.foldl_cons, h1]
    cases he : act.isSetEdit with
    | true => simpa [List.filter_cons, he] using ih w s1
    | false => simpa [List.filter_cons, he] using ih (runAction self w act) s1

theorem invoke_withSets (w : World) (s : List (Nat × List Aid)) (a : Aid) :
    ∃ s', invoke script arg (withSets w s) a = withSets (invoke (stripEdits script) arg w a) s' := by
  unfold invoke stripEdits
  exact foldl_runAction_withSets a (script a) { w with log := w.log ++ [(a, arg)] } s

theorem turn_withSets (w : World) (s : List (Nat × List Aid)) (a : Aid) :
    ∃ s', turn script arg (withSets w s) a = withSets (turn (stripEdits script) arg w a) s' := by
  unfold turn
  rw [alive_withSets]
  split
  · exact invoke_withSets script arg w s a
  · exact ⟨s, rfl⟩

theorem walk_withSets (refs : List Aid) (w : World) (s : List (Nat × List Aid)) :
    (∃ s', walk script arg (withSets w s) refs = withSets (walk (stripEdits script) arg w refs) s') ∧
    visited script arg (withSets w s) refs = visited (stripEdits script) arg w refs := by
  induction refs generalizing w s with
  | nil => exact ⟨⟨s, rfl⟩, rfl⟩
  | cons a refs ih =>
    obtain ⟨s1, h1⟩ := turn_withSets script arg w s a
    rw [walk_cons, walk_cons, visited_cons, visited_cons, alive_withSets, h1]
    exact ⟨(ih _ s1).1, by rw [(ih _ s1).2]⟩

theorem visited_of_no_churn (w : World) (refs : List Aid)
    (hs : ∀ a, stripEdits script a = []) (hal : ∀ a ∈ refs, alive w a = true) :
    visited script arg w refs = refs := by
  have h := (walk_withSets script arg refs w w.sets).2
  rw [withSets_self] at h
  rw [h]
  clear h
  induction refs generalizing w with
  | nil => rfl
  | cons a refs ih =>
    rw [visited_alive _ (hal a List.mem_cons_self)]
    have hinv : ∀ x, alive (invoke (stripEdits script) arg w a) x = alive w x := by
      intro x
      simp only [invoke, hs a, List.foldl_nil]
      exact alive_congr rfl rfl rfl x
    rw [ih _ (fun x hx => by rw [hinv]; exact hal x (List.mem_cons_of_mem _ hx))]

theorem createN_sets (w : World) (m ty hold) (xs : List Payload) : (createN w m ty hold xs).sets = w.sets :=
  foldl_inv (P := fun w' => w'.sets = w.sets) rfl fun w' h x _ => (createAgent_sets w' m ty hold x).trans h

theorem runAction_sets (self : Aid) (w : World) (act : Action) (h : act.isSetEdit = false) :
    (runAction self w act).sets = w.sets := by
  cases act with
  | rmSelf => exact removeAgent_sets w self
  | rm b => exact removeAgent_sets w b
  | create m ty n hold => exact createN_sets w m ty hold _
  | unhold b => rfl
  | addTo k b => cases h
  | discardFrom k b => cases h

theorem walk_sets (script : Aid → List Action) (hne : ∀ a, ∀ act ∈ script a, act.isSetEdit = false) (arg : Nat) (w : World)
    (refs : List Aid) : (walk script arg w refs).sets = w.sets :=
  walk_inv (P := fun w' => w'.sets = w.sets) (fun _ _ h => h)
    (fun a w' h x hx => (runAction_sets a w' x (hne a x hx)).trans h) arg refs rfl

/-! ### every activation is a walk -/

/-- the callbacks of an activation and, for `shuffle_do`, the set whose generator the call advances before it walks -/
def Op.act? : Op → Option ((Aid → List Action) × Option Target)
  | .doSet s _ _ | .mapSet s _ _ | .groupDo s _ _ _ | .groupMap s _ _ _
  | .doSetX s _ _ _ | .mapSetX s _ _ _ | .groupDoX s _ _ _ _ | .groupMapX s _ _ _ _ => some (s, none)
  | .shuffleDo s _ t | .shuffleDoX s _ _ t => some (s, some t)
  | _ => none

/-- the world in which the walk of an activation starts -/
def shuffled (w : World) : Option Target → World
  | none => w
  | some t => setRng w (t.model w) (Rng.shuffle (members w t) (rngOf w t)).2

theorem le_shuffled (w : World) : ∀ t?, Le w (shuffled w t?)
  | none => Le.refl w
  | some _ => le_setRng w _ _

/-- `do`, `shuffle_do`, `map`, `GroupBy.do` and `GroupBy.map`, with callbacks that raise or not, all leave the state of
    a walk with their callbacks over some list of references (a prefix of the visiting order when a callback raises):
    what holds after every walk holds after every activation -/
theorem step_act {w : World} {op : Op} {a : (Aid → List Action) × Option Target} (h : op.act? = some a) :
    ∃ arg refs, step w op = walk a.1 arg (shuffled w a.2) refs := by
  have hX : ∀ {w1 : World} s raises arg w0 refs, w1 = (walkX s raises arg w0 refs).1 →
      ∃ arg' refs', w1 = walk s arg' w0 refs' := fun s raises arg w0 refs e =>
    let ⟨pre, _, e'⟩ := walkX_fst_walk s raises arg w0 refs
    ⟨arg, pre, e.trans e'⟩
  cases op with
  | doSet s arg t =>
    cases h
    exact ⟨arg, _, rfl⟩
  | shuffleDo s arg t =>
    cases h
    exact ⟨arg, (Rng.shuffle (members w t) (rngOf w t)).1, rfl⟩
  | mapSet s arg t =>
    cases h
    exact ⟨arg, _, congrArg Prod.fst (walkMap_eq s arg _ w _)⟩
  | groupDo s arg key t =>
    cases h
    exact ⟨arg, _, groupDo_eq s arg _ w t⟩
  | groupMap s arg key t =>
    cases h
    exact ⟨arg, _, (groupMap_fold s arg _ _ w [] (groupBy_members_lt _ w t) rfl).1⟩
  | doSetX s raises arg t =>
    cases h
    exact hX s raises arg w _ rfl
  | shuffleDoX s raises arg t =>
    cases h
    exact hX s raises arg _ (Rng.shuffle (members w t) (rngOf w t)).1 rfl
  | mapSetX s raises arg t =>
    cases h
    exact hX s raises arg w _ (walkMapX_spec s raises arg _ w _).1
  | groupDoX s raises arg key t =>
    cases h
    exact hX s raises arg w _ (congrArg Prod.fst (groupDoX_eq s raises arg _ w t))
  | groupMapX s raises arg key t =>
    cases h
    exact hX s raises arg w _ ((groupsMapX_spec s raises arg _ w _).1.trans
      (congrArg Prod.fst (groupDoX_eq s raises arg (key.eval w) w t)))
  | _ => cases h

end

end Mesa.Agents
