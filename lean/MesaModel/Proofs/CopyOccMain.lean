import MesaModel.Proofs.CopyOcc
/-!
The frame lemmas of `Model/CopyOcc.lean`: which identities an operation can change (`DiffOn`), the congruence of `view`
(what a space shows depends only on the records of `deps`), the frame lemma per operation and over operation sequences
(`WritesOnly`); and what a copy shows (`shiftCellView`, `shiftAgentView`: the identity shift of a view) and depends on.
`Props/C19Occ.lean` states its theorems with `WritesOnly` and the two shifts.
-/
namespace Mesa.CopyOcc

/-! ### which records an operation can change -/

/-- `w'` differs from `w` at most in the records of identities satisfying `P` -/
structure DiffOn (P : Nat → Prop) (w w' : World) : Prop where
  cells : ∀ x, ¬ P x → w'.cells x = w.cells x
  agents : ∀ x, ¬ P x → w'.agents x = w.agents x
  spaces : ∀ x, ¬ P x → w'.spaces x = w.spaces x

theorem DiffOn.refl (P : Nat → Prop) (w : World) : DiffOn P w w := ⟨fun _ _ => rfl, fun _ _ => rfl, fun _ _ => rfl⟩

theorem DiffOn.mono {P Q : Nat → Prop} {w w' : World} (h : DiffOn P w w') (hpq : ∀ x, P x → Q x) : DiffOn Q w w' :=
  ⟨fun x hx => h.cells x (fun hp => hx (hpq x hp)), fun x hx => h.agents x (fun hp => hx (hpq x hp)),
   fun x hx => h.spaces x (fun hp => hx (hpq x hp))⟩

theorem DiffOn.trans {P : Nat → Prop} {w w1 w2 : World} (h1 : DiffOn P w w1) (h2 : DiffOn P w1 w2) : DiffOn P w w2 :=
  ⟨fun x hx => (h2.cells x hx).trans (h1.cells x hx), fun x hx => (h2.agents x hx).trans (h1.agents x hx),
   fun x hx => (h2.spaces x hx).trans (h1.spaces x hx)⟩

theorem diff_unplaceRec (w : World) (a : Nat) (ar : AgentRec) :
    DiffOn (fun x => x = a ∨ ar.cell = some x) w (unplaceRec w a ar) := by
  unfold unplaceRec
  split
  · exact DiffOn.refl _ _
  · rename_i o ho
    refine ⟨fun x hx => ?_, fun x hx => ?_, fun _ _ => rfl⟩
    · exact leave_ne w a o (fun h => hx (Or.inr (h ▸ ho)))
    · exact upd_ne _ _ (fun h => hx (Or.inl h))

theorem diff_unplace (w : World) (a : Nat) : DiffOn (fun x => x = a ∨ x ∈ cellOf w a) w (unplace w a) := by
  cases har : w.agents a with
  | none =>
    simp only [unplace, har]
    exact DiffOn.refl _ _
  | some ar =>
    simp only [unplace, cellOf, har]
    exact (diff_unplaceRec w a ar).mono (fun x hx => by
      rcases hx with h | h
      · exact Or.inl h
      · right; simp [h])

theorem diff_place (w : World) (a c : Nat) : DiffOn (fun x => x = a ∨ x = c) w (place w a c) := by
  unfold place
  split
  · refine ⟨fun x hx => ?_, fun x hx => ?_, fun _ _ => rfl⟩
    · exact upd_ne _ _ (fun h => hx (Or.inr h))
    · exact upd_ne _ _ (fun h => hx (Or.inl h))
  · exact DiffOn.refl _ _

theorem diff_dereg (w : World) (a s : Nat) : DiffOn (fun x => x = a ∨ x = s) w (dereg w a s) := by
  unfold dereg
  split
  · refine ⟨fun _ _ => rfl, fun x hx => ?_, fun x hx => ?_⟩
    · have : x ≠ a := fun h => hx (Or.inl h)
      simp [this]
    · exact upd_ne _ _ (fun h => hx (Or.inr h))
  · refine ⟨fun _ _ => rfl, fun x hx => ?_, fun _ _ => rfl⟩
    have : x ≠ a := fun h => hx (Or.inl h)
    simp [this]

theorem diff_newSpace (w : World) (k : Nat) (cap : Option Nat) (grid : Bool) (pairs : List (Nat × Nat)) :
    DiffOn (fun x => w.next ≤ x) w (newSpace w k cap grid pairs).1 :=
  ⟨fun _ hx => if_neg fun h => hx (Nat.le_of_succ_le h.1), fun _ _ => rfl,
    fun _ hx => upd_ne _ _ fun h => hx (Nat.le_of_eq h.symm)⟩

theorem diff_copyWorld (w : World) (s : Nat) (sr : SpaceRec) : DiffOn (fun x => w.next ≤ x) w (copyWorld w s sr) :=
  ⟨fun _ hx => if_neg hx, fun _ hx => if_neg hx, fun _ hx => upd_ne _ _ fun h => hx (h ▸ Nat.le_add_left _ _)⟩

theorem diff_step (w : World) (op : Op) : DiffOn (fun x => x ∈ writes w op ∨ w.next ≤ x) w (step w op) := by
  refine step_cases (M := fun op w' => DiffOn (fun x => x ∈ writes w op ∨ w.next ≤ x) w w') w
    (fun _ => DiffOn.refl _ _) ?_ ?_ ?_ ?_ ?_ ?_ op
  · intro k cap grid pairs
    exact (diff_newSpace w k cap grid pairs).mono fun x => Or.inr
  · intro s sr _
    refine ⟨fun _ _ => rfl, fun x hx => upd_ne _ _ fun h => ?_, fun x hx => upd_ne _ _ fun h => ?_⟩
    · exact hx (Or.inr (Nat.le_of_eq h.symm))
    · exact hx (Or.inl (List.mem_singleton.mpr h))
  · intro a c _ _ _ _ _ _
    refine ((diff_unplace w a).mono fun x hx => Or.inl ?_).trans ((diff_place _ a c).mono fun x hx => Or.inl ?_)
    · rcases hx with h | h <;> simp [writes, h]
    · rcases hx with h | h <;> simp [writes, h]
  · intro a ar har
    refine (diff_unplaceRec w a ar).mono fun x hx => Or.inl ?_
    rcases hx with h | h <;> simp [writes, cellOf, har, h]
  · intro a ar har
    refine ((diff_unplace w a).mono fun x hx => Or.inl ?_).trans ((diff_dereg _ a ar.home).mono fun x hx => Or.inl ?_)
    · rcases hx with h | h <;> simp [writes, h]
    · rcases hx with h | h <;> simp [writes, homeOf, har, h]
  · intro s sr _
    exact (diff_copyWorld w s sr).mono fun x => Or.inr

/-! ### what a space shows depends only on the records of `deps` -/

structure Agree (w w' : World) (s : Nat) : Prop where
  space : w'.spaces s = w.spaces s
  cell : ∀ x ∈ deps w s, w'.cells x = w.cells x
  agent : ∀ x ∈ deps w s, w'.agents x = w.agents x

theorem self_mem_deps (w : World) (s : Nat) : s ∈ deps w s := by
  unfold deps; split <;> simp

theorem Agree.of_diff {P : Nat → Prop} {w w' : World} {s : Nat} (h : DiffOn P w w') (hd : ∀ x ∈ deps w s, ¬ P x) :
    Agree w w' s :=
  ⟨h.spaces s (hd s (self_mem_deps w s)), fun x hx => h.cells x (hd x hx), fun x hx => h.agents x (hd x hx)⟩

theorem Agree.deps_eq {w w' : World} {s : Nat} (h : Agree w w' s) : deps w' s = deps w s := by
  unfold deps; rw [h.space]

theorem Agree.view_eq {w w' : World} {s : Nat} (h : Agree w w' s) : view w' s = view w s := by
  unfold view
  rw [h.space]
  cases hsr : w.spaces s with
  | none => rfl
  | some sr =>
    simp only
    congr 2
    · apply filterMap_congr'
      intro c hc
      unfold cellView
      rw [h.cell c (by simp [deps, hsr, hc])]
    · apply filterMap_congr'
      intro a ha
      unfold agentView
      rw [h.agent a (by simp [deps, hsr, ha])]

theorem Agree.empties_eq {w w' : World} {s : Nat} (h : Agree w w' s) : empties w' s = empties w s := by
  unfold empties
  rw [h.space]
  cases hsr : w.spaces s with
  | none => rfl
  | some sr =>
    simp only
    congr 1
    apply List.filter_congr
    intro c hc
    rw [h.cell c (by simp [deps, hsr, hc])]

theorem agree_step {w : World} {s : Nat} (hw : WF w) (hs : s < w.next) (op : Op)
    (hav : ∀ x ∈ writes w op, x ∉ deps w s) : Agree w (step w op) s :=
  Agree.of_diff (diff_step w op) (fun x hx hp => by
    rcases hp with hp | hp
    · exact hav x hp hx
    · have := deps_lt hw hs x hx
      omega)

/-- along the run every operation writes only identities satisfying `P` -/
def WritesOnly (P : Nat → Prop) : World → List Op → Prop
  | _, [] => True
  | w, op :: ops => (∀ x ∈ writes w op, P x) ∧ WritesOnly P (step w op) ops

theorem WritesOnly.mono {P Q : Nat → Prop} (h : ∀ x, P x → Q x) : ∀ {w : World} {ops : List Op},
    WritesOnly P w ops → WritesOnly Q w ops
  | _, [], _ => trivial
  | _, _ :: _, ⟨h1, h2⟩ => ⟨fun x hx => h x (h1 x hx), WritesOnly.mono h h2⟩

theorem Agree.trans {w w1 w2 : World} {s : Nat} (h1 : Agree w w1 s) (h2 : Agree w1 w2 s) : Agree w w2 s :=
  have hd := h1.deps_eq
  ⟨h2.space.trans h1.space, fun x hx => (h2.cell x (hd ▸ hx)).trans (h1.cell x hx),
    fun x hx => (h2.agent x (hd ▸ hx)).trans (h1.agent x hx)⟩

theorem frame_run {w : World} {s : Nat} (hw : WF w) {sr : SpaceRec} (hsr : w.spaces s = some sr) (ops : List Op)
    (hav : WritesOnly (fun x => x ∉ deps w s) w ops) : Agree w (run w ops) s := by
  induction ops generalizing w with
  | nil => exact ⟨rfl, fun _ _ => rfl, fun _ _ => rfl⟩
  | cons op ops ih =>
    obtain ⟨h1, h2⟩ := hav
    have hag := agree_step hw (hw.spacesLt s sr hsr).1 op h1
    exact hag.trans (ih (hw.step op) (hag.space.trans hsr) (hag.deps_eq ▸ h2))

/-! ### the copy -/

variable {w : World}

/-- the identity shift of what a space shows -/
def shiftCellView (B : Nat) : Nat × Nat × Option Nat × List Nat × List Nat × Nat × Option Nat →
    Nat × Nat × Option Nat × List Nat × List Nat × Nat × Option Nat
  | (c, i, cap, ags, conn, rnd, kl) => (c + B, i, cap, ags.map (· + B), conn.map (· + B), rnd + B, kl.map (· + B))

def shiftAgentView (B : Nat) : Nat × Nat × Option Nat → Nat × Nat × Option Nat
  | (a, u, c) => (a + B, u, c.map (· + B))

theorem copy_view (s : Nat) {w' : World} {s' : Nat} (hc : copySpace w s = some (w', s')) :
    ∃ cv av, view w s = some (cv, av) ∧ s' = s + w.next ∧
      view w' s' = some (cv.map (shiftCellView w.next), av.map (shiftAgentView w.next)) := by
  obtain ⟨sr, hsr, rfl, rfl⟩ := copySpace_eq_some.mp hc
  refine ⟨sr.cells.filterMap (cellView w), sr.reg.filterMap (agentView w), by simp [view, hsr], rfl, ?_⟩
  simp only [view, copyWorld_spaces_new, List.filterMap_map, List.map_filterMap]
  congr 2
  · apply filterMap_congr'
    intro c hc
    have hc' : sr.cells.contains c = true := by simpa using hc
    simp only [Function.comp, cellView, copyWorld_cells_shift, hc', if_true]
    cases w.cells c <;> simp [shiftCellView, shiftCell]
  · apply filterMap_congr'
    intro a ha
    have ha' : sr.reg.contains a = true := by simpa using ha
    simp only [Function.comp, agentView, copyWorld_agents_shift, ha', if_true]
    cases w.agents a <;> simp [shiftAgentView, shiftAgent]

theorem copy_deps_fresh (s : Nat) {w' : World} {s' : Nat} (hc : copySpace w s = some (w', s')) :
    ∀ x ∈ deps w' s', w.next ≤ x := by
  obtain ⟨sr, _, rfl, rfl⟩ := copySpace_eq_some.mp hc
  intro x hx
  simp only [deps, copyWorld_spaces_new, List.mem_cons, List.mem_append, List.mem_map] at hx
  rcases hx with rfl | ⟨c, _, rfl⟩ | ⟨a, _, rfl⟩ <;> omega

theorem agree_copy (hw : WF w) {s0 : Nat} (hs : s0 < w.next) (s : Nat) {w' : World} {s' : Nat}
    (hc : copySpace w s = some (w', s')) : Agree w w' s0 := by
  obtain ⟨sr, _, rfl, _⟩ := copySpace_eq_some.mp hc
  exact Agree.of_diff (diff_copyWorld w s sr) fun x hx => Nat.not_le.mpr (deps_lt hw hs x hx)

end Mesa.CopyOcc
