import MesaModel.Model.CellSpace
import MesaModel.Proofs.CellAssoc
/-!
Helper lemmas for C06 / C18-cells: the invariant of the occupancy model and its preservation by
every operation.  On states satisfying the invariant the code's setters are "leave, then enter": `leave` (the agent
leaves whatever cell it reports, i.e. `unplace` there) followed by `place`; `FixedAgent.remove` is `detachFixed`.
A placing call is a lookup of the agent and of a target followed by one such setter (`step_placing_outcome`).
-/
namespace Mesa.Cells

theorem upd_same {α β : Type} [DecidableEq α] (f : α → β) (a : α) (b : β) : upd f a b a = b := by
  simp [upd]

theorem upd_other {α β : Type} [DecidableEq α] (f : α → β) (a : α) (b : β) {x : α} (h : x ≠ a) :
    upd f a b x = f x := by
  simp [upd, h]

theorem upd_self {α β : Type} [DecidableEq α] (f : α → β) (a : α) : upd f a (f a) = f := by
  funext x
  unfold upd
  split
  · rename_i h
    rw [h]
  · rfl

theorem upd_upd {α β : Type} [DecidableEq α] (f : α → β) (a : α) (b b' : β) :
    upd (upd f a b) a b' = upd f a b' := by
  funext x
  unfold upd
  split <;> rfl

theorem upd_comm {α β : Type} [DecidableEq α] (f : α → β) {a a' : α} (b b' : β) (h : a ≠ a') :
    upd (upd f a b) a' b' = upd (upd f a' b') a b := by
  funext x
  unfold upd
  by_cases h1 : x = a'
  · subst h1
    have : ¬ x = a := fun e => h e.symm
    simp [this]
  · simp [h1]

/-- the invariant of the occupancy model, with a bound `B` on what a cell may hold beyond its capacity: a cell holds at
    most capacity-many agents *or* at most `B c` (the program may lower `cell.capacity` under the occupancy: the occupants
    stay).  `B = 0`: the plain capacity bound; `B c` = the occupancy at some earlier state: "no growth beyond the capacity" -/
structure InvB (sp : Space) (B : Cid → Nat) (s : State) : Prop where
  /-- a listed agent reports the cell that lists it -/
  mem_cell : ∀ a c, a ∈ s.occ c → s.cellOf a = some c
  /-- an agent that reports a cell is listed there — except a FixedAgent that was removed from the model
      (`FixedAgent.remove` keeps `_mesa_cell`) -/
  cell_mem : ∀ a c, s.cellOf a = some c → a ∈ s.occ c ∨ (s.kinds[a]? = some .fixed ∧ a ∉ s.registry)
  nodup : ∀ c, (s.occ c).Nodup
  cap : ∀ c k, sp.cap c = some k → (s.occ c).length ≤ k ∨ (s.occ c).length ≤ B c
  /-- the `empty` flag is the truth (non-grid cells have no flag before their first agent) -/
  flag : ∀ c, s.flag c = some (s.occ c).isEmpty ∨ (sp.isGrid = false ∧ s.flag c = none ∧ s.occ c = [])
  known : ∀ a c, s.cellOf a = some c → a < s.kinds.length
  reg_lt : ∀ a, a ∈ s.registry → a < s.kinds.length
  reg_nodup : s.registry.Nodup
  occ_cells : ∀ a c, a ∈ s.occ c → c ∈ sp.cells

/-- the invariant proper (every state reachable by agent operations, connection edits and capacity writes has it): the
    bound is the occupancy itself, i.e. nothing is claimed about capacities -/
abbrev Inv (sp : Space) (s : State) : Prop := InvB sp (fun c => (s.occ c).length) s

/-- the invariant reads the cells and the kind of the space, and its capacities only in the `cap` clause -/
theorem InvB.transfer {sp sp' : Space} {B B' : Cid → Nat} {s : State} (h : InvB sp B s) (hc : sp'.cells = sp.cells)
    (hg : sp'.isGrid = sp.isGrid)
    (hb : ∀ c k, sp'.cap c = some k → (s.occ c).length ≤ k ∨ (s.occ c).length ≤ B' c) : InvB sp' B' s :=
  ⟨h.mem_cell, h.cell_mem, h.nodup, hb, fun c => by rw [hg]; exact h.flag c, h.known, h.reg_lt, h.reg_nodup,
   fun a c hm => hc ▸ h.occ_cells a c hm⟩

/-- any bound will do where only the bookkeeping fields are used -/
theorem InvB.rebound {sp : Space} {B : Cid → Nat} {s : State} (h : InvB sp B s) (B' : Cid → Nat)
    (hb : ∀ c k, sp.cap c = some k → (s.occ c).length ≤ k ∨ (s.occ c).length ≤ B' c) : InvB sp B' s :=
  h.transfer rfl rfl hb

/-- connections of cells of the space lead to cells of the space -/
def ConnClosed (sp : Space) : Prop := ∀ c ∈ sp.cells, ∀ k c', (k, c') ∈ sp.conn c → c' ∈ sp.cells

section
variable {sp : Space} {B : Cid → Nat} {s : State}

theorem InvB.toInv (h : InvB sp B s) : Inv sp s :=
  h.rebound _ fun _ _ _ => Or.inr (Nat.le_refl _)

theorem inv_init (sp : Space) : InvB sp B (init sp) := by
  refine ⟨?_, ?_, ?_, ?_, ?_, ?_, ?_, ?_, ?_⟩ <;> simp [init]

theorem InvB.mobile_mem (h : InvB sp B s) {a : Aid} {k : AKind} {o : Cid}
    (hk : s.kinds[a]? = some k) (hm : k ≠ .fixed) (ho : s.cellOf a = some o) : a ∈ s.occ o :=
  (h.cell_mem a o ho).resolve_right fun h1 => hm (Option.some.inj (hk.symm.trans h1.1))

theorem InvB.registered_mem (h : InvB sp B s) {a : Aid} {c : Cid}
    (hr : a ∈ s.registry) (hc : s.cellOf a = some c) : a ∈ s.occ c :=
  (h.cell_mem a c hc).resolve_right fun h2 => h2.2 hr

theorem InvB.erase_of_ne (h : InvB sp B s) {a : Aid} {c : Cid}
    (hne : s.cellOf a ≠ some c) : (s.occ c).erase a = s.occ c :=
  List.erase_of_not_mem fun hm => hne (h.mem_cell a c hm)

/-! ### atomic transitions -/

def unplace (s : State) (a : Aid) (o : Cid) : State :=
  { s with occ := upd s.occ o ((s.occ o).erase a),
           flag := upd s.flag o (some ((s.occ o).erase a).isEmpty),
           cellOf := upd s.cellOf a none }

def place (s : State) (a : Aid) (c : Cid) : State :=
  { s with occ := upd s.occ c (s.occ c ++ [a]),
           flag := upd s.flag c (some false),
           cellOf := upd s.cellOf a (some c) }

/-- `FixedAgent.remove` on a placed agent: leave the list, keep reporting the cell, leave the registry -/
def detachFixed (s : State) (a : Aid) (c : Cid) : State :=
  { s with occ := upd s.occ c ((s.occ c).erase a),
           flag := upd s.flag c (some ((s.occ c).erase a).isEmpty),
           registry := s.registry.erase a }

def leave (s : State) (a : Aid) : State :=
  match s.cellOf a with
  | none => s
  | some o => unplace s a o

/-- since no other cell lists the agent, leaving its cell is erasing it from every list -/
theorem unplace_occ (h : InvB sp B s) {a : Aid} {o : Cid}
    (ho : s.cellOf a = some o) (x : Cid) : (unplace s a o).occ x = (s.occ x).erase a := by
  by_cases hx : x = o
  · subst hx
    exact upd_same _ _ _
  · exact (upd_other _ _ _ hx).trans (h.erase_of_ne (by rw [ho]; exact fun e => hx (Option.some.inj e).symm)).symm

theorem inv_unplace (h : InvB sp B s) {a : Aid} {o : Cid}
    (ho : s.cellOf a = some o) : InvB sp B (unplace s a o) := by
  have hocc := unplace_occ h ho
  have hcell : ∀ {b}, b ≠ a → (unplace s a o).cellOf b = s.cellOf b := fun hb => upd_other _ _ _ hb
  have hba : ∀ {b x}, (unplace s a o).cellOf b = some x → b ≠ a := by
    rintro b x hb rfl
    rw [show (unplace s b o).cellOf b = none from upd_same _ _ _] at hb
    cases hb
  refine ⟨fun b x hb => ?_, fun b x hb => ?_, fun x => ?_, fun x k hk => ?_, fun x => ?_, fun b x hb => ?_,
    h.reg_lt, h.reg_nodup, fun b x hb => ?_⟩
  · rw [hocc, (h.nodup x).mem_erase_iff] at hb
    rw [hcell hb.1]
    exact h.mem_cell b x hb.2
  · have hne := hba hb
    rw [hcell hne] at hb
    rw [hocc, (h.nodup x).mem_erase_iff]
    exact (h.cell_mem b x hb).imp_left fun h1 => ⟨hne, h1⟩
  · rw [hocc]
    exact (h.nodup x).erase a
  · rw [hocc]
    have := h.cap x k hk
    have := List.length_erase_le (a := a) (l := s.occ x)
    omega
  · by_cases hx : x = o
    · subst hx
      simp only [unplace, upd_same, true_or]
    · simp only [unplace, upd_other _ _ _ hx]
      exact h.flag x
  · have hne := hba hb
    rw [hcell hne] at hb
    exact h.known b x hb
  · rw [hocc] at hb
    exact h.occ_cells b x (List.mem_of_mem_erase hb)

theorem inv_place (h : InvB sp B s) {a : Aid} {c : Cid}
    (ha : a < s.kinds.length) (hn : s.cellOf a = none) (hc : c ∈ sp.cells)
    (hroom : ∀ k, sp.cap c = some k → (s.occ c).length + 1 ≤ k ∨ (s.occ c).length + 1 ≤ B c) : InvB sp B (place s a c) := by
  have hnot : ∀ x, a ∉ s.occ x := fun x hm => nomatch (h.mem_cell a x hm).symm.trans hn
  have hne : ∀ {b x}, b ∈ s.occ x → b ≠ a := fun hb e => hnot _ (e ▸ hb)
  have hmem : ∀ {b x}, b ∈ (place s a c).occ x ↔ b ∈ s.occ x ∨ (x = c ∧ b = a) := by
    intro b x
    by_cases hx : x = c
    · subst hx
      simp only [place, upd_same, List.mem_append, List.mem_singleton, true_and]
    · simp only [place, upd_other _ _ _ hx, hx, false_and, or_false]
  refine ⟨fun b x hb => ?_, fun b x hb => ?_, fun x => ?_, fun x k hk => ?_, fun x => ?_, fun b x hb => ?_,
    h.reg_lt, h.reg_nodup, fun b x hb => ?_⟩
  · rcases hmem.mp hb with h1 | ⟨rfl, rfl⟩
    · exact (upd_other _ _ _ (hne h1)).trans (h.mem_cell b x h1)
    · exact upd_same _ _ _
  · by_cases hba : b = a
    · subst hba
      cases (upd_same s.cellOf b (some c)).symm.trans hb
      exact Or.inl (hmem.mpr (Or.inr ⟨rfl, rfl⟩))
    · exact (h.cell_mem b x ((upd_other _ _ _ hba).symm.trans hb)).imp_left fun h1 => hmem.mpr (Or.inl h1)
  · by_cases hx : x = c
    · subst hx
      simp only [place, upd_same]
      exact nodup_concat (h.nodup x) (hnot x)
    · simp only [place, upd_other _ _ _ hx]
      exact h.nodup x
  · by_cases hx : x = c
    · subst hx
      have := hroom k hk
      simp only [place, upd_same, List.length_append, List.length_singleton]
      omega
    · simp only [place, upd_other _ _ _ hx]
      exact h.cap x k hk
  · by_cases hx : x = c
    · subst hx
      simp only [place, upd_same]
      left
      simp
    · simp only [place, upd_other _ _ _ hx]
      exact h.flag x
  · by_cases hba : b = a
    · subst hba
      exact ha
    · exact h.known b x ((upd_other _ _ _ hba).symm.trans hb)
  · rcases hmem.mp hb with h1 | ⟨rfl, _⟩
    · exact h.occ_cells b x h1
    · exact hc

theorem inv_deregister (h : InvB sp B s) (a : Aid) :
    InvB sp B { s with registry := s.registry.erase a } := by
  refine ⟨h.mem_cell, fun b x hb => ?_, h.nodup, h.cap, h.flag, h.known, fun b hb => h.reg_lt b (List.mem_of_mem_erase hb),
    h.reg_nodup.erase _, h.occ_cells⟩
  exact (h.cell_mem b x hb).imp_right fun ⟨h1, h2⟩ => ⟨h1, fun hm => h2 (List.mem_of_mem_erase hm)⟩

/-- lists and flags are those of `unplace`; the agent itself falls under the exception of `cell_mem` -/
theorem inv_detachFixed (h : InvB sp B s) {a : Aid} {c : Cid}
    (hk : s.kinds[a]? = some .fixed) (hc : s.cellOf a = some c) : InvB sp B (detachFixed s a c) := by
  have hu := inv_unplace h hc
  have hocc : ∀ x, (detachFixed s a c).occ x = (s.occ x).erase a := unplace_occ h hc
  refine ⟨fun b x hb => ?_, fun b x hb => ?_, hu.nodup, hu.cap, hu.flag, h.known,
    fun b hb => h.reg_lt b (List.mem_of_mem_erase hb), h.reg_nodup.erase a, hu.occ_cells⟩
  · rw [hocc] at hb
    exact h.mem_cell b x (List.mem_of_mem_erase hb)
  · by_cases hba : b = a
    · subst hba
      exact Or.inr ⟨hk, fun hm => (h.reg_nodup.mem_erase_iff.mp hm).1 rfl⟩
    · rw [hocc, (h.nodup x).mem_erase_iff]
      exact (h.cell_mem b x hb).imp (fun h1 => ⟨hba, h1⟩) fun ⟨h1, h2⟩ => ⟨h1, fun hm => h2 (List.mem_of_mem_erase hm)⟩

theorem leave_occ (h : InvB sp B s) (a : Aid) (c : Cid) :
    (leave s a).occ c = (s.occ c).erase a := by
  cases ho : s.cellOf a with
  | none =>
    simp only [leave, ho]
    exact (h.erase_of_ne (by rw [ho]; simp)).symm
  | some o =>
    simp only [leave, ho]
    exact unplace_occ h ho c

theorem leave_cellOf (s : State) (a : Aid) : (leave s a).cellOf = upd s.cellOf a none := by
  cases ho : s.cellOf a with
  | none =>
    simp only [leave, ho]
    rw [← ho, upd_self]
  | some o => simp only [leave, ho, unplace]

theorem leave_kinds (s : State) (a : Aid) : (leave s a).kinds = s.kinds := by
  unfold leave
  split <;> rfl

theorem leave_registry (s : State) (a : Aid) : (leave s a).registry = s.registry := by
  unfold leave
  split <;> rfl

theorem inv_leave (h : InvB sp B s) (a : Aid) : InvB sp B (leave s a) := by
  cases ho : s.cellOf a with
  | none =>
    simp only [leave, ho]
    exact h
  | some o =>
    simp only [leave, ho]
    exact inv_unplace h ho

/-! ### the code's setters, on states satisfying the invariant -/

/-- `add_agent` refuses exactly when the cell has a capacity `n` (0 included, repair SC3) and holds `n` agents or more (more:
    only after the program lowered `cell.capacity` under the occupancy); capacity `None` never refuses.  At any state. -/
theorem fullFor_iff (sp : Space) (s : State) (c : Cid) :
    fullFor sp s c = true ↔ ∃ n, sp.cap c = some n ∧ n ≤ (s.occ c).length := by
  unfold fullFor
  cases hcap : sp.cap c with
  | none => simp
  | some n => simp

/-- a rejected `add_agent` changes nothing (repair SC3: the capacity is checked before anything is written) -/
theorem addAgent_full {c : Cid} (a : Aid) (hf : fullFor sp s c = true) :
    addAgent sp s c a = (s, false) := by
  unfold addAgent
  simp only [hf, if_true]

theorem addAgent_ok {c : Cid} (a : Aid) (hf : fullFor sp s c = false) :
    addAgent sp s c a =
      ({ s with flag := upd s.flag c (some false), occ := upd s.occ c (s.occ c ++ [a]) }, true) := by
  unfold addAgent
  simp [hf]

theorem removeAgent_mem {o : Cid} {a : Aid} (hm : a ∈ s.occ o) :
    removeAgent s o a = some { s with occ := upd s.occ o ((s.occ o).erase a),
                                      flag := upd s.flag o (some ((s.occ o).erase a).isEmpty) } := by
  unfold removeAgent
  simp [hm]

theorem room_of_notFull {c : Cid} (B : Cid → Nat) (hf : fullFor sp s c = false) :
    ∀ k, sp.cap c = some k → (s.occ c).length + 1 ≤ k ∨ (s.occ c).length + 1 ≤ B c := by
  intro k hk
  simp only [fullFor, hk] at hf
  simp at hf
  omega

/-- once the agent has left, a cell that does not refuse it has room for it — and so has its own cell, whatever
    that holds (repair SC4): it then holds one less than before -/
theorem room_leave (h : InvB sp B s) {a : Aid} {c : Cid}
    (hmob : ∀ o, s.cellOf a = some o → a ∈ s.occ o) (hr : ¬ (s.cellOf a ≠ some c ∧ fullFor sp s c = true)) :
    ∀ k, sp.cap c = some k → ((leave s a).occ c).length + 1 ≤ k ∨ ((leave s a).occ c).length + 1 ≤ B c := by
  intro k hk
  rw [leave_occ h]
  have hle := List.length_erase_le (a := a) (l := s.occ c)
  by_cases ho : s.cellOf a = some c
  · have := h.cap c k hk
    have := List.length_erase_of_mem (hmob c ho)
    have := List.length_pos_of_mem (hmob c ho)
    omega
  · have := room_of_notFull B (by simpa [ho] using hr) k hk
    omega

/-- what the (S11-repaired) `HasCell.cell` setter does for an agent that is listed where it reports to be:
    `a.cell = None` -/
theorem setCellMobile_none {a : Aid} (hmob : ∀ o, s.cellOf a = some o → a ∈ s.occ o) :
    setCellMobile sp s a none = (leave s a, .ok) := by
  cases ho : s.cellOf a with
  | none =>
    simp only [setCellMobile, leave, ho]
    rw [← ho, upd_self]
  | some o =>
    simp only [setCellMobile, leave, ho, removeAgent_mem (hmob o ho)]
    rfl

/-- … and `a.cell = c` (repair SC4: the agent's own cell never refuses it) -/
theorem setCellMobile_some {a : Aid} (hmob : ∀ o, s.cellOf a = some o → a ∈ s.occ o) (c : Cid) :
    setCellMobile sp s a (some c) =
      if s.cellOf a ≠ some c ∧ fullFor sp s c = true then (s, .err .full) else (place (leave s a) a c, .ok) := by
  by_cases hco : s.cellOf a = some c
  · have hm := hmob c hco
    rw [if_neg (fun hx => hx.1 hco)]
    simp only [setCellMobile, leave, hco, ne_eq, not_true_eq_false, if_false, removeAgent_mem hm, if_true]
    simp only [upd_upd, place, unplace]
  · have hne : (some c : Option Cid) ≠ s.cellOf a := fun e => hco e.symm
    simp only [setCellMobile, ne_eq, hne, not_false_eq_true, if_true, hco, true_and]
    by_cases hf : fullFor sp s c = true
    · simp [addAgent_full a hf, hf]
    · have hf' : fullFor sp s c = false := by simpa using hf
      rw [addAgent_ok a hf', if_neg hf]
      cases ho : s.cellOf a with
      | none =>
        simp only [leave, ho, if_false]
        rfl
      | some o =>
        have hoc : o ≠ c := fun e => hco (by rw [ho, e])
        have hco' : c ≠ o := fun e => hoc e.symm
        have hm' : a ∈ (upd s.occ c (s.occ c ++ [a])) o := by
          rw [upd_other _ _ _ hoc]
          exact hmob o ho
        simp only [leave, ho]
        rw [removeAgent_mem (s := { s with flag := upd s.flag c (some false), occ := upd s.occ c (s.occ c ++ [a]) }) hm']
        simp only [place, unplace, upd_other _ _ _ hoc, upd_other _ _ _ hco', upd_upd]
        -- the code enters `c` before it leaves `o`: the two writes are at different cells and commute
        rw [upd_comm s.occ _ _ hco', upd_comm s.flag _ _ hco']
        simp only [↓reduceIte]

/-- what the (S12-repaired) `FixedCell.cell` setter does -/
theorem setCellFixed_eq (a : Aid) (tgt : Option Cid) :
    setCellFixed sp s a tgt =
      match s.cellOf a, tgt with
      | some _, _ => (s, .err .fixed)
      | none, none => (s, .err .attr)
      | none, some c => if fullFor sp s c then (s, .err .full) else (place s a c, .ok) := by
  cases ho : s.cellOf a with
  | some o => simp [setCellFixed, ho]
  | none =>
    cases tgt with
    | none => simp [setCellFixed, ho]
    | some c =>
      simp only [setCellFixed, ho]
      by_cases hf : fullFor sp s c = true
      · simp [addAgent_full a hf, hf]
      · have hf' : fullFor sp s c = false := by simpa using hf
        simp [addAgent_ok a hf', hf', place]

theorem setCell_mobile {k : AKind} (hk : k ≠ .fixed) (a : Aid) (tgt : Option Cid) :
    setCell sp s k a tgt = setCellMobile sp s a tgt := by
  cases k with
  | fixed => exact absurd rfl hk
  | cell | grid2d => rfl

/-- `a.cell = …` either raises and leaves the state as it was, or returns and keeps the invariant; that the target is a
    cell may rest on `ConnClosed`, which is asked for that clause only (rejected calls, C18, are treated on any space) -/
theorem setCell_outcome (h : InvB sp B s) {a : Aid} {k : AKind} (hk : s.kinds[a]? = some k) (tgt : Option Cid)
    (htgt : ConnClosed sp → ∀ c, tgt = some c → c ∈ sp.cells) :
    (setCell sp s k a tgt).1 = s ∨
    ((setCell sp s k a tgt).2 = .ok ∧ (ConnClosed sp → InvB sp B (setCell sp s k a tgt).1)) := by
  have ha : a < s.kinds.length := (List.getElem?_eq_some_iff.mp hk).1
  by_cases hfix : k = .fixed
  · subst hfix
    simp only [setCell]
    rw [setCellFixed_eq]
    cases ho : s.cellOf a with
    | some o => exact Or.inl rfl
    | none =>
      cases tgt with
      | none => exact Or.inl rfl
      | some c =>
        simp only
        split
        · exact Or.inl rfl
        · rename_i hf
          exact Or.inr ⟨rfl, fun hsp => inv_place h ha ho (htgt hsp c rfl) (room_of_notFull B (by simpa using hf))⟩
  · have hmob : ∀ o, s.cellOf a = some o → a ∈ s.occ o := fun o ho => h.mobile_mem hk hfix ho
    rw [setCell_mobile hfix]
    cases tgt with
    | none =>
      rw [setCellMobile_none hmob]
      exact Or.inr ⟨rfl, fun _ => inv_leave h a⟩
    | some c =>
      rw [setCellMobile_some hmob]
      split
      · exact Or.inl rfl
      · rename_i hr
        refine Or.inr ⟨rfl, fun hsp => inv_place (inv_leave h a) ?_ ?_ (htgt hsp c rfl) (room_leave h hmob hr)⟩
        · rw [leave_kinds]
          exact ha
        · rw [leave_cellOf]
          exact upd_same _ _ _

end

theorem connGet_cells {sp : Space} (hsp : ConnClosed sp) {c c' : Cid} {d : Key} (hc : c ∈ sp.cells)
    (h : connGet sp c d = some c') : c' ∈ sp.cells :=
  hsp c hc d c' (assocGet_mem h)

theorem walk_cells {sp : Space} (hsp : ConnClosed sp) {d : Key} (n : Nat) {c c' : Cid} (hc : c ∈ sp.cells)
    (h : walk sp d n c = some c') : c' ∈ sp.cells := by
  induction n generalizing c with
  | zero =>
    simp [walk] at h
    subst h
    exact hc
  | succ n ih =>
    simp only [walk] at h
    split at h
    · simp at h
    · rename_i c1 hc1
      exact ih (connGet_cells hsp hc hc1) h

/-- the calls of the property's list: placing / moving an agent -/
def Op.placing : Op → Bool
  | .setCell _ _ | .moveTo _ _ | .moveRel _ _ | .gridMove _ _ _ => true
  | _ => false

section
variable {sp : Space} {B : Cid → Nat} {s : State}

theorem step_placing_outcome (h : InvB sp B s) (op : Op) (hp : op.placing = true) :
    (step sp s op).1 = s ∨ ((step sp s op).2 = .ok ∧ (ConnClosed sp → InvB sp B (step sp s op).1)) := by
  cases op with
  | new _ | remove _ | setTryRandom _ | randEmpty _ | randCell _ => cases hp
  | setCell a tgt =>
    simp only [step]
    cases hk : s.kinds[a]? with
    | none => exact Or.inl rfl
    | some k =>
      cases tgt with
      | none => exact setCell_outcome h hk none fun _ c e => nomatch e
      | some c =>
        simp only
        split
        · rename_i hc
          exact setCell_outcome h hk (some c) fun _ c' e => Option.some.inj e ▸ hc
        · exact Or.inl rfl
  | moveTo a c =>
    simp only [step]
    cases hk : s.kinds[a]? with
    | none => exact Or.inl rfl
    | some k =>
      cases k with
      | fixed => exact Or.inl rfl
      | cell | grid2d =>
        simp only
        split
        · rename_i hc
          exact setCell_outcome h hk (some c) fun _ c' e => Option.some.inj e ▸ hc
        · exact Or.inl rfl
  | moveRel a d =>
    simp only [step]
    cases hk : s.kinds[a]? with
    | none => exact Or.inl rfl
    | some k =>
      cases k with
      | fixed => exact Or.inl rfl
      | cell | grid2d =>
        simp only
        cases ho : s.cellOf a with
        | none => exact Or.inl rfl
        | some o =>
          simp only
          cases hg : connGet sp o d with
          | none => exact Or.inl rfl
          | some c' =>
            refine setCell_outcome h hk (some c') fun hsp c'' e => ?_
            cases e
            exact connGet_cells hsp (h.occ_cells a o (h.mobile_mem hk (by simp) ho)) hg
  | gridMove a dir n =>
    simp only [step]
    cases hk : s.kinds[a]? with
    | none => exact Or.inl rfl
    | some k =>
      cases k with
      | fixed | cell => exact Or.inl rfl
      | grid2d =>
        simp only
        cases dirVec dir with
        | none => exact Or.inl rfl
        | some d =>
          simp only
          split
          · exact Or.inl rfl
          · cases ho : s.cellOf a with
            | none => exact Or.inl rfl
            | some o =>
              simp only
              cases hw : walk sp d n.toNat o with
              | none => exact Or.inl rfl
              | some c' =>
                refine setCell_outcome h hk (some c') fun hsp c'' e => ?_
                cases e
                exact walk_cells hsp _ (h.occ_cells a o (h.mobile_mem hk (by simp) ho)) hw

theorem step_moveTo {a : Aid} {k : AKind} (hk : s.kinds[a]? = some k) (hm : k ≠ .fixed) (c : Cid) :
    step sp s (.moveTo a c) = step sp s (.setCell a (some c)) := by
  cases k with
  | fixed => exact absurd rfl hm
  | cell | grid2d => simp only [step, hk]

theorem step_remove_mobile {a : Aid} {k : AKind} (hk : s.kinds[a]? = some k) (hm : k ≠ .fixed) :
    step sp s (.remove a) = setCellMobile sp { s with registry := s.registry.erase a } a none := by
  simp only [step, hk]

theorem step_remove_fixed {a : Aid} (hk : s.kinds[a]? = some .fixed) :
    step sp s (.remove a) =
      match s.cellOf a with
      | none => ({ s with registry := s.registry.erase a }, .err .attr)
      | some c =>
        if a ∈ s.occ c then (detachFixed s a c, .ok) else ({ s with registry := s.registry.erase a }, .err .value) := by
  simp only [step, hk]
  cases s.cellOf a with
  | none => rfl
  | some c =>
    simp only [removeAgent]
    by_cases hm : a ∈ s.occ c
    · simp only [hm, if_true]
      rfl
    · simp only [hm, if_false]

theorem inv_new (h : InvB sp B s) (k : AKind) :
    InvB sp B { s with kinds := s.kinds ++ [k], registry := s.registry ++ [s.kinds.length] } := by
  have hlen : (s.kinds ++ [k]).length = s.kinds.length + 1 := by simp
  refine ⟨h.mem_cell, fun (b : Nat) x hb => ?_, h.nodup, h.cap, h.flag, fun (b : Nat) x hb => ?_, fun (b : Nat) hb => ?_, ?_,
    h.occ_cells⟩
  · have hlt : b < s.kinds.length := h.known b x hb
    refine (h.cell_mem b x hb).imp_right fun ⟨h1, h2⟩ => ⟨?_, fun hm => ?_⟩
    · show (s.kinds ++ [k])[b]? = some AKind.fixed
      rw [List.getElem?_append_left hlt]
      exact h1
    · rcases List.mem_append.mp hm with hm | hm
      · exact h2 hm
      · exact Nat.ne_of_lt hlt (List.mem_singleton.mp hm)
  · have hlt : b < s.kinds.length := h.known b x hb
    show b < (s.kinds ++ [k]).length
    omega
  · show b < (s.kinds ++ [k]).length
    rcases List.mem_append.mp hb with hb | hb
    · have hlt : b < s.kinds.length := h.reg_lt b hb
      omega
    · have he : b = s.kinds.length := List.mem_singleton.mp hb
      omega
  · exact nodup_concat h.reg_nodup fun hm => Nat.lt_irrefl _ (h.reg_lt _ hm)

theorem step_invB (hsp : ConnClosed sp) (h : InvB sp B s) (op : Op) :
    InvB sp B (step sp s op).1 := by
  by_cases hp : op.placing = true
  · rcases step_placing_outcome h op hp with hr | ⟨_, hi⟩
    · rw [hr]
      exact h
    · exact hi hsp
  cases op with
  | setCell _ _ | moveTo _ _ | moveRel _ _ | gridMove _ _ _ => exact absurd rfl hp
  | new k => exact inv_new h k
  | remove a =>
    have hd := inv_deregister h a
    cases hk : s.kinds[a]? with
    | none =>
      simp only [step, hk]
      exact h
    | some k =>
      by_cases hfix : k = .fixed
      · subst hfix
        rw [step_remove_fixed hk]
        cases ho : s.cellOf a with
        | none => exact hd
        | some c =>
          simp only
          split
          · exact inv_detachFixed h hk ho
          · exact hd
      · rw [step_remove_mobile hk hfix, setCellMobile_none (s := { s with registry := s.registry.erase a }) fun o ho => h.mobile_mem hk hfix ho]
        exact inv_leave hd a
  | setTryRandom b =>
    exact ⟨h.mem_cell, h.cell_mem, h.nodup, h.cap, h.flag, h.known, h.reg_lt, h.reg_nodup, h.occ_cells⟩
  | randEmpty draws =>
    simp only [step]
    split <;> exact h
  | randCell draws => exact h

theorem run_invB (hsp : ConnClosed sp) (h : InvB sp B s) (ops : List Op) :
    InvB sp B (run sp s ops) := by
  induction ops generalizing s with
  | nil => exact h
  | cons op ops ih => exact ih (step_invB hsp h op)

theorem step_inv (hsp : ConnClosed sp) (h : Inv sp s) (op : Op) :
    Inv sp (step sp s op).1 := (step_invB hsp h op).toInv

end

/-- a placing call that raises leaves the whole state as it was -/
theorem step_reject_unchanged {sp : Space} {B : Cid → Nat} {s : State} (h : InvB sp B s) (op : Op) (hp : op.placing = true)
    {e : Err} (he : (step sp s op).2 = .err e) : (step sp s op).1 = s := by
  rcases step_placing_outcome h op hp with hr | ⟨ho, _⟩
  · exact hr
  · rw [ho] at he
    cases he

end Mesa.Cells
