import MesaModel.Proofs.CellDyn
import MesaModel.Proofs.CellDicts
/-!
Helper lemmas for C06: `Grid2DMovingAgent` direction names on hex grids.  The connection keys of a hex cell
depend on the parity of its column (`coordinate[1]`); the four cardinal vectors are keys at every cell, the
diagonal ones at one parity only, and every diagonal step changes the parity.
-/
namespace Mesa.Cells

/-- `move_relative(d)` / one step of `move` on a hex grid: the keys of a hex cell straight from `_connect_cells_2d` -/
theorem connGet_hex (h w : Nat) (torus : Bool) (cap : Option Nat) (i j : Int) (d : Key) (c' : Cid) :
    connGet (gridSpace .hex [h, w] torus cap) [i, j] d = some c' ↔
      ∃ di dj ni nj, d = [di, dj] ∧ c' = [ni, nj] ∧ (di, dj) ∈ hexTable j ∧
        connect2d h w torus i j di dj = some (ni, nj) := by
  show assocGet (gridConn .hex [h, w] torus [i, j]) d = some c' ↔ _
  rw [assocGet_eq_some_iff (gridConn_keysNodup .hex [h, w] torus [i, j])]
  simp only [gridConn, offsets2d, List.mem_filterMap, Option.map_eq_some_iff, Prod.mk.injEq, Prod.exists]
  constructor
  · rintro ⟨di, dj, hm, ni, nj, hc, rfl, rfl⟩
    exact ⟨di, dj, ni, nj, rfl, rfl, hm, hc⟩
  · rintro ⟨di, dj, ni, nj, rfl, rfl, hm, hc⟩
    exact ⟨di, dj, hm, ni, nj, hc, rfl, rfl⟩

theorem hex_diag_flips (j di dj : Int) (hm : (di, dj) ∈ hexTable j) (hi : di ≠ 0) (hj : dj ≠ 0) :
    (di, dj) ∉ hexTable (j + dj) := by
  rw [mem_hexTable] at hm ⊢
  rcases hm with ⟨h0, _⟩ | ⟨hdj, hdi | hdi⟩
  · exact absurd h0 hj
  · exact absurd hdi hi
  · rintro (⟨h0, _⟩ | ⟨_, h | h⟩)
    · exact hj h0
    · exact hi h
    · -- both entries are diagonal: `di` is -1 in an odd column and 1 in an even one, and `dj = ±1` changes the parity
      rw [hdi] at h
      split at h <;> split at h <;> omega

theorem connect2d_plain {h w : Nat} {i j di dj ni nj : Int} (hc : connect2d h w false i j di dj = some (ni, nj)) :
    ni = i + di ∧ nj = j + dj := by
  simp only [connect2d, Bool.false_eq_true, if_false] at hc
  split at hc
  · simp only [Option.some.injEq, Prod.mk.injEq] at hc
    exact ⟨hc.1.symm, hc.2.symm⟩
  · cases hc

theorem hex_diag_walk (h w : Nat) (cap : Option Nat) (d : Key) (di dj : Int) (hd : d = [di, dj]) (hi : di ≠ 0)
    (hj : dj ≠ 0) (k : Nat) (c : Cid) : walk (gridSpace .hex [h, w] false cap) d (k + 2) c = none := by
  simp only [walk]
  cases h1 : connGet (gridSpace .hex [h, w] false cap) c d with
  | none => rfl
  | some c1 =>
    simp only
    cases h2 : connGet (gridSpace .hex [h, w] false cap) c1 d with
    | none => rfl
    | some c2 =>
      exfalso
      by_cases hc : ∃ i j, c = [i, j]
      · obtain ⟨i, j, rfl⟩ := hc
        obtain ⟨di1, dj1, ni, nj, hk1, rfl, ht1, hcn1⟩ := (connGet_hex h w false cap i j d c1).mp h1
        rw [hd] at hk1
        simp only [List.cons.injEq, and_true] at hk1
        obtain ⟨rfl, rfl⟩ := hk1
        obtain ⟨rfl, rfl⟩ := connect2d_plain hcn1
        obtain ⟨di2, dj2, _, _, hk2, _, ht2, _⟩ := (connGet_hex h w false cap (i + di) (j + dj) d c2).mp h2
        rw [hd] at hk2
        simp only [List.cons.injEq, and_true] at hk2
        obtain ⟨rfl, rfl⟩ := hk2
        exact hex_diag_flips j di dj ht1 hi hj ht2
      · have m1 := assocGet_mem h1
        simp only [gridSpace] at m1
        rw [gridConn_not_pair .hex h w false c fun i j e => hc ⟨i, j, e⟩] at m1
        simp at m1

end Mesa.Cells
