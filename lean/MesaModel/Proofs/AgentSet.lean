import MesaModel.Model.AgentSet
import MesaModel.Proofs.ListOps
/-! Lemmas for C03 about `Model/AgentSet.lean`: `selectGo` as filter/take, the stable sort `sortL` (with its order
    `sortLe`), the store (`Store.WF`, `put`, `get`), `agg` by min/max, and `map` by name (`mapE`, `callByName`). -/
namespace Mesa.ASet

theorem selectGo_none {α} (p : α → Bool) (l : List α) (c : Nat) : selectGo p none l c = l.filter p := by
  induction l generalizing c with
  | nil => simp [selectGo]
  | cons a l ih =>
    unfold selectGo
    by_cases hp : p a <;> simp [hp, ih]

theorem selectGo_some {α} (p : α → Bool) (k : Nat) (l : List α) (c : Nat) :
    selectGo p (some k) l c = (l.filter p).take (k - c) := by
  induction l generalizing c with
  | nil => simp [selectGo]
  | cons a l ih =>
    unfold selectGo
    by_cases hk : k ≤ c
    · have : k - c = 0 := by omega
      simp [hk, this]
    · by_cases hp : p a
      · have : k - c = (k - (c + 1)) + 1 := by omega
        simp [hk, hp, ih, this]
      · simp [hk, hp, ih]

section sort
variable {α : Type} (key : α → Int) (asc : Bool)

def sortLe (a b : α) : Bool := if asc then decide (key a ≤ key b) else decide (key b ≤ key a)

theorem sortL_eq (l : List α) : sortL key asc l = l.mergeSort (sortLe key asc) := rfl

theorem sortLe_trans (a b c : α) : sortLe key asc a b = true → sortLe key asc b c = true → sortLe key asc a c = true := by
  unfold sortLe
  cases asc <;> simp <;> omega

theorem sortLe_total (a b : α) : (sortLe key asc a b || sortLe key asc b a) = true := by
  unfold sortLe
  cases asc <;> simp <;> omega

theorem sortL_perm (l : List α) : (sortL key asc l).Perm l := List.mergeSort_perm _ _

theorem sortL_sorted (l : List α) : (sortL key asc l).Pairwise (fun a b => sortLe key asc a b = true) :=
  List.pairwise_mergeSort (sortLe_trans key asc) (sortLe_total key asc) l

theorem sortL_stable (l : List α) (v : Int) :
    (sortL key asc l).filter (fun a => key a = v) = l.filter (fun a => key a = v) := by
  have hsub : (l.filter (fun a => key a = v)).Sublist (sortL key asc l) := by
    apply List.sublist_mergeSort (sortLe_trans key asc) (sortLe_total key asc)
    · rw [List.pairwise_filter]
      apply List.pairwise_of_forall
      intro a b ha hb
      simp at ha hb
      unfold sortLe
      cases asc <;> simp <;> omega
    · exact List.filter_sublist
  have h2 := hsub.filter (fun a => decide (key a = v))
  rw [List.filter_filter] at h2
  simp only [Bool.and_self] at h2
  have hlen : ((sortL key asc l).filter (fun a => decide (key a = v))).length
      = (l.filter (fun a => decide (key a = v))).length :=
    ((sortL_perm key asc l).filter _).length_eq
  exact (h2.eq_of_length hlen.symm).symm

end sort

/-! ### the store -/

def Store.WF (st : Store) : Prop := ∀ s ∈ st.sets, s.Nodup

theorem Store.get_nodup {st : Store} (h : st.WF) (s : Nat) : (st.get s).Nodup := by
  unfold Store.get
  cases hs : st.sets[s]? with
  | none => simp
  | some l => exact h l (List.mem_of_getElem? hs)

theorem Store.put_wf {st : Store} (h : st.WF) (s : Nat) (inplace : Bool) (l : List Nat) (hl : l.Nodup) :
    (st.put s inplace l).1.WF := by
  unfold Store.put
  cases inplace
  · intro x hx
    simp at hx
    rcases hx with hx | rfl
    · exact h x hx
    · exact hl
  · intro x hx
    simp at hx
    rcases List.mem_or_eq_of_mem_set hx with hx | rfl
    · exact h x hx
    · exact hl

theorem selectIds_sublist (st : Store) (l : List Nat) (pred ty am) : (selectIds st l pred ty am).Sublist l := by
  unfold selectIds
  split
  · exact List.Sublist.refl _
  · cases am with
    | inf =>
      simp only [selectGo_none]
      exact List.filter_sublist
    | count k =>
      simp only [selectGo_some]
      exact (List.take_sublist _ _).trans List.filter_sublist

theorem get_set_self (st : Store) (s : Nat) (l : List Nat) (hs : s < st.sets.length) :
    Store.get { st with sets := st.sets.set s l } s = l := by
  simp [Store.get, hs]

theorem get_set_other (st : Store) (s j : Nat) (l : List Nat) (hj : j ≠ s) :
    Store.get { st with sets := st.sets.set s l } j = st.get j := by
  simp [Store.get, Ne.symm hj]

theorem set_get_self (st : Store) (s : Nat) (hs : s < st.sets.length) : st.sets.set s (st.get s) = st.sets := by
  apply List.ext_getElem?
  intro j
  rw [List.getElem?_set]
  split
  · subst_vars
    simp [hs, Store.get]
  · rfl

theorem put_rng (st : Store) (s : Nat) (b : Bool) (l : List Nat) : (st.put s b l).1.rng = st.rng := by
  unfold Store.put
  cases b <;> rfl

theorem put_pop (st : Store) (s : Nat) (b : Bool) (l : List Nat) : (st.put s b l).1.pop = st.pop := by
  unfold Store.put
  cases b <;> rfl

theorem put_inplace_sets (st : Store) (s : Nat) (l : List Nat) (j : Nat) :
    (st.put s true l).1.sets[j]? = if s = j then (if s < st.sets.length then some l else none) else st.sets[j]? := by
  simp [Store.put, List.getElem?_set]

theorem put_copy_sets (st : Store) (s : Nat) (l : List Nat) :
    (st.put s false l).1.sets = st.sets ++ [l] ∧ (st.put s false l).2 = st.sets.length := by
  simp [Store.put]

theorem setAttr_attr_other (a : Agent) (k k' : Nat) (v : Int) (h : k' ≠ k) : (a.setAttr k v).attr k' = a.attr k' := by
  have hne : (k' == k) = false := by simpa using h
  simp only [Agent.setAttr, Agent.attr, List.lookup, hne]
  exact lookup_filter_ne a.attrs k k' h

theorem foldl_min_spec (v : Int) (rest : List Int) :
    rest.foldl min v ∈ v :: rest ∧ ∀ x ∈ v :: rest, rest.foldl min v ≤ x :=
  foldl_pick_spec min (· ≤ ·) (fun _ _ _ => Int.le_trans) (fun a b => by rw [Int.min_def]; split <;> simp)
    Int.min_le_left Int.min_le_right v rest

theorem foldl_max_spec (v : Int) (rest : List Int) :
    rest.foldl max v ∈ v :: rest ∧ ∀ x ∈ v :: rest, x ≤ rest.foldl max v :=
  foldl_pick_spec max (fun a b => b ≤ a) (fun _ _ _ h1 h2 => Int.le_trans h2 h1)
    (fun a b => by rw [Int.max_def]; split <;> simp) Int.le_max_left Int.le_max_right v rest

theorem mapM_some_length {α β} (f : α → Option β) (l : List α) (vs : List β) (h : l.mapM f = some vs) :
    vs.length = l.length := by
  induction l generalizing vs with
  | nil =>
    simp at h
    simp [← h]
  | cons a l ih =>
    simp only [List.mapM_cons, Option.bind_eq_bind, Option.bind_eq_some_iff, Option.pure_def, Option.some.injEq] at h
    obtain ⟨b, _, ws, hws, rfl⟩ := h
    simp [ih ws hws]

/-! ### `map` by name: the comprehension `mapE` and the lookup `callByName` -/

theorem mapE_cons_ok {f : Nat → Except Err Int} {i : Nat} {l : List Nat} {vs : List Int} (h : mapE f (i :: l) = .ok vs) :
    ∃ v ws, f i = .ok v ∧ mapE f l = .ok ws ∧ vs = v :: ws := by
  simp only [mapE] at h
  cases hf : f i with
  | error e => simp [hf] at h
  | ok v =>
    cases hl : mapE f l with
    | error e => simp [hf, hl] at h
    | ok ws =>
      simp [hf, hl] at h
      exact ⟨v, ws, rfl, rfl, h.symm⟩

theorem mapE_length (f : Nat → Except Err Int) : ∀ (l : List Nat) (vs : List Int), mapE f l = .ok vs → vs.length = l.length
  | [], vs, h => by
    simp [mapE] at h
    simp [← h]
  | i :: l, vs, h => by
    obtain ⟨v, ws, _, hl, rfl⟩ := mapE_cons_ok h
    simp [mapE_length f l ws hl]

theorem mapE_ok_of_forall (f : Nat → Except Err Int) (g : Nat → Int) (l : List Nat) (h : ∀ i ∈ l, f i = .ok (g i)) :
    mapE f l = .ok (l.map g) := by
  induction l with
  | nil => rfl
  | cons i l ih =>
    have h1 := h i List.mem_cons_self
    have h2 := ih (fun j hj => h j (List.mem_cons_of_mem _ hj))
    simp [mapE, h1, h2]

theorem mapE_getElem (f : Nat → Except Err Int) : ∀ (l : List Nat) (vs : List Int), mapE f l = .ok vs →
    ∀ (j : Nat) (i : Nat), l[j]? = some i → ∃ v, vs[j]? = some v ∧ f i = .ok v
  | [], vs, h, j, i, hj => by simp at hj
  | a :: l, vs, h, j, i, hj => by
    obtain ⟨v, ws, hf, hl, rfl⟩ := mapE_cons_ok h
    cases j with
    | zero =>
      simp at hj
      subst hj
      exact ⟨v, by simp, hf⟩
    | succ j =>
      simp at hj
      simpa using mapE_getElem f l ws hl j i hj

theorem mapE_error (f : Nat → Except Err Int) : ∀ (l : List Nat) (e : Err), mapE f l = .error e →
    ∃ pre i post, l = pre ++ i :: post ∧ f i = .error e ∧ ∀ j ∈ pre, ∃ v, f j = .ok v
  | [], e, h => by simp [mapE] at h
  | a :: l, e, h => by
    simp only [mapE] at h
    cases hf : f a with
    | error e' =>
      simp [hf] at h
      subst h
      exact ⟨[], a, l, rfl, hf, by simp⟩
    | ok v =>
      cases hl : mapE f l with
      | ok ws => simp [hf, hl] at h
      | error e' =>
        simp [hf, hl] at h
        subst h
        obtain ⟨pre, i, post, h1, h2, h3⟩ := mapE_error f l e' hl
        refine ⟨a :: pre, i, post, by simp [h1], h2, fun j hj => ?_⟩
        rcases List.mem_cons.mp hj with rfl | hj
        · exact ⟨v, hf⟩
        · exact h3 j hj

theorem mapE_of_option (f : Nat → Except Err Int) (o : Nat → Option Int) (g : Int → Int)
    (hf : ∀ i, f i = match o i with | some v => .ok (g v) | none => .error .attr) (l : List Nat) :
    mapE f l = match l.mapM o with | some vs => .ok (vs.map g) | none => .error .attr := by
  induction l with
  | nil => simp [mapE]
  | cons i l ih =>
    simp only [mapE, List.mapM_cons, hf i, ih]
    cases ho : o i with
    | none => simp
    | some v =>
      cases hl : l.mapM o with
      | none => simp
      | some ws => simp

theorem callByName_plus (st : Store) (k : Nat) (d : Int) (i : Nat) :
    callByName st (.plus k) d i = match (st.agent i).attr k with | some v => .ok (v + d) | none => .error .attr := rfl

theorem callByName_own (st : Store) (k : Nat) (d : Int) (i : Nat) :
    callByName st (.own k) d i = match (st.agent i).attr k with | some v => .ok (3 * v + d) | none => .error .attr := rfl

theorem callByName_base (st : Store) (d : Int) (i : Nat) : callByName st .base d i = .ok (2 * d) := rfl

theorem callByName_rank (st : Store) (d : Int) (i : Nat) : callByName st .rank d i = .ok (((st.agent i).ty : Int) + d) := rfl

theorem callByName_nosuch (st : Store) (d : Int) (i : Nat) : callByName st .nosuch d i = .error .attr := rfl

theorem map_plus_eq (st : Store) (s k : Nat) (d : Int) :
    map st s (.plus k d) = match (st.get s).mapM (fun i => (st.agent i).attr k) with
      | some vs => .ok (vs.map (· + d)) | none => .error .attr :=
  mapE_of_option _ (fun i => (st.agent i).attr k) (· + d) (callByName_plus st k d) _

theorem map_own_eq (st : Store) (s k : Nat) (d : Int) :
    map st s (.own k d) = match (st.get s).mapM (fun i => (st.agent i).attr k) with
      | some vs => .ok (vs.map (3 * · + d)) | none => .error .attr :=
  mapE_of_option _ (fun i => (st.agent i).attr k) (3 * · + d) (callByName_own st k d) _

theorem map_nosuch_eq (st : Store) (s : Nat) : map st s .nosuch = if st.get s = [] then .ok [] else .error .attr := by
  simp only [map]
  cases st.get s with
  | nil => rfl
  | cons i l => simp [mapE, callByName_nosuch]

end Mesa.ASet
