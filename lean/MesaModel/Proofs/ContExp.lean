import MesaModel.Proofs.ContLegacy
/-! The experimental `ContinuousSpace`: the invariant `EInv`, growth and compaction, the assignment rule `eassign` and the
equations of one call on a coherent state, the bookkeeping `espec` of a history and the refinement `ERef` of the model to
it, the queries (rows, k nearest, agent subsets), the frame of a call (`EOp.target`), capacity and kept references. -/
namespace Mesa.Cont

/-- the index map and the agent list describe the same bijection between the agents in the space
    and the rows `0 … n-1`, and the rows exist -/
structure EInv (s : ESpace) : Prop where
  len : s.n = s.active.length
  cap : s.n ≤ s.cap
  idx : ∀ a i, s.a2i a = some i ↔ s.active[i]? = some a
  gone : ∀ a, s.gone a = true → s.a2i a = none

theorem einv_init (c : ECfg) (cap : Nat) : EInv (einit c cap) :=
  ⟨rfl, Nat.zero_le _, by simp [einit], by simp [einit]⟩

theorem EInv.not_gone {s : ESpace} (h : EInv s) {a : Aid} {i : Nat} (hi : s.a2i a = some i) :
    s.gone a = false := by
  cases hg : s.gone a with
  | false => rfl
  | true =>
    rw [h.gone a hg] at hi
    cases hi

theorem EInv.view {s : ESpace} (h : EInv s) : s.view = s.n := by
  unfold ESpace.view
  have := h.cap
  omega

theorem EInv.lt {s : ESpace} (h : EInv s) {a : Aid} {i : Nat} (hi : s.a2i a = some i) : i < s.n := by
  rw [h.len]
  exact (List.getElem?_eq_some_iff.mp ((h.idx a i).mp hi)).1

theorem EInv.nodup {s : ESpace} (h : EInv s) : s.active.Nodup := by
  rw [List.Nodup, List.pairwise_iff_getElem]
  intro i j hi hj hij heq
  have h1 : s.a2i s.active[i] = some i := (h.idx _ _).mpr (by simp [hi])
  have h2 : s.a2i s.active[i] = some j := (h.idx _ _).mpr (by rw [heq]; simp [hj])
  rw [h1] at h2
  simp at h2
  omega

theorem EInv.mem_iff {s : ESpace} (h : EInv s) (a : Aid) : a ∈ s.active ↔ ∃ i, s.a2i a = some i := by
  rw [List.mem_iff_getElem?]
  constructor
  · rintro ⟨i, hi⟩
    exact ⟨i, (h.idx a i).mpr hi⟩
  · rintro ⟨i, hi⟩
    exact ⟨i, (h.idx a i).mp hi⟩

theorem EInv.not_mem_iff {s : ESpace} (h : EInv s) (a : Aid) : a ∉ s.active ↔ s.a2i a = none := by
  rw [h.mem_iff]
  cases s.a2i a <;> simp

theorem EInv.inj {s : ESpace} (h : EInv s) {a b : Aid} {i : Nat} (ha : s.a2i a = some i)
    (hb : s.a2i b = some i) : a = b := by
  have h1 := (h.idx a i).mp ha
  have h2 := (h.idx b i).mp hb
  rw [h1] at h2
  simpa using h2

theorem getPos_of_idx {s : ESpace} (h : EInv s) {a : Aid} {i : Nat} (hi : s.a2i a = some i) :
    getPos s a = .ok (s.buf i) := by
  simp [getPos, hi, h.view, h.lt hi]

theorem getPos_of_none {s : ESpace} {a : Aid} (ha : s.a2i a = none) : getPos s a = .error .key := by
  simp only [getPos, ha]

theorem getPos_of_not_mem {s : ESpace} (h : EInv s) {a : Aid} (ha : a ∉ s.active) :
    getPos s a = .error .key :=
  getPos_of_none ((h.not_mem_iff a).mp ha)

/-! ### `_add_agent` (growth) -/

theorem getElem?_snoc_eq_some {α : Type} (l : List α) (a b : α) (i : Nat) :
    (l ++ [a])[i]? = some b ↔ l[i]? = some b ∨ (i = l.length ∧ a = b) := by
  rcases Nat.lt_trichotomy i l.length with h | h | h
  · rw [List.getElem?_append_left h]
    simp [Nat.ne_of_lt h]
  · subst h
    simp
  · rw [List.getElem?_eq_none (by simp; omega), List.getElem?_eq_none (by omega)]
    simp
    omega

theorem einv_add {s : ESpace} (h : EInv s) {a : Aid} (hf : s.a2i a = none) (hg : s.gone a = false) :
    EInv (addAgent s a) := by
  refine ⟨by simp [addAgent, h.len], ?_, fun b i => ?_, fun b hb => ?_⟩
  · have := h.cap
    have := growBy_pos (s.n + 1)
    simp only [addAgent]
    split <;> omega
  · -- the new agent gets the row after the last, the others keep theirs
    show upd s.a2i a (some s.n) b = some i ↔ (s.active ++ [a])[i]? = some b
    rw [getElem?_snoc_eq_some, ← h.idx b i, ← h.len]
    by_cases hba : b = a
    · subst hba
      simp [upd, hf, eq_comm]
    · simp [upd, hba, Ne.symm hba]
  · simp only [addAgent] at hb ⊢
    by_cases hba : b = a
    · subst hba
      rw [hg] at hb
      cases hb
    · simp only [upd_other _ _ hba]
      exact h.gone b hb

theorem getPos_add {s : ESpace} (h : EInv s) {a b : Aid} (hf : s.a2i a = none) (hg : s.gone a = false)
    (hb : b ∈ s.active) : getPos (addAgent s a) b = getPos s b := by
  obtain ⟨i, hi⟩ := (h.mem_iff b).mp hb
  have hba : b ≠ a := by
    rintro rfl
    rw [hf] at hi
    cases hi
  have hi' : (addAgent s a).a2i b = some i := by simp [addAgent, upd, hba, hi]
  rw [getPos_of_idx (einv_add h hf hg) hi', getPos_of_idx h hi]
  rfl

/-! ### the position setter -/

/-- the value an assignment stores; `none` = rejected -/
def eassign (c : ECfg) (p : Pos) : Option Pos :=
  if inBounds c.dims p then some p else if c.torus then some (torusCorrect c.dims p) else none

theorem eassign_of_inBounds {c : ECfg} {p : Pos} (h : inBounds c.dims p = true) : eassign c p = some p := by
  simp only [eassign, h, if_true]

theorem eassign_of_torus {c : ECfg} {p : Pos} (h : inBounds c.dims p = false) (ht : c.torus = true) :
    eassign c p = some (torusCorrect c.dims p) := by
  simp only [eassign, h, ht, Bool.false_eq_true, if_false, if_true]

theorem eassign_of_bounded {c : ECfg} {p : Pos} (h : inBounds c.dims p = false) (ht : c.torus = false) :
    eassign c p = none := by
  simp only [eassign, h, ht, Bool.false_eq_true, if_false]

theorem setPos_of_idx {s : ESpace} (h : EInv s) {a : Aid} {i : Nat} (hi : s.a2i a = some i) (p : Pos) :
    setPos s a p = match eassign s.cfg p with
      | some p' => .ok { s with buf := upd s.buf i p' }
      | none => .error .oob := by
  have hlt : i < s.view := by
    rw [h.view]
    exact h.lt hi
  unfold setPos eassign
  by_cases hb : inBounds s.cfg.dims p = true
  · simp [hb, hi, hlt]
  · by_cases ht : s.cfg.torus = true <;> simp [hb, ht, hi, hlt]

theorem setPos_of_none {s : ESpace} {a : Aid} (hn : s.a2i a = none) (p : Pos) : ∃ e, setPos s a p = .error e := by
  unfold setPos
  simp only [hn]
  split <;> simp
  all_goals split <;> simp

theorem einv_set {s : ESpace} (h : EInv s) (i : Nat) (p : Pos) : EInv { s with buf := upd s.buf i p } :=
  ⟨h.len, h.cap, h.idx, h.gone⟩

theorem getPos_set {s : ESpace} (h : EInv s) {a : Aid} {i : Nat} (hi : s.a2i a = some i) (p : Pos) (b : Aid) :
    getPos { s with buf := upd s.buf i p } b = if b = a then .ok p else getPos s b := by
  by_cases hba : b = a
  · subst hba
    rw [getPos_of_idx (einv_set h i p) (by exact hi), if_pos rfl]
    exact congrArg _ (upd_same ..)
  · simp only [hba, if_false]
    cases hb : s.a2i b with
    | none => rw [getPos_of_none hb, getPos_of_none (s := { s with buf := upd s.buf i p }) hb]
    | some j =>
      have hji : j ≠ i := by
        rintro rfl
        exact hba (h.inj hb hi)
      rw [getPos_of_idx (einv_set h i p) (by exact hb), getPos_of_idx h hb]
      exact congrArg _ (upd_other _ _ hji)

/-! ### `_remove_agent` (compaction and re-indexing) -/

theorem reindex_spec (as : List Aid) (m : Aid → Option Nat) (r : Nat → Option Aid)
    (hn : as.Nodup) (hs : ∀ b ∈ as, ∃ j, m b = some j) :
    ∃ m' r', reindex as m r = .ok (m', r') ∧
      ∀ b, m' b = if b ∈ as then (m b).map (· - 1) else m b := by
  induction as generalizing m r with
  | nil => exact ⟨m, r, rfl, by simp⟩
  | cons a as ih =>
    obtain ⟨j, hj⟩ := hs a (by simp)
    have hna : a ∉ as := (List.nodup_cons.mp hn).1
    have hs' : ∀ b ∈ as, ∃ j', upd m a (some (j - 1)) b = some j' := by
      intro b hb
      have hba : b ≠ a := by
        rintro rfl
        exact hna hb
      simpa [upd, hba] using hs b (by simp [hb])
    obtain ⟨m', r', h1, h2⟩ := ih (upd m a (some (j - 1))) (upd r (j - 1) (some a)) (List.nodup_cons.mp hn).2 hs'
    refine ⟨m', r', by simp [reindex, hj, h1], ?_⟩
    intro b
    rw [h2 b]
    by_cases hba : b = a
    · subst hba
      simp [hna, upd, hj]
    · simp [upd, hba]

theorem mem_drop_eraseIdx {s : ESpace} (h : EInv s) (index : Nat) (b : Aid) :
    b ∈ (s.active.eraseIdx index).drop index ↔ ∃ i, index < i ∧ s.a2i b = some i := by
  rw [List.mem_iff_getElem?]
  constructor
  · rintro ⟨j, hj⟩
    rw [List.getElem?_drop, List.getElem?_eraseIdx] at hj
    simp only [show ¬ (index + j < index) by omega, if_false] at hj
    exact ⟨index + j + 1, by omega, (h.idx _ _).mpr hj⟩
  · rintro ⟨i, hi, hb⟩
    refine ⟨i - 1 - index, ?_⟩
    rw [List.getElem?_drop, List.getElem?_eraseIdx]
    simp only [show ¬ (index + (i - 1 - index) < index) by omega, if_false]
    rw [show index + (i - 1 - index) + 1 = i by omega]
    exact (h.idx _ _).mp hb

/-- what `_remove_agent` makes of a coherent state in which `a` has row `index`: that row is dropped, the later
    ones move up by one -/
structure Removed (s s' : ESpace) (a : Aid) (index : Nat) : Prop where
  cfg : s'.cfg = s.cfg
  cap : s'.cap = s.cap
  n : s'.n = s.n - 1
  active : s'.active = s.active.eraseIdx index
  buf : s'.buf = fun i => if index ≤ i ∧ i + 1 < s.n then s.buf (i + 1) else s.buf i
  a2i : ∀ b, s'.a2i b = if b = a then none else (s.a2i b).map fun i => if index < i then i - 1 else i

theorem removeAgent_spec {s : ESpace} (h : EInv s) {a : Aid} {index : Nat} (ha : s.a2i a = some index) :
    ∃ s', removeAgent s a = .ok s' ∧ Removed s s' a index ∧ s'.gone = s.gone := by
  have hlt : index < s.active.length := by
    rw [← h.len]
    exact h.lt ha
  have hnd : ((s.active.eraseIdx index).drop index).Nodup :=
    (h.nodup.sublist (List.eraseIdx_sublist _ _)).sublist (List.drop_sublist _ _)
  have hs : ∀ b ∈ (s.active.eraseIdx index).drop index, ∃ j, upd s.a2i a none b = some j := by
    intro b hb
    obtain ⟨i, hi, hbi⟩ := (mem_drop_eraseIdx h index b).mp hb
    have hba : b ≠ a := by
      rintro rfl
      rw [ha] at hbi
      simp at hbi
      omega
    exact ⟨i, by simp [upd, hba, hbi]⟩
  obtain ⟨m', r', h1, h2⟩ := reindex_spec _ (upd s.a2i a none) (upd s.i2a index none) hnd hs
  refine ⟨{ s with active := s.active.eraseIdx index, a2i := m', i2a := r', n := s.n - 1,
                   buf := fun i => if index ≤ i ∧ i + 1 < s.n then s.buf (i + 1) else s.buf i },
    by simp [removeAgent, ha, Nat.not_le.mpr hlt, h1], ⟨rfl, rfl, rfl, rfl, rfl, fun b => ?_⟩, rfl⟩
  show m' b = _
  rw [h2 b]
  have hmem := mem_drop_eraseIdx h index b
  by_cases hba : b = a
  · simp [hba, upd]
  · cases hb : s.a2i b with
    | none =>
      have : b ∉ (s.active.eraseIdx index).drop index := fun hm => by
        obtain ⟨i, _, hbi⟩ := hmem.mp hm
        rw [hb] at hbi
        cases hbi
      simp [this, hba, hb, upd]
    | some i =>
      by_cases hi : index < i
      · simp [hmem.mpr ⟨i, hi, hb⟩, hba, hb, hi, upd]
      · have : b ∉ (s.active.eraseIdx index).drop index := fun hm => by
          obtain ⟨i', hi', hbi⟩ := hmem.mp hm
          rw [hb] at hbi
          cases hbi
          omega
        simp [this, hba, hb, hi, upd]

theorem Removed.einv {s s' : ESpace} {a : Aid} {index : Nat} (r : Removed s s' a index) (h : EInv s)
    (ha : s.a2i a = some index) (hg : ∀ b, s'.gone b = true → s.gone b = true ∨ b = a) : EInv s' := by
  have hlt : index < s.active.length := by
    rw [← h.len]
    exact h.lt ha
  refine ⟨?_, ?_, fun b i => ?_, fun b hb => ?_⟩
  · rw [r.n, r.active, List.length_eraseIdx, h.len]
    rw [if_pos hlt]
  · rw [r.n, r.cap]
    have := h.cap
    omega
  · -- row `i` after the removal is row `i` or `i + 1` before it
    have key : (s.active.eraseIdx index)[i]? = some b ↔ s.a2i b = some (if i < index then i else i + 1) := by
      rw [List.getElem?_eraseIdx]
      split <;> exact (h.idx b _).symm
    rw [r.a2i b, r.active, key]
    by_cases hba : b = a
    · subst hba
      rw [ha]
      simp only [if_true, reduceCtorEq, false_iff, Option.some.injEq]
      split <;> omega
    · rw [if_neg hba]
      cases hb : s.a2i b with
      | none => simp only [Option.map_none, reduceCtorEq]
      | some i0 =>
        have hne : i0 ≠ index := by
          rintro rfl
          exact hba (h.inj hb ha)
        simp only [Option.map_some, Option.some.injEq]
        split <;> split <;> omega
  · rw [r.a2i b]
    rcases hg b hb with h1 | h1
    · rw [h.gone b h1]
      simp
    · rw [if_pos h1]

theorem Removed.getPos_eq {s s' : ESpace} {a b : Aid} {index : Nat} (r : Removed s s' a index) (h : EInv s)
    (h' : EInv s') (ha : s.a2i a = some index) (hba : b ≠ a) : getPos s' b = getPos s b := by
  cases hb : s.a2i b with
  | none =>
    have : s'.a2i b = none := by
      rw [r.a2i b, if_neg hba, hb]
      rfl
    rw [getPos_of_none hb, getPos_of_none this]
  | some i =>
    have hne : i ≠ index := by
      rintro rfl
      exact hba (h.inj hb ha)
    have hlt := h.lt hb
    have e : s'.a2i b = some (if index < i then i - 1 else i) := by
      rw [r.a2i b, if_neg hba, hb]
      rfl
    rw [getPos_of_idx h' e, getPos_of_idx h hb, r.buf]
    by_cases hi : index < i
    · simp only [hi, if_true]
      rw [if_pos (by omega), show i - 1 + 1 = i by omega]
    · simp only [hi, if_false]
      rw [if_neg (by omega)]

theorem nodup_eraseIdx_eq_filter (l : List Aid) (i : Nat) (a : Aid) (hn : l.Nodup) (hi : l[i]? = some a) :
    l.eraseIdx i = l.filter (fun k => k ≠ a) := by
  induction l generalizing i with
  | nil => simp at hi
  | cons x xs ih =>
    obtain ⟨hx, hxs⟩ := List.nodup_cons.mp hn
    cases i with
    | zero =>
      have hxa : x = a := by simpa using hi
      subst hxa
      simp only [List.eraseIdx_cons_zero, List.filter_cons, ne_eq, not_true_eq_false, decide_false,
        Bool.false_eq_true, if_false]
      symm
      rw [List.filter_eq_self]
      intro b hb
      have : b ≠ x := by
        rintro rfl
        exact hx hb
      simpa using this
    | succ i =>
      have hi' : xs[i]? = some a := by simpa using hi
      have hxa : x ≠ a := by
        rintro rfl
        exact hx (List.mem_of_getElem? hi')
      simp [hxa, ih i hxs hi']

/-! ### the agent-level wrappers on a coherent state -/

theorem agentRemove_spec {s : ESpace} (h : EInv s) {a : Aid} {index : Nat} (ha : s.a2i a = some index) :
    ∃ s', agentRemove s a = .ok s' ∧ Removed s s' a index ∧ EInv s' ∧ s'.gone = upd s.gone a true ∧
      ∀ b, b ≠ a → getPos s' b = getPos s b := by
  obtain ⟨s0, h1, r, hg⟩ := removeAgent_spec h ha
  have r' : Removed s { s0 with gone := upd s0.gone a true } a index := ⟨r.cfg, r.cap, r.n, r.active, r.buf, r.a2i⟩
  have hi' : EInv { s0 with gone := upd s0.gone a true } := r'.einv h ha (fun b hb => by
    by_cases hba : b = a
    · exact Or.inr hba
    · left
      simpa [upd, hba, hg] using hb)
  exact ⟨_, by simp [agentRemove, h.not_gone ha, h1], r', hi', by simp [hg], fun b hba => r'.getPos_eq h hi' ha hba⟩

theorem agentGet_of_mem {s : ESpace} (h : EInv s) {a : Aid} (ha : a ∈ s.active) : agentGet s a = getPos s a := by
  obtain ⟨i, hi⟩ := (h.mem_iff a).mp ha
  simp [agentGet, h.not_gone hi]

theorem agentSet_of_mem {s : ESpace} (h : EInv s) {a : Aid} (ha : a ∈ s.active) (p : Pos) :
    agentSet s a p = setPos s a p := by
  obtain ⟨i, hi⟩ := (h.mem_iff a).mp ha
  simp [agentSet, h.not_gone hi]

theorem agentGet_of_not_mem {s : ESpace} (h : EInv s) {a : Aid} (ha : a ∉ s.active) :
    agentGet s a = .error (if s.gone a then .attr else .key) := by
  cases hg : s.gone a <;> simp [agentGet, hg, getPos_of_not_mem h ha]

/-! ### one call on a coherent state -/

theorem estep_raw (s : ESpace) (i : Nat) (p : Pos) :
    estep s (.raw i p) = if i < s.view then { s with buf := upd s.buf i p } else s := by
  simp only [estep, rawWrite]
  by_cases h : i < s.view <;> simp [h]

theorem estep_new_of_fresh {s : ESpace} {a : Aid} (hf : s.a2i a = none) (hg : s.gone a = false) :
    estep s (.new a) = addAgent s a := by
  simp [estep, hf, hg]

theorem estep_new_cases (s : ESpace) (a : Aid) :
    estep s (.new a) = s ∨ (s.a2i a = none ∧ s.gone a = false ∧ estep s (.new a) = addAgent s a) := by
  cases hf : s.a2i a with
  | some i => exact .inl (by simp [estep, hf])
  | none =>
    cases hg : s.gone a with
    | true => exact .inl (by simp [estep, hg])
    | false => exact .inr ⟨rfl, rfl, estep_new_of_fresh hf hg⟩

theorem estep_set_of_idx {s : ESpace} (h : EInv s) {a : Aid} {i : Nat} (hi : s.a2i a = some i) (p : Pos) :
    estep s (.set a p) = match eassign s.cfg p with
      | some p' => { s with buf := upd s.buf i p' }
      | none => s := by
  simp only [estep, agentSet_of_mem h ((h.mem_iff a).mpr ⟨i, hi⟩), setPos_of_idx h hi]
  cases eassign s.cfg p <;> rfl

theorem estep_iadd_of_idx {s : ESpace} (h : EInv s) {a : Aid} {i : Nat} (hi : s.a2i a = some i) (v : Pos) :
    estep s (.iadd a v) = estep s (.set a (vadd (s.buf i) v)) := by
  have ha : a ∈ s.active := (h.mem_iff a).mpr ⟨i, hi⟩
  simp only [estep, agentIadd, agentGet_of_mem h ha, getPos_of_idx h hi]

theorem estep_of_not_mem {s : ESpace} (h : EInv s) {a : Aid} (ha : a ∉ s.active) :
    (∀ p, estep s (.set a p) = s) ∧ (∀ v, estep s (.iadd a v) = s) ∧ estep s (.remove a) = s := by
  -- whether the agent object is marked or not, the lookup of its row fails
  have hn := (h.not_mem_iff a).mp ha
  refine ⟨fun p => ?_, fun v => ?_, ?_⟩
  · obtain ⟨e, he⟩ := setPos_of_none hn p
    cases hg : s.gone a <;> simp [estep, agentSet, hg, he]
  · simp only [estep, agentIadd, agentGet, getPos_of_none hn]
    cases s.gone a <;> rfl
  · simp only [estep, agentRemove, removeAgent, hn]
    cases s.gone a <;> rfl

/-! ### histories: the model refines the property's own description -/

theorem erun_append (c : ECfg) (cap : Nat) (a b : List EOp) : erun c cap (a ++ b) = b.foldl estep (erun c cap a) :=
  List.foldl_append ..

theorem erun_snoc (c : ECfg) (cap : Nat) (ops : List EOp) (op : EOp) :
    erun c cap (ops ++ [op]) = estep (erun c cap ops) op := erun_append c cap ops [op]

/-- The property's own bookkeeping of a history of the experimental API: who is in the space (in order of
    creation), the position last assigned to each agent (`none` until the first assignment), and which
    agent objects have been removed. -/
structure ESpec where
  members : List Aid
  pos : Aid → Option Pos
  removed : Aid → Bool

/-- One call.  `agent.position += v` is an assignment of (last assigned value) + v; for an agent that was never
    assigned a position (its row is uninitialised memory) nothing is recorded. -/
def especStep (c : ECfg) (st : ESpec) : EOp → ESpec
  | .new a =>
    if a ∈ st.members ∨ st.removed a = true then st
    else { st with members := st.members ++ [a], pos := upd st.pos a none }
  | .set a p =>
    if a ∈ st.members then
      match eassign c p with
      | some p' => { st with pos := upd st.pos a (some p') }
      | none => st
    else st
  | .remove a =>
    if a ∈ st.members then
      { members := st.members.filter (fun k => k ≠ a), pos := upd st.pos a none, removed := upd st.removed a true }
    else st
  | .iadd a v =>
    if a ∈ st.members then
      match st.pos a with
      | some q =>
        match eassign c (vadd q v) with
        | some p' => { st with pos := upd st.pos a (some p') }
        | none => st
      | none => st
    else st
  | .raw i p =>
    -- a write through the `agent_positions` view: no validation, the value as it is becomes the position of the
    -- i-th agent of the space
    match st.members[i]? with
    | some a => { st with pos := upd st.pos a (some p) }
    | none => st

def espec (c : ECfg) (ops : List EOp) : ESpec :=
  ops.foldl (especStep c) ⟨[], fun _ => none, fun _ => false⟩

structure ERef (c : ECfg) (s : ESpace) (st : ESpec) : Prop where
  inv : EInv s
  cfg : s.cfg = c
  active : s.active = st.members
  pos : ∀ a p, st.pos a = some p → getPos s a = .ok p
  out : ∀ a, a ∉ st.members → st.pos a = none
  gone : s.gone = st.removed

theorem espec_snoc (c : ECfg) (ops : List EOp) (op : EOp) : espec c (ops ++ [op]) = especStep c (espec c ops) op :=
  List.foldl_append ..

theorem ERef.mem_of_pos {c : ECfg} {s : ESpace} {st : ESpec} (h : ERef c s st) {a : Aid} {p : Pos}
    (hp : st.pos a = some p) : a ∈ st.members :=
  Decidable.byContradiction fun hn => by rw [h.out a hn] at hp; cases hp

theorem ERef.write {c : ECfg} {s : ESpace} {st : ESpec} (h : ERef c s st) {a : Aid} {i : Nat}
    (hi : s.a2i a = some i) (q : Pos) :
    ERef c { s with buf := upd s.buf i q } { st with pos := upd st.pos a (some q) } := by
  refine ⟨einv_set h.inv i q, h.cfg, h.active, fun b p hb => ?_, fun b hb => ?_, h.gone⟩
  · rw [getPos_set h.inv hi]
    by_cases hba : b = a
    · simp only [upd, hba, if_true, Option.some.injEq] at hb ⊢
      rw [hb]
    · simp only [upd_other _ _ hba] at hb
      rw [if_neg hba]
      exact h.pos b p hb
  · have hba : b ≠ a := by
      rintro rfl
      exact hb (h.active ▸ (h.inv.mem_iff b).mpr ⟨i, hi⟩)
    simp only [upd_other _ _ hba]
    exact h.out b hb

theorem ERef.write_unrecorded {c : ECfg} {s : ESpace} {st : ESpec} (h : ERef c s st) {a : Aid} {i : Nat}
    (hi : s.a2i a = some i) (hn : st.pos a = none) (q : Pos) : ERef c { s with buf := upd s.buf i q } st := by
  refine ⟨einv_set h.inv i q, h.cfg, h.active, fun b p hb => ?_, h.out, h.gone⟩
  have hba : b ≠ a := by
    rintro rfl
    rw [hn] at hb
    cases hb
  rw [getPos_set h.inv hi, if_neg hba]
  exact h.pos b p hb

theorem estep_refines {c : ECfg} {s : ESpace} {st : ESpec} (h : ERef c s st)
    (op : EOp) : ERef c (estep s op) (especStep c st op) := by
  have hi := h.inv
  have hc := h.cfg
  subst hc
  cases op with
  | new a =>
    simp only [estep, especStep]
    by_cases ha : a ∈ st.members
    · obtain ⟨i, hi'⟩ := (hi.mem_iff a).mp (h.active ▸ ha)
      simp only [hi', Option.isSome_some, Bool.true_or, if_true, ha, true_or]
      exact h
    · have hf : s.a2i a = none := (hi.not_mem_iff a).mp (h.active ▸ ha)
      by_cases hr : st.removed a = true
      · have : s.gone a = true := by
          rw [h.gone]
          exact hr
        simp only [this, Bool.or_true, if_true, hr, or_true]
        exact h
      · have hg : s.gone a = false := by
          rw [h.gone]
          simpa using hr
        simp only [hf, hg, Option.isSome_none, Bool.or_self, Bool.false_eq_true, if_false, ha, hr, or_self]
        refine ⟨einv_add hi hf hg, h.cfg, by simp [addAgent, h.active], ?_, ?_, by simp [addAgent, h.gone]⟩
        · intro b p hb
          by_cases hba : b = a
          · simp only [hba, upd_same, reduceCtorEq] at hb
          · simp only [upd_other _ _ hba] at hb
            rw [getPos_add hi hf hg (h.active ▸ h.mem_of_pos hb)]
            exact h.pos b p hb
        · intro b hb
          have hba : b ≠ a := by
            rintro rfl
            simp at hb
          simp only [upd_other _ _ hba]
          exact h.out b (by intro hm; exact hb (by simp [hm]))
  | set a p =>
    by_cases ha : a ∈ st.members
    · obtain ⟨i, hidx⟩ := (hi.mem_iff a).mp (h.active ▸ ha)
      rw [estep_set_of_idx hi hidx]
      simp only [especStep, if_pos ha]
      cases eassign s.cfg p with
      | none => exact h
      | some p' => exact h.write hidx p'
    · rw [(estep_of_not_mem hi (h.active ▸ ha)).1]
      simp only [especStep, if_neg ha]
      exact h
  | remove a =>
    by_cases ha : a ∈ st.members
    · obtain ⟨index, hidx⟩ := (hi.mem_iff a).mp (h.active ▸ ha)
      obtain ⟨s', h1, r, hi', hg, hpos⟩ := agentRemove_spec hi hidx
      simp only [estep, h1, especStep, if_pos ha]
      refine ⟨hi', r.cfg.trans h.cfg, ?_, ?_, ?_, by rw [hg, h.gone]⟩
      · rw [r.active, ← h.active]
        exact nodup_eraseIdx_eq_filter _ _ _ hi.nodup ((hi.idx _ _).mp hidx)
      · intro b q hb
        by_cases hba : b = a
        · simp only [hba, upd_same, reduceCtorEq] at hb
        · simp only [upd_other _ _ hba] at hb
          rw [hpos b hba]
          exact h.pos b q hb
      · intro b hb
        by_cases hba : b = a
        · simp only [hba, upd_same]
        · simp only [upd_other _ _ hba]
          apply h.out b
          intro hm
          exact hb (List.mem_filter.mpr ⟨hm, by simpa using hba⟩)
    · rw [(estep_of_not_mem hi (h.active ▸ ha)).2.2]
      simp only [especStep, if_neg ha]
      exact h
  | iadd a v =>
    by_cases ha : a ∈ st.members
    · obtain ⟨i, hidx⟩ := (hi.mem_iff a).mp (h.active ▸ ha)
      rw [estep_iadd_of_idx hi hidx, estep_set_of_idx hi hidx]
      simp only [especStep, if_pos ha]
      cases hq : st.pos a with
      | some q =>
        have : s.buf i = q := by
          have := h.pos a q hq
          rw [getPos_of_idx hi hidx] at this
          exact Except.ok.inj this
        rw [this]
        dsimp only
        cases eassign s.cfg (vadd q v) with
        | none => exact h
        | some p' => exact h.write hidx p'
      | none =>
        dsimp only
        cases eassign s.cfg (vadd (s.buf i) v) with
        | none => exact h
        | some p' => exact h.write_unrecorded hidx hq p'
    · rw [(estep_of_not_mem hi (h.active ▸ ha)).2.1]
      simp only [especStep, if_neg ha]
      exact h
  | raw i p =>
    rw [estep_raw]
    simp only [especStep]
    cases hm : st.members[i]? with
    | none =>
      rw [if_neg (by rw [hi.view, hi.len, h.active]; exact Nat.not_lt.mpr (List.getElem?_eq_none_iff.mp hm))]
      exact h
    | some a =>
      have hidx : s.a2i a = some i := (hi.idx a i).mpr (by rw [h.active]; exact hm)
      rw [if_pos (by rw [hi.view]; exact hi.lt hidx)]
      exact h.write hidx p

theorem erun_refines (c : ECfg) (cap : Nat) (ops : List EOp) : ERef c (erun c cap ops) (espec c ops) :=
  foldl_rel (R := ERef c) (f := estep) (g := especStep c) (fun _ _ op h => estep_refines h op) ops
    ⟨einv_init c cap, rfl, rfl, by simp, by simp, rfl⟩

/-! ### queries over the rows of `agent_positions` -/

theorem rows_getElem? {s : ESpace} (h : EInv s) (i : Nat) :
    (rows s)[i]? = if i < s.n then some (s.buf i) else none := by
  simp only [rows, h.view, List.getElem?_map]
  by_cases hi : i < s.n
  · simp [hi]
  · simp [hi]

theorem mem_zip_rows {s : ESpace} (h : EInv s) (a : Aid) (q : Pos) :
    (a, q) ∈ s.active.zip (rows s) ↔ a ∈ s.active ∧ getPos s a = .ok q := by
  rw [List.mem_iff_getElem?]
  constructor
  · rintro ⟨i, hi⟩
    obtain ⟨h1, h2⟩ := List.getElem?_zip_eq_some.mp hi
    simp only at h1 h2
    have hidx := (h.idx a i).mpr h1
    rw [rows_getElem? h, if_pos (h.lt hidx)] at h2
    exact ⟨List.mem_of_getElem? h1, by rw [getPos_of_idx h hidx]; simpa using h2⟩
  · rintro ⟨ha, hq⟩
    obtain ⟨i, hidx⟩ := (h.mem_iff a).mp ha
    rw [getPos_of_idx h hidx] at hq
    refine ⟨i, List.getElem?_zip_eq_some.mpr ⟨(h.idx a i).mp hidx, ?_⟩⟩
    rw [rows_getElem? h, if_pos (h.lt hidx)]
    simpa using hq

/-- the shape of `calculate_distances` and of `calculate_difference_vector` -/
theorem mem_zip_rows_map {β : Type} {s : ESpace} (h : EInv s) (f : Pos → β) (a : Aid) (y : β) :
    (a, y) ∈ s.active.zip ((rows s).map f) ↔ a ∈ s.active ∧ ∃ q, getPos s a = .ok q ∧ y = f q := by
  rw [List.zip_map_right, List.mem_map]
  constructor
  · rintro ⟨⟨b, q⟩, hm, he⟩
    simp only [Prod.map, id, Prod.mk.injEq] at he
    obtain ⟨rfl, rfl⟩ := he
    obtain ⟨h1, h2⟩ := (mem_zip_rows h b q).mp hm
    exact ⟨h1, q, h2, rfl⟩
  · rintro ⟨h1, q, h2, rfl⟩
    exact ⟨(a, q), (mem_zip_rows h a q).mpr ⟨h1, h2⟩, rfl⟩

theorem zip_rows_map_fst {β : Type} {s : ESpace} (h : EInv s) (f : Pos → β) :
    (s.active.zip ((rows s).map f)).map (·.1) = s.active := by
  rw [List.map_fst_zip]
  simp [rows, h.view, h.len]

theorem mem_zip_calcD2 {s : ESpace} (h : EInv s) (pt : Pos) (a : Aid) (d : Int) :
    (a, d) ∈ s.active.zip (calcD2 s pt) ↔
      a ∈ s.active ∧ ∃ q, getPos s a = .ok q ∧ d = edist2 s.cfg pt q :=
  mem_zip_rows_map h _ a d

theorem zip_calcD2_fst {s : ESpace} (h : EInv s) (pt : Pos) :
    (s.active.zip (calcD2 s pt)).map (·.1) = s.active :=
  zip_rows_map_fst h _

theorem calcD2_length {s : ESpace} (h : EInv s) (pt : Pos) : (calcD2 s pt).length = s.n := by
  simp [calcD2, rows, h.view]

/-! ### k nearest -/

/-- what `get_k_nearest_agents` uses of `argpartition(d, k - 1)`: a permutation of the indices in which no entry among the
    first `k` is farther than an entry after them -/
theorem ArgPartSpec.take_le_drop {argpart : List Int → Nat → List Nat} (hap : ArgPartSpec argpart) (d : List Int)
    {k : Nat} (hk : 1 ≤ k) (hkd : k ≤ d.length) :
    (argpart d (k - 1)).Perm (List.range d.length) ∧
    ∀ u t i j, u < k → k ≤ t → (argpart d (k - 1))[u]? = some i → (argpart d (k - 1))[t]? = some j →
      d.getD i 0 ≤ d.getD j 0 := by
  obtain ⟨hperm, hpiv⟩ := hap d (k - 1) (by omega)
  refine ⟨hperm, fun u t i j hu ht hi hj => ?_⟩
  have hpl : k - 1 < (argpart d (k - 1)).length := by
    rw [hperm.length_eq, List.length_range]
    omega
  obtain ⟨hlo, hhi⟩ := hpiv _ (List.getElem?_eq_getElem hpl)
  have hup := hhi t j (by omega) hj
  rcases Nat.lt_or_ge u (k - 1) with hu1 | hu1
  · have := hlo u i hu1 hi
    omega
  · have hueq : u = k - 1 := by omega
    subst hueq
    rw [List.getElem?_eq_getElem hpl] at hi
    rw [Option.some.inj hi] at hup
    exact hup

theorem kNearest_spec {argpart : List Int → Nat → List Nat} (hap : ArgPartSpec argpart)
    {s : ESpace} (h : EInv s) (pt : Pos) {k : Nat} (hk : 1 ≤ k) (hkn : k ≤ s.n) :
    ∃ res, kNearest argpart s pt k = .ok res ∧ res.length = k ∧ (res.map (·.1)).Nodup ∧
      (∀ ad ∈ res, ad ∈ s.active.zip (calcD2 s pt)) ∧
      (∀ ad ∈ res, ∀ be ∈ s.active.zip (calcD2 s pt), be.1 ∉ res.map (·.1) → ad.2 ≤ be.2) := by
  have hd : (calcD2 s pt).length = s.n := calcD2_length h pt
  generalize hdd : calcD2 s pt = d at hd
  obtain ⟨hperm, hsep⟩ := hap.take_le_drop d hk (by omega)
  generalize hL : argpart d (k - 1) = L at hperm hsep
  have hLlen : L.length = s.n := by rw [hperm.length_eq, List.length_range, hd]
  have hLnd : L.Nodup := hperm.nodup_iff.mpr List.nodup_range
  have hLmem : ∀ x ∈ L, x < s.n := fun x hx => by
    have := hperm.mem_iff.mp hx
    rw [hd] at this
    simpa using this
  -- the pair an index below `n` names; the answer is the first `k` indices of `L` under `g`
  let g : Nat → Aid × Int := fun i => (s.active.getD i 0, d.getD i 0)
  have hg : ∀ i, i < s.n → s.active[i]? = some (g i).1 ∧ d[i]? = some (g i).2 := fun i hi => by
    have h1 : i < s.active.length := by
      rw [← h.len]
      exact hi
    have h2 : i < d.length := by
      rw [hd]
      exact hi
    simp [g, List.getD, List.getElem?_eq_getElem h1, List.getElem?_eq_getElem h2]
  have hgk : ∀ i ∈ L.take k, s.active[i]? = some (g i).1 ∧ d[i]? = some (g i).2 :=
    fun i hi => hg i (hLmem i (List.mem_of_mem_take hi))
  have hc : collect ((L.take k).map (knnPick s d)) = some ((L.take k).map g) :=
    collect_map_eq_some _ _ g (fun i hi => by obtain ⟨e1, e2⟩ := hgk i hi; simp only [knnPick, e1, e2])
  have hres : kNearest argpart s pt k = .ok ((L.take k).map g) := by
    simp only [kNearest, hdd, show k ≠ 0 by omega, if_false, show ¬ d.length < k by omega, hL, hc]
  have hfst : ∀ j, j < s.n → ∀ be : Aid × Int, s.active[j]? = some be.1 → be.1 = (g j).1 := fun j hj be e =>
    Option.some.inj (e.symm.trans (hg j hj).1)
  refine ⟨_, hres, by rw [List.length_map, List.length_take]; omega, ?_, ?_, ?_⟩
  · -- distinct indices name distinct agents
    rw [List.map_map, List.Nodup, List.pairwise_map]
    refine (hLnd.sublist (List.take_sublist _ _)).imp_of_mem fun {i j} hi hj hij e => hij ?_
    exact nodup_idx_inj h.nodup (hgk i hi).1 (by rw [show (g i).1 = (g j).1 from e]; exact (hgk j hj).1)
  · intro ad had
    obtain ⟨i, hi, rfl⟩ := List.mem_map.mp had
    exact List.mem_iff_getElem?.mpr ⟨i, List.getElem?_zip_eq_some.mpr (hgk i hi)⟩
  · intro ad had be hbe hout
    obtain ⟨i, hi, rfl⟩ := List.mem_map.mp had
    obtain ⟨u, hu⟩ := List.mem_iff_getElem?.mp hi
    rw [List.getElem?_take] at hu
    split at hu
    case isFalse => cases hu
    rename_i huk
    obtain ⟨j, hj⟩ := List.mem_iff_getElem?.mp hbe
    obtain ⟨hj1, hj2⟩ := List.getElem?_zip_eq_some.mp hj
    have hjn : j < s.n := by
      rw [h.len]
      exact (List.getElem?_eq_some_iff.mp hj1).1
    obtain ⟨t, ht⟩ := List.mem_iff_getElem?.mp (hperm.mem_iff.mpr (by rw [hd]; simpa using hjn))
    -- `be` sits at an index of `L` beyond the first `k`
    have htk : k ≤ t := by
      rcases Nat.lt_or_ge t k with htk | htk
      · exfalso
        apply hout
        have hjt : j ∈ L.take k := List.mem_iff_getElem?.mpr ⟨t, by rw [List.getElem?_take, if_pos htk]; exact ht⟩
        rw [List.map_map]
        exact List.mem_map.mpr ⟨j, hjt, (hfst j hjn be hj1).symm⟩
      · exact htk
    have e2 : d.getD j 0 = be.2 := by simp [List.getD, hj2]
    rw [← e2]
    exact hsep u t i j huk htk hu ht

/-- the complete stable sort the driver uses satisfies the `argpartition` post-condition -/
theorem argsortPart_spec : ArgPartSpec argsortPart := by
  intro d kth _
  have hsorted := List.pairwise_mergeSort (le := fun i j => decide (d.getD i 0 ≤ d.getD j 0))
    (fun a b c h1 h2 => by simp only [decide_eq_true_eq] at *; omega)
    (fun a b => by simp only [Bool.or_eq_true, decide_eq_true_eq]; omega) (List.range d.length)
  refine ⟨List.mergeSort_perm _ _, ?_⟩
  intro p hp
  rw [List.pairwise_iff_getElem] at hsorted
  have key : ∀ (i j x y : Nat), i < j → (argsortPart d kth)[i]? = some x → (argsortPart d kth)[j]? = some y →
      d.getD x 0 ≤ d.getD y 0 := by
    intro i j x y hij hx hy
    obtain ⟨hi, ex⟩ := List.getElem?_eq_some_iff.mp hx
    obtain ⟨hj, ey⟩ := List.getElem?_eq_some_iff.mp hy
    have := hsorted i j hi hj hij
    unfold argsortPart at ex ey
    rw [ex, ey] at this
    simpa using this
  exact ⟨fun i x hi hx => key i kth x p hi hx hp, fun j y hj hy => key kth j p y hj hp hy⟩

/-! ### bounds of the experimental space -/

def ECfg.WF (c : ECfg) : Prop := ∀ d ∈ c.dims, d.1 < d.2

theorem torusCorrect_inBounds (ds : List (Int × Int)) (p : Pos) (hw : ∀ d ∈ ds, d.1 < d.2) :
    inBounds ds (torusCorrect ds p) = true := by
  induction ds generalizing p with
  | nil => simp [inBounds]
  | cons d ds ih =>
    cases p with
    | nil => simp [torusCorrect, inBounds]
    | cons x p =>
      have hb := wrap_bounds d.1 (d.2 - d.1) x (by have := hw d (by simp); omega)
      simp only [torusCorrect, inBounds, Bool.and_eq_true, decide_eq_true_eq]
      exact ⟨⟨hb.1, by omega⟩, ih p (fun d' hd' => hw d' (by simp [hd']))⟩

theorem eassign_inBounds (c : ECfg) (hw : c.WF) {p p' : Pos} (h : eassign c p = some p') :
    inBounds c.dims p' = true := by
  unfold eassign at h
  split at h
  · cases h
    assumption
  · split at h
    · cases h
      exact torusCorrect_inBounds _ _ hw
    · cases h

/-! ### frame, agent-centred queries, agent subsets -/

/-- the agent a call is about (for a write through the view: the agent whose row it is, if any) -/
def EOp.target (s : ESpace) : EOp → Option Aid
  | .new a => some a
  | .set a _ => some a
  | .remove a => some a
  | .iadd a _ => some a
  | .raw i _ => s.active[i]?

theorem getPos_estep_frame {s : ESpace} (h : EInv s) (op : EOp) {a : Aid} (ha : a ∈ s.active)
    (hne : op.target s ≠ some a) : getPos (estep s op) a = getPos s a := by
  -- an assignment to another agent `b` writes another row, or is rejected
  have hset : ∀ b p, b ≠ a → getPos (estep s (.set b p)) a = getPos s a := by
    intro b p hba
    cases hb : s.a2i b with
    | none => rw [(estep_of_not_mem h ((h.not_mem_iff b).mpr hb)).1]
    | some i =>
      rw [estep_set_of_idx h hb]
      cases eassign s.cfg p with
      | none => rfl
      | some p' => exact (getPos_set h hb p' a).trans (if_neg (Ne.symm hba))
  cases op with
  | new b =>
    rcases estep_new_cases s b with e | ⟨hf, hg, e⟩ <;> rw [e]
    exact getPos_add h hf hg ha
  | set b p => exact hset b p fun e => hne (congrArg some e)
  | remove b =>
    have hba : a ≠ b := fun e => hne (congrArg some e.symm)
    cases hb : s.a2i b with
    | none => rw [(estep_of_not_mem h ((h.not_mem_iff b).mpr hb)).2.2]
    | some index =>
      obtain ⟨s', h1, _, _, _, hpos⟩ := agentRemove_spec h hb
      simp only [estep, h1]
      exact hpos a hba
  | iadd b v =>
    have hba : b ≠ a := fun e => hne (congrArg some e)
    cases hb : s.a2i b with
    | none => rw [(estep_of_not_mem h ((h.not_mem_iff b).mpr hb)).2.1]
    | some i =>
      rw [estep_iadd_of_idx h hb]
      exact hset b _ hba
  | raw i p =>
    rw [estep_raw]
    split
    · next hlt =>
      have hl : i < s.active.length := by
        rw [← h.len, ← h.view]
        exact hlt
      have hb : s.active[i]? = some s.active[i] := List.getElem?_eq_getElem hl
      exact (getPos_set h ((h.idx _ i).mpr hb) p a).trans (if_neg fun e => hne (by rw [e]; exact hb))
    · rfl

theorem write_free_row {s : ESpace} (h : EInv s) {i : Nat} (hi : s.active.length ≤ i) (p : Pos) :
    rows { s with buf := upd s.buf i p } = rows s ∧
    ∀ a, getPos { s with buf := upd s.buf i p } a = getPos s a := by
  refine ⟨List.map_congr_left fun j hj => upd_other _ _ ?_, fun a => ?_⟩
  · have hj : j < s.view := List.mem_range.mp hj
    rw [h.view, h.len] at hj
    omega
  · cases ha : s.a2i a with
    | none => exact (getPos_of_none (by exact ha)).trans (getPos_of_none ha).symm
    | some j =>
      have hj := h.lt ha
      rw [getPos_of_idx (einv_set h i p) (by exact ha), getPos_of_idx h ha]
      exact congrArg _ (upd_other _ _ (by rw [h.len] at hj; omega))

theorem length_filter_ne_of_nodup (l : List (Aid × Int)) (a : Aid) (hn : (l.map (·.1)).Nodup)
    (ha : a ∈ l.map (·.1)) : (l.filter (fun ad => ad.1 ≠ a)).length + 1 = l.length := by
  induction l with
  | nil => simp at ha
  | cons x xs ih =>
    simp only [List.map_cons, List.nodup_cons] at hn
    by_cases hx : x.1 = a
    · have hnot : a ∉ xs.map (·.1) := by
        rw [← hx]
        exact hn.1
      have : xs.filter (fun ad => ad.1 ≠ a) = xs := by
        rw [List.filter_eq_self]
        intro y hy
        have : y.1 ≠ a := by
          rintro rfl
          exact hnot (List.mem_map.mpr ⟨y, hy, rfl⟩)
        simpa using this
      rw [List.filter_cons_of_neg (by simp [hx]), this]
      simp
    · have ha' : a ∈ xs.map (·.1) := by
        simp only [List.map_cons, List.mem_cons] at ha
        rcases ha with e | e
        · exact absurd e.symm hx
        · exact e
      have := ih hn.2 ha'
      rw [List.filter_cons_of_pos (by simp [hx])]
      simp only [List.length_cons]
      omega

theorem rowsOf_spec {s : ESpace} (h : EInv s) (sub : List Aid) (hsub : ∀ a ∈ sub, a ∈ s.active) :
    ∃ l, rowsOf s sub = .ok l ∧ l.map (·.1) = sub ∧ ∀ aq ∈ l, getPos s aq.1 = .ok aq.2 := by
  have hg : ∀ a ∈ sub, s.a2i a = some ((s.a2i a).getD 0) := fun a ha => by
    obtain ⟨i, hi⟩ := (h.mem_iff a).mp (hsub a ha)
    simp [hi]
  -- the list of (agent, row) pairs the comprehension builds
  have hc := collect_map_eq_some sub (fun a => (s.a2i a).map fun i => (a, i)) (fun a => (a, (s.a2i a).getD 0))
    (fun a ha => by rw [hg a ha]; rfl)
  have hlt : (sub.map fun a => (a, (s.a2i a).getD 0)).all (fun ai => decide (ai.2 < s.cap)) = true := by
    rw [List.all_eq_true]
    intro ai hai
    obtain ⟨a, ha, rfl⟩ := List.mem_map.mp hai
    have := h.lt (hg a ha)
    have := h.cap
    simp
    omega
  refine ⟨(sub.map fun a => (a, (s.a2i a).getD 0)).map fun ai => (ai.1, s.buf ai.2), by simp only [rowsOf, hc, hlt, if_true],
    by simp [List.map_map, Function.comp_def], fun aq haq => ?_⟩
  obtain ⟨ai, hai, rfl⟩ := List.mem_map.mp haq
  obtain ⟨a, ha, rfl⟩ := List.mem_map.mp hai
  exact getPos_of_idx h (hg a ha)

/-! ### the capacity along a history, and references to `agent_positions` kept by the user -/

theorem removeAgent_eq_ok {s s' : ESpace} {a : Aid} (h : removeAgent s a = .ok s') : s'.cfg = s.cfg ∧ s'.cap = s.cap := by
  simp only [removeAgent] at h
  repeat' split at h
  -- a branch that returns `.ok` keeps `cfg` and `cap`; the other branches return `.error`
  all_goals first | (cases h; exact ⟨rfl, rfl⟩) | cases h

theorem agentSet_eq_ok {s s' : ESpace} {a : Aid} {p : Pos} (h : agentSet s a p = .ok s') :
    ∃ i q, s' = { s with buf := upd s.buf i q } := by
  simp only [agentSet, setPos] at h
  repeat' split at h
  -- the one branch that returns `.ok` is the row write; the other branches return `.error`
  all_goals first | (cases h; exact ⟨_, _, rfl⟩) | cases h

theorem estep_shape (s : ESpace) (op : EOp) :
    estep s op = s ∨ (∃ a, op = .new a ∧ estep s op = addAgent s a) ∨
    (∃ i q, estep s op = { s with buf := upd s.buf i q }) ∨
    (∃ a s0, removeAgent s a = .ok s0 ∧ estep s op = { s0 with gone := upd s0.gone a true }) := by
  cases op with
  | new a =>
    rcases estep_new_cases s a with e | ⟨_, _, e⟩
    · exact .inl e
    · exact .inr (.inl ⟨a, rfl, e⟩)
  | set a p =>
    simp only [estep]
    cases h : agentSet s a p with
    | error e => exact .inl rfl
    | ok s' => exact .inr (.inr (.inl (agentSet_eq_ok h)))
  | remove a =>
    cases hg : s.gone a with
    | true => exact .inl (by simp [estep, agentRemove, hg])
    | false =>
      cases h : removeAgent s a with
      | error e => exact .inl (by simp [estep, agentRemove, hg, h])
      | ok s0 => exact .inr (.inr (.inr ⟨a, s0, h, by simp [estep, agentRemove, hg, h]⟩))
  | iadd a v =>
    simp only [estep]
    cases h : agentIadd s a v with
    | error e => exact .inl rfl
    | ok s' =>
      unfold agentIadd at h
      split at h
      · cases h
      · exact .inr (.inr (.inl (agentSet_eq_ok h)))
  | raw i p =>
    rw [estep_raw]
    split
    · exact .inr (.inr (.inl ⟨i, p, rfl⟩))
    · exact .inl rfl

theorem estep_cfg (s : ESpace) (op : EOp) : (estep s op).cfg = s.cfg := by
  rcases estep_shape s op with e | ⟨a, _, e⟩ | ⟨i, q, e⟩ | ⟨a, s0, h, e⟩
  · rw [e]
  · rw [e]
    rfl
  · rw [e]
  · rw [e]
    exact (removeAgent_eq_ok h).1

theorem estep_cap (s : ESpace) (op : EOp) :
    (estep s op).cap = s.cap ∨ (s.cap < (estep s op).cap ∧ (∃ a, op = .new a) ∧ s.cap ≤ s.n) := by
  rcases estep_shape s op with e | ⟨a, ho, e⟩ | ⟨i, q, e⟩ | ⟨a, s0, h, e⟩ <;> rw [e]
  · exact .inl rfl
  · show (addAgent s a).cap = s.cap ∨ _
    simp only [addAgent]
    by_cases hc : s.cap ≤ s.n
    · right
      rw [if_pos hc]
      exact ⟨by have := growBy_pos (s.n + 1); omega, ⟨a, ho⟩, hc⟩
    · left
      rw [if_neg hc]
  · exact .inl rfl
  · exact .inl (removeAgent_eq_ok h).2

theorem efold_cap_mono (ops : List EOp) (s : ESpace) : s.cap ≤ (ops.foldl estep s).cap :=
  foldl_inv (P := fun s' : ESpace => s.cap ≤ s'.cap) (Nat.le_refl _)
    fun s' h op _ => by rcases estep_cap s' op with h1 | h1 <;> omega

theorem hfold_sp (ops : List EOp) (h : HSpace) : (ops.foldl hstep h).sp = ops.foldl estep h.sp := by
  induction ops generalizing h with
  | nil => rfl
  | cons op ops ih =>
    simp only [List.foldl_cons]
    rw [ih]
    rfl

/-- an array the space has dropped is never touched by the space again -/
theorem hfold_orph_frozen (ops : List EOp) (h : HSpace) (k : Nat) (hk : k < h.sp.cap) :
    (ops.foldl hstep h).orph k = h.orph k := by
  induction ops generalizing h with
  | nil => rfl
  | cons op ops ih =>
    simp only [List.foldl_cons]
    have hm : h.sp.cap ≤ (estep h.sp op).cap := efold_cap_mono [op] h.sp
    rw [ih (hstep h op) (by show k < (estep h.sp op).cap; omega)]
    simp only [hstep, HSpace.advance]
    split
    · rfl
    · have : k ≠ h.sp.cap := by omega
      exact upd_other _ _ this

theorem hread_after_realloc (h : HSpace) (op : EOp) (rest : List EOp) (v : Held) (hc : v.cap = h.sp.cap)
    (hgrow : (estep h.sp op).cap ≠ h.sp.cap) : (rest.foldl hstep (hstep h op)).read v = h.read v := by
  have hlt : h.sp.cap < (estep h.sp op).cap := by
    rcases estep_cap h.sp op with e | e
    · exact absurd e hgrow
    · exact e.1
  have hmono : (estep h.sp op).cap ≤ (rest.foldl hstep (hstep h op)).sp.cap := by
    rw [hfold_sp]
    exact efold_cap_mono rest _
  have horph : (rest.foldl hstep (hstep h op)).orph v.cap = h.sp.buf := by
    rw [hfold_orph_frozen rest _ v.cap (by show v.cap < (estep h.sp op).cap; omega)]
    simp [hstep, HSpace.advance, hgrow, upd, hc]
  simp only [HSpace.read]
  rw [if_neg (by omega), horph, if_pos hc]

end Mesa.Cont
