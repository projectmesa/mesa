import MesaModel.Model.VizPlot
import MesaModel.Proofs.VizLookupAll
/-!
Helper lemmas for the measure plots (`Model/VizPlot.lean`).
-/
namespace Mesa.Viz

/-- the line the table yields for one request -/
def lineOf (t : Table) (r : String × Option String × Option String) : Option PlotLine :=
  (t.lookup r.1).map fun ys => ⟨r.2.1, r.2.2, ys⟩

theorem plotLines_eq (t : Table) : ∀ (rs : List (String × Option String × Option String)),
    plotLines t rs = lookupAll t (·.1) id (fun r ys => ⟨r.2.1, r.2.2, ys⟩) rs
  | [] => rfl
  | (m, label, color) :: rest => by
    unfold plotLines lookupAll
    rw [plotLines_eq t rest]
    generalize lookupAll t _ _ _ rest = r
    cases t.lookup m
    · rfl
    · cases r <;> rfl

theorem plotLines_ok_iff (t : Table) (rs : List (String × Option String × Option String)) (ls : List PlotLine) :
    plotLines t rs = .ok ls ↔ rs.map (lineOf t) = ls.map some := by
  rw [plotLines_eq]
  exact lookupAll_ok_iff rs ls

theorem plotLines_error_iff (t : Table) (rs : List (String × Option String × Option String)) (m : String) :
    plotLines t rs = .error m ↔
      ∃ before r after, rs = before ++ r :: after ∧ r.1 = m ∧ t.lookup m = none ∧ ∀ b ∈ before, (t.lookup b.1).isSome := by
  rw [plotLines_eq]
  exact lookupAll_error_iff (err := id) (fun _ _ h => h) rs m

theorem plotLines_labels (t : Table) (rs : List (String × Option String × Option String)) (ls : List PlotLine)
    (h : plotLines t rs = .ok ls) :
    ls.map (fun l => (l.label, l.color)) = rs.map (fun r => (r.2.1, r.2.2)) ∧
    rs.map (fun r => t.lookup r.1) = ls.map (fun l => some l.ys) := by
  rw [plotLines_eq] at h
  exact ⟨lookupAll_ok_map (p := fun l => (l.label, l.color)) (q := fun r => (r.2.1, r.2.2)) (fun _ _ _ => rfl) h, (lookupAll_ok_map (p := fun l => some l.ys) (q := fun r => t.lookup r.1) (fun _ _ hl => hl.symm) h).symm⟩

theorem plotMeasure_error_iff (t : Table) (spec : MeasureSpec) (m : String) :
    plotMeasure t spec = .error m ↔ plotLines t spec.requests = .error m := by
  unfold plotMeasure
  cases plotLines t spec.requests <;> simp

theorem plotMeasure_ok {t : Table} {spec : MeasureSpec} {pl : Plot} (h : plotMeasure t spec = .ok pl) :
    plotLines t spec.requests = .ok pl.lines ∧
    (pl.legend = true ↔ (∃ ms, spec = .dict ms) ∨ (∃ ms, spec = .list ms) ∨ (∃ ms, spec = .tuple ms)) ∧
    (∀ m, pl.ylabel = some m ↔ spec = .str m) := by
  unfold plotMeasure at h
  cases hr : plotLines t spec.requests with
  | error e =>
    rw [hr] at h
    cases h
  | ok ls =>
    rw [hr] at h
    cases h
    refine ⟨rfl, ?_, fun m => ?_⟩
    · cases spec <;> simp
    · cases spec <;> simp

theorem plotBackend_eq_iff (backend : String) (r : Except BackendErr Unit) :
    plotBackend backend = r ↔
      (backend = "matplotlib" ∧ r = .ok ()) ∨ (backend = "altair" ∧ r = .error .notImplemented) ∨
        (backend ≠ "matplotlib" ∧ backend ≠ "altair" ∧ r = .error .value) := by
  unfold plotBackend
  by_cases h1 : backend = "matplotlib"
  · subst h1
    simp [eq_comm]
  · by_cases h2 : backend = "altair"
    · subst h2
      simp [eq_comm]
    · simp [h1, h2, eq_comm]

end Mesa.Viz
