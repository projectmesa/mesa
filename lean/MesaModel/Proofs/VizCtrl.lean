import MesaModel.Model.VizCtrl
import MesaModel.Proofs.VizInputs
/-!
Helper lemmas for the controls of `SolaraViz` (`Model/VizCtrl.lean`): the inner loop of `do_step`; `Ctrl.Inv`, the
induction over histories of user actions, with the order "this model or a later one", the parameter set and the run
flag as its instances; an undisturbed tick and the play loop left alone as equations.
-/
namespace Mesa.Viz

/-! ## the inner loop of `do_step` -/

/-- the parts of the state a `do_step` never touches -/
structure Ctrl.sameSetup (c c' : Ctrl) : Prop where
  params : c'.params = c.params
  inputs : c'.inputs = c.inputs
  kwargs : c'.kwargs = c.kwargs
  sim : c'.sim = c.sim
  gen : c'.gen = c.gen
  render : c'.render = c.render
  threads : c'.threads = c.threads

theorem Ctrl.sameSetup.refl (c : Ctrl) : c.sameSetup c := ⟨rfl, rfl, rfl, rfl, rfl, rfl, rfl⟩

theorem Ctrl.sameSetup.trans {a b c : Ctrl} (h1 : a.sameSetup b) (h2 : b.sameSetup c) : a.sameSetup c :=
  ⟨h2.params.trans h1.params, h2.inputs.trans h1.inputs, h2.kwargs.trans h1.kwargs, h2.sim.trans h1.sim,
    h2.gen.trans h1.gen, h2.render.trans h1.render, h2.threads.trans h1.threads⟩

theorem clickPlay_getD_eq (c : Ctrl) : ∃ p, c.clickPlay.getD c = { c with playing := p } := by
  unfold Ctrl.clickPlay
  split
  · exact ⟨_, rfl⟩
  · exact ⟨c.playing, rfl⟩

theorem stepOnce_eq (beh : Behaviour) (hook : Option Nat) (i : Nat) (c : Ctrl) :
    ∃ p, stepOnce beh hook i c =
      { c with steps := c.steps + 1, mrunning := beh c.kwargs (c.steps + 1), running := beh c.kwargs (c.steps + 1), playing := p } := by
  unfold stepOnce
  split
  · obtain ⟨p, h⟩ := clickPlay_getD_eq (c.modelStep beh)
    simp only [h]
    exact ⟨p, rfl⟩
  · exact ⟨c.playing, rfl⟩

theorem stepOnce_spec (beh : Behaviour) (hook : Option Nat) (i : Nat) (c : Ctrl) :
    c.sameSetup (stepOnce beh hook i c) ∧ (stepOnce beh hook i c).updates = c.updates ∧
    (stepOnce beh hook i c).steps = c.steps + 1 ∧
    (stepOnce beh hook i c).running = (stepOnce beh hook i c).mrunning ∧
    (stepOnce beh hook i c).mrunning = beh c.kwargs (c.steps + 1) := by
  obtain ⟨p, h⟩ := stepOnce_eq beh hook i c
  rw [h]
  exact ⟨⟨rfl, rfl, rfl, rfl, rfl, rfl, rfl⟩, rfl, rfl, rfl, rfl⟩

theorem stepLoop_inv {beh : Behaviour} {breakable : Bool} {hook : Option Nat} {P : Ctrl → Prop}
    (h : ∀ i c, P c → P (stepOnce beh hook i c)) : ∀ (n i : Nat) (c : Ctrl), P c → P (stepLoop beh breakable hook n i c)
  | 0, _, _, hc => hc
  | n + 1, i, c, hc => by
    simp only [stepLoop]
    split
    · exact h i c hc
    · exact stepLoop_inv h n (i + 1) _ (h i c hc)

/-- the flag and the model's `running` are in step with the model class -/
def Ctrl.synced (beh : Behaviour) (c : Ctrl) : Prop :=
  c.running = c.mrunning ∧ c.mrunning = beh c.kwargs c.steps

theorem stepOnce_synced (beh : Behaviour) (hook : Option Nat) (i : Nat) (c : Ctrl) : (stepOnce beh hook i c).synced beh := by
  obtain ⟨hs, _, h1, h2, h3⟩ := stepOnce_spec beh hook i c
  exact ⟨h2, by rw [h3, hs.kwargs, h1]⟩

theorem stepLoop_spec (beh : Behaviour) (breakable : Bool) (hook : Option Nat) (n i : Nat) (c : Ctrl) :
    c.sameSetup (stepLoop beh breakable hook n i c) ∧ (stepLoop beh breakable hook n i c).updates = c.updates ∧
    c.steps ≤ (stepLoop beh breakable hook n i c).steps ∧
    (0 < n ∨ c.synced beh → (stepLoop beh breakable hook n i c).synced beh) := by
  have h123 := stepLoop_inv (breakable := breakable)
    (P := fun c' => c.sameSetup c' ∧ c'.updates = c.updates ∧ c.steps ≤ c'.steps)
    (fun i c' ⟨h1, h2, h3⟩ =>
      let ⟨s1, s2, s3, _⟩ := stepOnce_spec beh hook i c'
      ⟨h1.trans s1, s2.trans h2, s3 ▸ Nat.le_succ_of_le h3⟩)
    n i c ⟨.refl c, rfl, Nat.le_refl _⟩
  refine ⟨h123.1, h123.2.1, h123.2.2, fun h => ?_⟩
  · have hpres := stepLoop_inv (breakable := breakable) (P := Ctrl.synced beh) (fun i c' _ => stepOnce_synced beh hook i c')
    cases n with
    | zero => exact hpres 0 i c (h.resolve_left (Nat.lt_irrefl 0))
    | succ m =>
      simp only [stepLoop]
      split
      · exact stepOnce_synced beh hook i c
      · exact hpres m (i + 1) _ (stepOnce_synced beh hook i c)

theorem stepLoop_steps_le (beh : Behaviour) (breakable : Bool) (hook : Option Nat) :
    ∀ (n i : Nat) (c : Ctrl), (stepLoop beh breakable hook n i c).steps ≤ c.steps + n
  | 0, _, _ => Nat.le_refl _
  | n + 1, i, c => by
    have h1 := (stepOnce_spec beh hook i c).2.2.1
    have ih := stepLoop_steps_le beh breakable hook n (i + 1) (stepOnce beh hook i c)
    simp only [stepLoop]
    split <;> omega

theorem stepOnce_none (beh : Behaviour) (i : Nat) (c : Ctrl) :
    stepOnce beh none i c =
      { c with steps := c.steps + 1, mrunning := beh c.kwargs (c.steps + 1), running := beh c.kwargs (c.steps + 1) } := rfl

theorem stepLoop_none (beh : Behaviour) (breakable : Bool) :
    ∀ (n i : Nat) (c : Ctrl), (breakable = true → c.playing = true) →
      stepLoop beh breakable none (n + 1) i c =
        { c with steps := c.steps + (n + 1), mrunning := beh c.kwargs (c.steps + (n + 1)),
                 running := beh c.kwargs (c.steps + (n + 1)) }
  | n, i, c, hp => by
    have hcond : (breakable && !(stepOnce beh none i c).playing) = false := by
      cases breakable with
      | false => rfl
      | true =>
        show (true && !c.playing) = false
        rw [hp rfl]
        rfl
    rw [stepLoop, hcond]
    simp only [Bool.false_eq_true, if_false]
    cases n with
    | zero => rfl
    | succ n =>
      have e : c.steps + 1 + (n + 1) = c.steps + (n + 1 + 1) := by rw [Nat.add_assoc, Nat.add_comm 1]
      rw [stepLoop_none beh breakable n (i + 1) (stepOnce beh none i c) hp, stepOnce_none]
      simp only [e]

theorem stepLoop_none_steps (beh : Behaviour) (breakable : Bool) :
    ∀ (n i : Nat) (c : Ctrl), (breakable = true → c.playing = true) →
      (stepLoop beh breakable none n i c).steps = c.steps + n ∧ (stepLoop beh breakable none n i c).playing = c.playing
  | 0, _, _, _ => ⟨rfl, rfl⟩
  | n + 1, i, c, hp => by
    rw [stepLoop_none beh breakable n i c hp]
    exact ⟨rfl, rfl⟩

/-! ## `do_step` -/

theorem doStep_eq (beh : Behaviour) (hook : Option Nat) (c : Ctrl) :
    doStep beh hook c =
      { stepLoop beh c.playing hook c.render 1 c with
        updates := if c.playing && (stepLoop beh c.playing hook c.render 1 c).threads
          then (stepLoop beh c.playing hook c.render 1 c).updates
          else (stepLoop beh c.playing hook c.render 1 c).updates + 1 } := by
  unfold doStep
  cases c.playing
  · rfl
  · simp only [if_true, Bool.true_and]
    split <;> rfl

theorem doStep_spec (beh : Behaviour) (hook : Option Nat) (c : Ctrl) :
    c.sameSetup (doStep beh hook c) ∧ c.steps ≤ (doStep beh hook c).steps ∧
    (doStep beh hook c).steps ≤ c.steps + c.render ∧ c.updates ≤ (doStep beh hook c).updates := by
  obtain ⟨hs, hu, hst, _⟩ := stepLoop_spec beh c.playing hook c.render 1 c
  rw [doStep_eq]
  refine ⟨⟨hs.params, hs.inputs, hs.kwargs, hs.sim, hs.gen, hs.render, hs.threads⟩, hst,
    stepLoop_steps_le beh c.playing hook c.render 1 c, ?_⟩
  simp only [hu]
  split <;> omega

/-! ## what holds after every history of user actions -/

/-- `P` survives everything a user action is made of — the threads checkbox apart, which mounts the controller anew -/
structure Ctrl.Inv (beh : Behaviour) (P : Ctrl → Prop) : Prop where
  toggle : ∀ c, P c → P { c with playing := !c.playing }
  stepOnce : ∀ hook i c, P c → P (stepOnce beh hook i c)
  updates : ∀ c n, P c → P { c with updates := n }
  doReset : ∀ c, P c → P (doReset beh c)
  render : ∀ c n, P c → P { c with render := n }
  change : ∀ c name v, name ∈ c.inputs → P c → P { c with params := onChange c.params name v }

namespace Ctrl.Inv
variable {beh : Behaviour} {P : Ctrl → Prop} (hP : Ctrl.Inv beh P)
include hP

theorem clickPlay (c : Ctrl) (hc : P c) : P (c.clickPlay.getD c) := by
  unfold Ctrl.clickPlay
  split
  · exact hP.toggle c hc
  · exact hc

theorem change' (c : Ctrl) (name : String) (v : Val) (hc : P c) : P ((c.change name v).getD c) := by
  unfold Ctrl.change
  split
  · exact hP.change c name v (by simpa using ‹c.inputs.contains name = true›) hc
  · exact hc

theorem doStep (hook : Option Nat) (c : Ctrl) (hc : P c) : P (doStep beh hook c) := by
  rw [doStep_eq]
  exact hP.updates _ _ (stepLoop_inv (hP.stepOnce hook) _ _ c hc)

theorem applyEv (c : Ctrl) (hc : P c) : ∀ ev, P (applyEv beh c ev)
  | .idle => hc
  | .pause => hP.clickPlay c hc
  | .reset => hP.doReset c hc
  | .render n => hP.render c n hc
  | .set name v => hP.change' c name v hc

theorem playLoop : ∀ (evs : List (Ev × Option Nat)) (c : Ctrl), P c → P (playLoop beh evs c)
  | [], c, hc => by
    simp only [Viz.playLoop]
    split
    · exact hP.doStep none _ (hP.applyEv c hc .pause)
    · exact hc
  | (ev, hook) :: rest, c, hc => by
    simp only [Viz.playLoop]
    split
    · exact playLoop rest _ (hP.doStep hook _ (hP.applyEv c hc ev))
    · exact hc

theorem apply (op : CtrlOp)
    (hthr : ∀ b, op = .threads b → ∀ c, P c → P { c with threads := b, playing := false, running := true })
    (c : Ctrl) (hc : P c) : P ((c.apply beh op).getD c) := by
  cases op with
  | step =>
    simp only [Ctrl.apply]
    split
    · exact hc
    · exact hP.doStep none c hc
  | play => exact hP.clickPlay c hc
  | reset => exact hP.doReset c hc
  | render n => exact hP.render c n hc
  | threads b =>
    simp only [Ctrl.apply]
    split
    · exact hc
    · exact hthr b rfl c hc
  | change name v => exact hP.change' c name v hc
  | loop evs => exact hP.playLoop evs c hc

theorem run : ∀ (ops : List CtrlOp),
    (∀ b, CtrlOp.threads b ∈ ops → ∀ c, P c → P { c with threads := b, playing := false, running := true }) →
    ∀ c, P c → P (c.run beh ops)
  | [], _, _, hc => hc
  | op :: ops, hthr, c, hc =>
    run ops (fun b hb => hthr b (List.mem_cons_of_mem _ hb)) _
      (hP.apply op (fun b hb => hthr b (hb ▸ List.mem_cons_self)) c hc)

end Ctrl.Inv

/-! ## "this model, not stepped back — or a later model" -/

/-- `c'` comes after `c`: a later model, or the same model with at least as many steps and the same arguments -/
def Ctrl.before (c c' : Ctrl) : Prop :=
  c.gen ≤ c'.gen ∧ (c'.gen = c.gen → c.steps ≤ c'.steps ∧ c'.kwargs = c.kwargs)

theorem Ctrl.before_refl (c : Ctrl) : c.before c := ⟨Nat.le_refl _, fun _ => ⟨Nat.le_refl _, rfl⟩⟩

theorem before_inv (beh : Behaviour) (c0 : Ctrl) : Ctrl.Inv beh c0.before where
  toggle _ h := h
  stepOnce hook i c h := by
    obtain ⟨hs, _, hst, _⟩ := stepOnce_spec beh hook i c
    refine ⟨hs.gen ▸ h.1, fun hg => ?_⟩
    have := h.2 (hs.gen ▸ hg)
    exact ⟨by omega, hs.kwargs.trans this.2⟩
  updates _ _ h := h
  doReset c h := by
    have hgen : (doReset beh c).gen = c.gen + 1 := rfl
    exact ⟨Nat.le_succ_of_le h.1, fun hg => absurd h.1 (by omega)⟩
  render _ _ h := h
  change _ _ _ _ h := h

theorem run_before (beh : Behaviour) (ops : List CtrlOp) (c : Ctrl) : c.before (c.run beh ops) :=
  (before_inv beh c).run ops (fun _ _ _ h => h) c c.before_refl

/-! ## the parameter set: its names never change; a model is created with the set as it then is -/

/-- the names of the parameter set are `names`, every input is one of them, and a model created by a reset got them all -/
def Ctrl.paramsInv (names : List String) (c : Ctrl) : Prop :=
  c.params.map (·.1) = names ∧ (∀ n ∈ c.inputs, n ∈ names) ∧ (0 < c.gen → c.kwargs.map (·.1) = names)

theorem paramsInv_inv (beh : Behaviour) (names : List String) : Ctrl.Inv beh (Ctrl.paramsInv names) where
  toggle _ h := h
  stepOnce hook i c h := by
    have hs := (stepOnce_spec beh hook i c).1
    exact ⟨hs.params ▸ h.1, hs.inputs ▸ h.2.1, fun hg => hs.kwargs ▸ h.2.2 (hs.gen ▸ hg)⟩
  updates _ _ h := h
  doReset _ h := ⟨h.1, h.2.1, fun _ => h.1⟩
  render _ _ h := h
  change c name v hn h := ⟨(onChange_keys c.params name v (h.1 ▸ h.2.1 name hn)).trans h.1, h.2.1, h.2.2⟩

theorem run_paramsInv (beh : Behaviour) (names : List String) (ops : List CtrlOp) (c : Ctrl) (h : c.paramsInv names) :
    (c.run beh ops).paramsInv names :=
  (paramsInv_inv beh names).run ops (fun _ _ _ h => h) c h

/-! ## the flag `running` is the model's, as long as the threads checkbox is left alone — except right after a reset -/

def CtrlOp.isThreads : CtrlOp → Bool
  | .threads _ => true
  | _ => false

/-- `mrunning` is what the model class says of this model after this many steps; the flag the buttons are drawn from is
    the model's — or the model has not been stepped yet and the flag is on (a reset, like the first render, sets the flag
    without looking at the model) -/
def Ctrl.flagInv (beh : Behaviour) (c : Ctrl) : Prop :=
  c.mrunning = beh c.kwargs c.steps ∧ (c.running = c.mrunning ∨ (c.steps = 0 ∧ c.running = true))

theorem flagInv_inv (beh : Behaviour) : Ctrl.Inv beh (Ctrl.flagInv beh) where
  toggle _ h := h
  stepOnce hook i c _ := let ⟨h1, h2⟩ := stepOnce_synced beh hook i c
  ⟨h2, Or.inl h1⟩
  updates _ _ h := h
  doReset _ _ := ⟨rfl, Or.inr ⟨rfl, rfl⟩⟩
  render _ _ h := h
  change _ _ _ _ h := h

theorem run_flagInv (beh : Behaviour) (ops : List CtrlOp) (c : Ctrl) (hops : ∀ op ∈ ops, op.isThreads = false)
    (h : c.flagInv beh) : (c.run beh ops).flagInv beh :=
  (flagInv_inv beh).run ops (fun b hb => absurd (hops _ hb) (by simp [CtrlOp.isThreads])) c h

theorem run_sim (beh : Behaviour) (ops : List CtrlOp) (c : Ctrl) : (c.run beh ops).sim = c.sim :=
  Ctrl.Inv.run (P := fun c' => c'.sim = c.sim)
    { toggle := fun _ h => h
      stepOnce := fun hook i c' h => (stepOnce_spec beh hook i c').1.sim.trans h
      updates := fun _ _ h => h
      doReset := fun _ h => h
      render := fun _ _ h => h
      change := fun _ _ _ _ h => h }
    ops (fun _ _ _ h => h) c rfl

/-! ## the play loop on a model that stops; a pause during a step -/

theorem playLoop_not_running (beh : Behaviour) (evs : List (Ev × Option Nat)) (c : Ctrl) (h : (c.running && c.playing) = false) :
    playLoop beh evs c = c := by
  cases evs with
  | nil => simp [playLoop, h]
  | cons e rest =>
    obtain ⟨ev, hook⟩ := e
    simp [playLoop, h]

theorem doStep_none (beh : Behaviour) (c : Ctrl) (hr : 0 < c.render) :
    doStep beh none c =
      { c with steps := c.steps + c.render, mrunning := beh c.kwargs (c.steps + c.render),
               running := beh c.kwargs (c.steps + c.render),
               updates := if c.playing && c.threads then c.updates else c.updates + 1 } := by
  obtain ⟨n, hn⟩ : ∃ n, c.render = n + 1 := ⟨c.render - 1, by omega⟩
  have h := stepLoop_none beh c.playing n 1 c id
  rw [← hn] at h
  rw [doStep_eq, h]

theorem doStep_none_steps (beh : Behaviour) (c : Ctrl) :
    (doStep beh none c).steps = c.steps + c.render ∧ (doStep beh none c).playing = c.playing ∧
    (doStep beh none c).updates = (if c.playing && c.threads then c.updates else c.updates + 1) := by
  obtain ⟨hs, hu, _⟩ := stepLoop_spec beh c.playing none c.render 1 c
  obtain ⟨g1, g2⟩ := stepLoop_none_steps beh c.playing c.render 1 c id
  rw [doStep_eq]
  exact ⟨g1, g2, by simp only [hs.threads, hu]⟩

theorem playLoop_idle_run (beh : Behaviour) (S : Nat) :
    ∀ (k n : Nat) (c : Ctrl), (∀ j, beh c.kwargs j = decide (j < S)) → c.playing = true → c.running = true →
      k + 1 ≤ n → c.steps + c.render * k < S → S ≤ c.steps + c.render * (k + 1) →
      playLoop beh (List.replicate n (Ev.idle, none)) c =
        { c with steps := c.steps + c.render * (k + 1), running := false, mrunning := false,
                 updates := if c.threads then c.updates else c.updates + (k + 1) }
  | k, 0, _, _, _, _, hn, _, _ => absurd hn (by omega)
  | k, n + 1, c, hbeh, hp, hr, hn, hlo, hhi => by
    have hr0 : 0 < c.render := by
      apply Nat.pos_of_ne_zero
      intro h0
      rw [h0, Nat.zero_mul] at hlo hhi
      omega
    -- one whole tick; then the model has stopped (`k = 0`) or the loop goes on from the stepped state
    simp only [List.replicate_succ, playLoop, hp, hr, Bool.and_self, if_true, applyEv]
    rw [doStep_none beh c hr0, hbeh]
    cases k with
    | zero =>
      have hstop : decide (c.steps + c.render < S) = false := by
        simp at hhi ⊢
        omega
      rw [hstop, playLoop_not_running beh _ _ rfl]
      simp only [hp, Bool.true_and, Nat.mul_one, Nat.zero_add]
    | succ k =>
      have hm1 : c.render * (k + 1) = c.render * k + c.render := Nat.mul_succ _ _
      have hm2 : c.render * (k + 1 + 1) = c.render * (k + 1) + c.render := Nat.mul_succ _ _
      have hgo : decide (c.steps + c.render < S) = true := by
        simp
        omega
      have hlo' : c.steps + c.render + c.render * k < S := by omega
      have hhi' : S ≤ c.steps + c.render + c.render * (k + 1) := by omega
      rw [hgo, playLoop_idle_run beh S k n
        { c with steps := c.steps + c.render, mrunning := true, running := true,
                 updates := if c.playing && c.threads then c.updates else c.updates + 1 }
        hbeh hp rfl (by omega) hlo' hhi']
      have e : c.steps + c.render + c.render * (k + 1) = c.steps + c.render * (k + 1 + 1) := by omega
      -- both sides are `c` with new steps, flags and updates: the steps agree by `e`, the updates by the threads option
      cases c.threads
      · simp [e, hp]
        omega
      · simp [e, hp]

theorem stepLoop_hook (beh : Behaviour) (j : Nat) :
    ∀ (d n i : Nat) (c : Ctrl), i + d = j → c.playing = true → c.running = true → d < n →
      (∀ k, 1 ≤ k → k ≤ d → beh c.kwargs (c.steps + k) = true) →
      (stepLoop beh true (some j) n i c).steps = c.steps + d + 1 ∧ (stepLoop beh true (some j) n i c).playing = false
  | _, 0, _, _, _, _, _, hn, _ => absurd hn (by omega)
  | 0, n + 1, i, c, hij, hp, hr, _, _ => by
    have hi : i = j := hij
    subst hi
    have h3 : (stepOnce beh (some i) i c).playing = false ∧ (stepOnce beh (some i) i c).steps = c.steps + 1 := by
      simp [stepOnce, Ctrl.modelStep, Ctrl.clickPlay, hr, hp]
    simp only [stepLoop, h3.1, Bool.not_false, Bool.and_self, if_true]
    exact ⟨by rw [h3.2], trivial⟩
  | d + 1, n + 1, i, c, hij, hp, hr, hn, hb => by
    have hne : ¬ (some j = some i) := by
      intro h
      injection h with h
      omega
    have h3 : (stepOnce beh (some j) i c).playing = true ∧ (stepOnce beh (some j) i c).steps = c.steps + 1 ∧
        (stepOnce beh (some j) i c).running = beh c.kwargs (c.steps + 1) ∧ (stepOnce beh (some j) i c).kwargs = c.kwargs := by
      simp [stepOnce, Ctrl.modelStep, hne, hp]
    obtain ⟨p3, s3, r3, k3⟩ := h3
    simp only [stepLoop, p3, Bool.not_true, Bool.and_false, Bool.false_eq_true, if_false]
    have ih := stepLoop_hook beh j d n (i + 1) (stepOnce beh (some j) i c) (by omega) p3
      (r3 ▸ hb 1 (Nat.le_refl _) (by omega)) (by omega)
      (by
        intro k h1 h2
        rw [k3, s3, Nat.add_assoc, Nat.add_comm 1 k]
        exact hb (k + 1) (by omega) (by omega))
    refine ⟨?_, ih.2⟩
    rw [ih.1, s3]
    omega

/-! ## the arguments of the model a reset creates: the parameter set with the values last reported -/

theorem lookup_onChange (p : Params) (n : String) (v : Val) (h : n ∈ p.map (·.1)) (name : String) :
    (onChange p n v).lookup name = if name = n then some (some v) else p.lookup name := by
  unfold onChange
  rw [if_pos (any_key_of_mem h), lookup_map_set]
  by_cases hn : name = n
  · subst hn
    obtain ⟨x, hx⟩ := Option.isSome_iff_exists.mp (lookup_isSome_of_mem h)
    simp [hx]
  · simp [hn]

/-- what the last of the `changes` that names `name` reported, if any does -/
def lastChange (changes : List (String × Val)) (name : String) : Option Val :=
  (changes.reverse.find? (·.1 == name)).map (·.2)

theorem lastChange_cons (ch : String × Val) (rest : List (String × Val)) (name : String) :
    lastChange (ch :: rest) name = match lastChange rest name with
      | some v => some v
      | none => if ch.1 == name then some ch.2 else none := by
  unfold lastChange
  rw [List.reverse_cons, List.find?_append]
  cases h : rest.reverse.find? (·.1 == name) with
  | some x => simp
  | none =>
    simp only [Option.none_or, Option.map_none, List.find?_cons, List.find?_nil]
    split <;> simp_all

theorem run_changes_reset (beh : Behaviour) (names : List String) :
    ∀ (changes : List (String × Val)) (c : Ctrl), c.paramsInv names → (∀ ch ∈ changes, ch.1 ∈ c.inputs) →
      let c' := c.run beh (changes.map (fun ch => CtrlOp.change ch.1 ch.2) ++ [.reset])
      c'.gen = c.gen + 1 ∧ c'.steps = 0 ∧ c'.playing = false ∧ c'.running = true ∧ c'.mrunning = beh c'.kwargs 0 ∧
      c'.kwargs.map (·.1) = names ∧
      ∀ name, c'.kwargs.lookup name = match lastChange changes name with
        | some v => some (some v)
        | none => c.params.lookup name
  | [], c, hi, _ => by
    simp only [List.map_nil, List.nil_append, Ctrl.run, Ctrl.apply, Option.getD_some, doReset]
    refine ⟨trivial, trivial, trivial, trivial, trivial, hi.1, fun name => ?_⟩
    simp [lastChange]
  | ch :: rest, c, hi, hin => by
    have hmem : ch.1 ∈ c.inputs := hin ch List.mem_cons_self
    have happ : c.apply beh (.change ch.1 ch.2) = some { c with params := onChange c.params ch.1 ch.2 } := by
      simp [Ctrl.apply, Ctrl.change, hmem]
    have hi' := (paramsInv_inv beh names).change c ch.1 ch.2 hmem hi
    have ih := run_changes_reset beh names rest { c with params := onChange c.params ch.1 ch.2 } hi'
      (fun x hx => hin x (List.mem_cons_of_mem _ hx))
    simp only [List.map_cons, List.cons_append, Ctrl.run, happ, Option.getD_some]
    simp only at ih
    obtain ⟨i1, i2, i3, i4, i5, i6, i7⟩ := ih
    refine ⟨i1, i2, i3, i4, i5, i6, fun name => ?_⟩
    rw [i7 name, lastChange_cons]
    cases lastChange rest name with
    | some v => rfl
    | none =>
      have hpm : ch.1 ∈ c.params.map (·.1) := by
        rw [hi.1]
        exact hi.2.1 _ hmem
      simp only [lookup_onChange c.params ch.1 ch.2 hpm name]
      by_cases hn : name = ch.1
      · subst hn
        simp
      · have : (ch.1 == name) = false := by simpa using (Ne.symm hn)
        simp [hn, this]

end Mesa.Viz
