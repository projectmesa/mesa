import MesaModel.Model.VizNet
import MesaModel.Proofs.VizSize
import MesaModel.Proofs.VizLookupAll
/-!
Helper lemmas for `draw_network` with a caller-supplied layout (`Model/VizNet.lean`).
-/
namespace Mesa.Viz

/-- the marker of an entry under a layout: at the position registered under the label of its node -/
def placeBy (ly : Layout) (e : Entry) : Option Entry := (ly.lookup e.loc.x).map fun pos => { e with loc := pos }

theorem relocate_eq (ly : Layout) : ∀ (es : List Entry),
    relocate ly es = lookupAll ly (·.loc.x) NetErr.key (fun e pos => { e with loc := pos }) es
  | [] => rfl
  | e :: es => by
    unfold relocate lookupAll
    rw [relocate_eq ly es]
    generalize lookupAll ly _ _ _ es = r
    cases ly.lookup e.loc.x
    · rfl
    · cases r <;> rfl

theorem relocate_ok_iff (ly : Layout) (es es' : List Entry) :
    relocate ly es = .ok es' ↔ es.map (placeBy ly) = es'.map some := by
  rw [relocate_eq]
  exact lookupAll_ok_iff es es'

theorem relocate_error_iff (ly : Layout) (es : List Entry) (n : Int) :
    relocate ly es = .error (.key n) ↔
      ∃ before e after, es = before ++ e :: after ∧ e.loc.x = n ∧ ly.lookup n = none ∧
        ∀ b ∈ before, (ly.lookup b.loc.x).isSome := by
  rw [relocate_eq]
  exact lookupAll_error_iff (fun _ _ => NetErr.key.inj) es n

theorem relocate_error_key {ly : Layout} {es : List Entry} {err : NetErr} (h : relocate ly es = .error err) :
    ∃ n, err = .key n := by
  rw [relocate_eq] at h
  obtain ⟨_, x, _, _, he, _⟩ := lookupAll_error h
  exact ⟨_, he⟩

theorem drawNetwork_eq {sp : Space} (hw : sp.WF) (heap : Heap) (p : Portrayal) {ly : Layout} (hne : ly ≠ []) :
    drawNetwork sp heap p ly =
      match relocate ly ((spaceAgents sp).filterMap (entryOf drawDefaults heap p)) with
      | .error err => .error err
      | .ok es' => .ok ⟨scatter es', layoutSize ly⟩ := by
  unfold drawNetwork
  rw [if_neg (by simpa using hne), collect_eq_filterMap drawDefaults heap p _ (spaceAgents_located hw)]
  rfl

theorem drawNetwork_value_iff (sp : Space) (heap : Heap) (p : Portrayal) (ly : Layout) :
    drawNetwork sp heap p ly = .error .value ↔ ly = [] := by
  unfold drawNetwork
  cases ly with
  | nil => simp
  | cons a rest =>
    simp only [List.isEmpty_cons, Bool.false_eq_true, if_false]
    cases collectAgentData drawDefaults heap p (spaceAgents sp) with
    | none => simp
    | some es =>
      simp only
      cases hr : relocate (a :: rest) es with
      | ok es' => simp
      | error err =>
        obtain ⟨n, rfl⟩ := relocate_error_key hr
        exact ⟨fun h => (nomatch h), fun h => (nomatch h)⟩

end Mesa.Viz
