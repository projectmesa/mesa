import MesaModel.Proofs.Devs
/-!
The order of execution inside one `run_until`, nested scheduling included.

`runUntilT` is `runUntil` that also returns what it executed: every popped live event together with the value of the id
counter at the moment it was popped.  Ids are handed out in scheduling order, so `n ≤ e'.id` says "`e'` was scheduled after
that pop".  `runUntilT_traced` (field `ordered`): of two events executed in one run, the earlier one has the smaller
(time, priority, id) key — unless the later one was scheduled only after the earlier one had been popped.
-/
namespace Mesa.Devs

/-- `run_until` with its trace: the events executed, each with `nextId` at its pop -/
def runUntilT : Nat → Sim → Int → Option (Sim × List (Ev × Nat))
  | 0, _, _ => none
  | f+1, s, T =>
    match popLive s.pending with
    | none => some ({ s with now := T, pending := [], gone := s.gone ++ (skipped s.pending).map (·.id) }, [])
    | some (e, rest) =>
      let g := s.gone ++ (skipped s.pending).map (·.id)
      if e.time ≤ T then
        let s' := exec { s with now := e.time, pending := rest, gone := g } e
        if s'.raised.isSome then some (s', [(e, s.nextId)])
        else
          match runUntilT f s' T with
          | some (s'', tr) => some (s'', (e, s.nextId) :: tr)
          | none => none
      else some ({ s with now := T, pending := insert e rest, gone := g }, [])

theorem runUntilT_none {f : Nat} {s : Sim} {T : Int} (hp : popLive s.pending = none) :
    runUntilT (f+1) s T = some (stopped s T, []) := by
  simp only [runUntilT, hp]

theorem runUntilT_late {f : Nat} {s : Sim} {T : Int} {e : Ev} {rest : List Ev} (hp : popLive s.pending = some (e, rest))
    (hT : ¬ e.time ≤ T) :
    runUntilT (f+1) s T = some (pushedBack s e rest T, []) := by
  simp only [runUntilT, hp, hT, if_false, pushedBack, popped]

theorem runUntilT_due_raised {f : Nat} {s : Sim} {T : Int} {e : Ev} {rest : List Ev} {x : Exc}
    (hp : popLive s.pending = some (e, rest)) (hT : e.time ≤ T) (hx : (exec (popped s e rest) e).raised = some x) :
    runUntilT (f+1) s T = some (exec (popped s e rest) e, [(e, s.nextId)]) := by
  simp only [popped] at hx
  simp only [runUntilT, hp, hT, if_true, popped, hx, Option.isSome_some]

theorem runUntilT_due {f : Nat} {s : Sim} {T : Int} {e : Ev} {rest : List Ev} (hp : popLive s.pending = some (e, rest))
    (hT : e.time ≤ T) (hx : (exec (popped s e rest) e).raised = none) :
    runUntilT (f+1) s T = (runUntilT f (exec (popped s e rest) e) T).map fun p => (p.1, (e, s.nextId) :: p.2) := by
  simp only [popped] at hx
  simp only [runUntilT, hp, hT, if_true, popped, hx, Option.isSome_none, Bool.false_eq_true, if_false]
  cases runUntilT f _ T <;> rfl

/-- The loop of the traced run as a proof rule.  `P` is a loop invariant; a relation `R` between start state, end state and
    trace holds of the run when it holds at each exit and is carried back over an executed event that did not raise. -/
theorem runUntilT_loop {P : Sim → Prop} {R : Sim → Sim → List (Ev × Nat) → Prop} {T : Int}
    (stop : ∀ s, P s → popLive s.pending = none → R s (stopped s T) [])
    (late : ∀ s e r, P s → popLive s.pending = some (e, r) → ¬ e.time ≤ T → R s (pushedBack s e r T) [])
    (abort : ∀ s e r x, P s → popLive s.pending = some (e, r) → e.time ≤ T → (exec (popped s e r) e).raised = some x →
      R s (exec (popped s e r) e) [(e, s.nextId)])
    (step : ∀ s e r, P s → popLive s.pending = some (e, r) → e.time ≤ T → (exec (popped s e r) e).raised = none →
      P (exec (popped s e r) e) ∧ ∀ s' tr, R (exec (popped s e r) e) s' tr → R s s' ((e, s.nextId) :: tr))
    {f : Nat} {s s' : Sim} {tr : List (Ev × Nat)} (h : P s) (hr : runUntilT f s T = some (s', tr)) : R s s' tr := by
  induction f generalizing s tr with
  | zero => simp [runUntilT] at hr
  | succ f ih =>
    cases hp : popLive s.pending with
    | none =>
      rw [runUntilT_none hp] at hr
      cases hr
      exact stop s h hp
    | some q =>
      obtain ⟨e, r⟩ := q
      by_cases hT : e.time ≤ T
      · cases hx : (exec (popped s e r) e).raised with
        | some x =>
          rw [runUntilT_due_raised hp hT hx] at hr
          cases hr
          exact abort s e r x h hp hT hx
        | none =>
          rw [runUntilT_due hp hT hx] at hr
          cases h1 : runUntilT f (exec (popped s e r) e) T with
          | none => simp [h1] at hr
          | some q =>
            obtain ⟨s₁, tr₁⟩ := q
            simp only [h1, Option.map_some, Option.some.injEq, Prod.mk.injEq] at hr
            obtain ⟨rfl, rfl⟩ := hr
            exact (step s e r h hp hT hx).2 _ _ (ih (step s e r h hp hT hx).1 h1)
      · rw [runUntilT_late hp hT] at hr
        cases hr
        exact late s e r h hp hT

theorem runUntilT_erase (f : Nat) (s : Sim) (T : Int) : (runUntilT f s T).map (·.1) = runUntil f s T := by
  induction f generalizing s with
  | zero => rfl
  | succ f ih =>
    cases hp : popLive s.pending with
    | none =>
      rw [runUntilT_none hp, runUntil_none hp]
      rfl
    | some p =>
      obtain ⟨e, rest⟩ := p
      by_cases hT : e.time ≤ T
      · cases hx : (exec (popped s e rest) e).raised with
        | some x =>
          rw [runUntilT_due_raised hp hT hx, runUntil_due_raised hp hT hx]
          rfl
        | none =>
          rw [runUntilT_due hp hT hx, runUntil_due hp hT hx, ← ih]
          cases runUntilT f (exec (popped s e rest) e) T <;> rfl
      · rw [runUntilT_late hp hT, runUntil_late hp hT]
        rfl

theorem runUntilT_of_runUntil {f : Nat} {s s' : Sim} {T : Int} (h : runUntil f s T = some s') :
    ∃ tr, runUntilT f s T = some (s', tr) := by
  obtain ⟨⟨_, tr⟩, h1, rfl⟩ := Option.map_eq_some_iff.mp ((runUntilT_erase f s T).trans h)
  exact ⟨tr, h1⟩

/-- what an executed event leaves in the log -/
def logOf (e : Ev) : List LogEntry :=
  if e.dead then [] else if e.isStep then [.step e.id e.time] else [.user e.id e.tag e.time]

theorem entryOf_popped (s : Sim) (e : Ev) (rest : List Ev) : entryOf (popped s e rest) e = logOf e := rfl

/-- for a user event, `logged` (the form `C14_upfront_events_run_in_sorted_order` uses) is the one entry of `logOf`, if any -/
theorem logOf_user {e : Ev} (h : e.isStep = false) : logOf e = (logged e).toList := by
  unfold logOf logged
  cases e.dead <;> simp [h]

theorem runUntilT_log {f : Nat} {s s' : Sim} {T : Int} {tr : List (Ev × Nat)} (h : runUntilT f s T = some (s', tr)) :
    s'.log = s.log ++ tr.flatMap (fun y => logOf y.1) := by
  refine runUntilT_loop (P := fun _ => True) (R := fun s s' tr => s'.log = s.log ++ tr.flatMap (fun y => logOf y.1))
    (fun _ _ _ => by simp) (fun _ _ _ _ _ _ => by simp [popped]) (fun s e r _ _ _ _ _ => ?_)
    (fun s e r _ _ _ _ => ⟨trivial, fun s' tr h => ?_⟩) trivial h
  · rw [exec_log, entryOf_popped]
    simp [popped]
  · rw [h, exec_log, entryOf_popped]
    simp [popped]

/-! ### where the events of a later state come from -/

def SameKey (x y : Ev) : Prop := y.time = x.time ∧ y.prio = x.prio ∧ y.id = x.id

theorem SameKey.refl (x : Ev) : SameKey x x := ⟨rfl, rfl, rfl⟩

theorem SameKey.trans {x y z : Ev} (h1 : SameKey x y) (h2 : SameKey y z) : SameKey x z :=
  ⟨h2.1.trans h1.1, h2.2.1.trans h1.2.1, h2.2.2.trans h1.2.2⟩

/-- every pending event of `s` is (up to its flags) a pending event of `s₀` or was scheduled after `s₀` -/
def Origin (s₀ s : Sim) : Prop :=
  (∀ x ∈ s.pending, (∃ x₀ ∈ s₀.pending, SameKey x₀ x) ∨ s₀.nextId ≤ x.id) ∧ s₀.nextId ≤ s.nextId

theorem Origin.refl (s : Sim) : Origin s s := ⟨fun x hx => Or.inl ⟨x, hx, SameKey.refl x⟩, Nat.le_refl _⟩

/-- an event that comes from `b`'s list or was scheduled after `b` comes from `a`'s list or was scheduled after `a` -/
theorem Origin.desc {a b : Sim} (ho : Origin a b) {y : Ev} (h : (∃ x ∈ b.pending, SameKey x y) ∨ b.nextId ≤ y.id) :
    (∃ x ∈ a.pending, SameKey x y) ∨ a.nextId ≤ y.id := by
  rcases h with ⟨x, hx, hk⟩ | hge
  · rcases ho.1 x hx with ⟨x₀, hx₀, hk₀⟩ | hge
    · exact Or.inl ⟨x₀, hx₀, hk₀.trans hk⟩
    · exact Or.inr (hk.2.2 ▸ hge)
  · exact Or.inr (Nat.le_trans ho.2 hge)

theorem Origin.trans {a b c : Sim} (h1 : Origin a b) (h2 : Origin b c) : Origin a c :=
  ⟨fun x hx => h1.desc (h2.1 x hx), Nat.le_trans h1.2 h2.2⟩

/-- what precedes everything on `a`'s list, or was popped before `a`'s ids were handed out, precedes in the same sense
    whatever comes from `a`'s list or was scheduled after `a` -/
theorem ahead_desc {a : Sim} {x y : Ev} {n : Nat} (hax : ∀ z ∈ a.pending, x.lt z = true ∨ n ≤ z.id) (hn : n ≤ a.nextId)
    (h : (∃ z ∈ a.pending, SameKey z y) ∨ a.nextId ≤ y.id) : x.lt y = true ∨ n ≤ y.id := by
  rcases h with ⟨z, hz, hk⟩ | hge
  · rcases hax z hz with hlt | hle
    · exact Or.inl ((Ev.lt_congr ⟨rfl, rfl, rfl⟩ hk).trans hlt)
    · exact Or.inr (hk.2.2 ▸ hle)
  · exact Or.inr (Nat.le_trans hn hge)

/-- one more event, with an id not below the counter -/
theorem insert_origin {s s' : Sim} {e : Ev} (hp : s'.pending = insert e s.pending) (hid : s.nextId ≤ e.id)
    (hn : s.nextId ≤ s'.nextId) : Origin s s' := by
  refine ⟨fun x hx => ?_, hn⟩
  rw [hp] at hx
  rcases mem_insert.mp hx with rfl | hx
  · exact Or.inr hid
  · exact Or.inl ⟨x, hx, SameKey.refl x⟩

theorem mapFlags_origin (s : Sim) (g : Ev → Ev) (hg : ∀ e, SameKey e (g e)) :
    Origin s { s with pending := s.pending.map g } := by
  refine ⟨?_, Nat.le_refl _⟩
  intro x hx
  obtain ⟨y, hy, rfl⟩ := List.mem_map.mp hx
  exact Or.inl ⟨y, hy, hg y⟩

theorem Origin.of_eq {a b : Sim} (hp : b.pending = a.pending) (hn : b.nextId = a.nextId) : Origin a b :=
  ⟨fun x hx => Or.inl ⟨x, hp ▸ hx, SameKey.refl x⟩, Nat.le_of_eq hn.symm⟩

theorem doCmd1_origin (s : Sim) (c : Cmd) : Origin s (doCmd1 s c) :=
  doCmd1_induct c (.refl s) (fun _ _ _ _ _ _ => insert_origin rfl (Nat.le_refl _) (Nat.le_succ _))
    (fun _ _ => mapFlags_origin s _ (fun e => by split <;> exact ⟨rfl, rfl, rfl⟩))
    (fun _ _ => let o := mapFlags_origin s _ (fun e => by split <;> exact ⟨rfl, rfl, rfl⟩); ⟨o.1, o.2⟩)
    (fun _ _ => .of_eq rfl rfl)

theorem doCmd_origin (s : Sim) (c : Cmd) : Origin s (doCmd s c) :=
  foldl_doCmd_induct [c] (.refl s) (fun s' c _ h => h.trans (doCmd1_origin s' c))

theorem rearm_origin (s : Sim) : Origin s (rearm s) := by
  unfold rearm
  split
  · exact insert_origin rfl (Nat.le_refl _) (Nat.le_succ _)
  · exact Origin.refl s

theorem exec_origin (s : Sim) (e : Ev) : Origin s (exec s e) :=
  exec_induct (fun s' c _ h => h.trans (doCmd1_origin s' c)) (fun _ => .of_eq rfl rfl)
    (fun _ _ => (rearm_origin s).trans (.of_eq rfl rfl)) (fun _ _ => .of_eq rfl rfl)

/-! ### the trace of a run

`Traced s s' tr`: going from `s` to `s'` executed `tr` (events paired with the id counter at their pop) such that
* every event pending at the end was pending at the start (up to flags) or was scheduled on the way (`origin`),
* so was every executed event (`born`),
* the trace is ordered: of two executed events the earlier has the smaller (time, priority, id) key unless the later one was
  scheduled after the earlier one had been popped (`ordered`),
* every executed event precedes, in that sense, everything still pending at the end (`ahead`) — which is what makes traces compose.
-/

structure Traced (s s' : Sim) (tr : List (Ev × Nat)) : Prop where
  origin : Origin s s'
  born : ∀ y ∈ tr, (∃ x₀ ∈ s.pending, SameKey x₀ y.1) ∨ s.nextId ≤ y.1.id
  ordered : tr.Pairwise (fun x y => x.1.lt y.1 = true ∨ x.2 ≤ y.1.id)
  ahead : ∀ x ∈ tr, (∀ z ∈ s'.pending, x.1.lt z = true ∨ x.2 ≤ z.id) ∧ x.2 ≤ s'.nextId

theorem Traced.of_origin {s s' : Sim} (h : Origin s s') : Traced s s' [] :=
  ⟨h, by simp, List.Pairwise.nil, by simp⟩

theorem Traced.trans {s s₁ s' : Sim} {tr₁ tr₂ : List (Ev × Nat)} (h₁ : Traced s s₁ tr₁) (h₂ : Traced s₁ s' tr₂) :
    Traced s s' (tr₁ ++ tr₂) := by
  refine ⟨h₁.origin.trans h₂.origin, fun y hy => ?_, ?_, fun x hx => ?_⟩
  · exact (List.mem_append.mp hy).elim (h₁.born y) fun hy => h₁.origin.desc (h₂.born y hy)
  · exact List.pairwise_append.mpr ⟨h₁.ordered, h₂.ordered, fun x hx y hy =>
      ahead_desc (h₁.ahead x hx).1 (h₁.ahead x hx).2 (h₂.born y hy)⟩
  · rcases List.mem_append.mp hx with hx | hx
    · obtain ⟨hax, hnx⟩ := h₁.ahead x hx
      exact ⟨fun z hz => ahead_desc hax hnx (h₂.origin.1 z hz), Nat.le_trans hnx h₂.origin.2⟩
    · exact h₂.ahead x hx

theorem traced_popExec {s : Sim} (hw : WF s) {e : Ev} {rest : List Ev} (hp : popLive s.pending = some (e, rest)) :
    Traced s (exec (popped s e rest) e) [(e, s.nextId)] := by
  obtain ⟨_, hlt, _⟩ := popLive_spec hw.sorted hp
  obtain ⟨hme, hmr⟩ := popLive_mem hp
  have hpo : Origin s (popped s e rest) := ⟨fun x hx => Or.inl ⟨x, hmr x hx, SameKey.refl x⟩, Nat.le_refl _⟩
  have heo := exec_origin (popped s e rest) e
  refine ⟨hpo.trans heo, fun y hy => ?_, List.pairwise_singleton _ _, fun x hx => ?_⟩
  · cases List.mem_singleton.mp hy
    exact Or.inl ⟨e, hme, SameKey.refl e⟩
  · cases List.mem_singleton.mp hx
    exact ⟨fun z hz => ahead_desc (a := popped s e rest) (fun z hz => Or.inl (hlt z hz)) (Nat.le_refl _) (heo.1 z hz), heo.2⟩

theorem runUntilT_traced {f : Nat} {s s' : Sim} {T : Int} {tr : List (Ev × Nat)} (hw : WF s)
    (h : runUntilT f s T = some (s', tr)) : Traced s s' tr :=
  runUntilT_loop (P := WF) (R := Traced) (fun _ _ _ => .of_origin ⟨nofun, Nat.le_refl _⟩)
    (fun _ _ _ _ hp _ =>
      .of_origin ⟨fun x hx => Or.inl ⟨x, (popLive_mem_iff hp).mpr (Or.inr hx), .refl x⟩, Nat.le_refl _⟩)
    (fun _ _ _ _ hw hp _ _ => traced_popExec hw hp)
    (fun _ e _ hw hp _ _ => ⟨exec_wf (popped_wf hw hp) e, fun _ _ h => (traced_popExec hw hp).trans h⟩) hw h

/-- the recorded number really is the id counter at the pop: the popped event itself is older -/
theorem runUntilT_popped {f : Nat} {s s' : Sim} {T : Int} {tr : List (Ev × Nat)} (hw : WF s)
    (h : runUntilT f s T = some (s', tr)) : ∀ y ∈ tr, y.1.id < y.2 ∧ y.1.cancelled = false ∧ y.1.time ≤ T := by
  have first : ∀ {s : Sim} {e : Ev} {r : List Ev}, WF s → popLive s.pending = some (e, r) → e.time ≤ T →
      e.id < s.nextId ∧ e.cancelled = false ∧ e.time ≤ T :=
    fun hw hp hT => ⟨hw.idlt _ (popLive_mem hp).1, (popLive_decomp hp).2, hT⟩
  exact runUntilT_loop (P := WF) (R := fun _ _ tr => ∀ y ∈ tr, y.1.id < y.2 ∧ y.1.cancelled = false ∧ y.1.time ≤ T)
    (fun _ _ _ => nofun) (fun _ _ _ _ _ _ => nofun)
    (fun _ _ _ _ hw hp hT _ y hy => List.mem_singleton.mp hy ▸ first hw hp hT)
    (fun _ e _ hw hp hT _ => ⟨exec_wf (popped_wf hw hp) e, fun _ _ h y hy =>
      (List.mem_cons.mp hy).elim (fun he => he ▸ first hw hp hT) (h y)⟩) hw h

end Mesa.Devs
