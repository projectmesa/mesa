import MesaModel.Proofs.CellSpace
import MesaModel.Proofs.CellGen
/-!
Helper lemmas for the exact-outcome theorems of `Props/C06.lean` (`C06_select_random_empty_exact`, `C06_remove_leaves_cell`,
`C06_clear_cell`): the rejection-sampling loop as "first drawn cell that is empty", and what `remove()` does.
-/
namespace Mesa.Cells

/-- the cells a draw script names, in order (`random.choice(cells)` for each draw) -/
def drawn (cells : List Cid) (draws : List Nat) : List Cid := draws.filterMap (draw cells)

theorem tryRandomLoop_eq (s : State) (cells : List Cid) (hne : cells ≠ []) (draws : List Nat) :
    tryRandomLoop s cells draws =
      match (drawn cells draws).find? (isEmpty s) with
      | some c => .okCell c
      | none => .err .script := by
  have hdraw : ∀ d, ∃ c, draw cells d = some c := by
    intro d
    have hpos : 0 < cells.length := List.length_pos_iff.mpr hne
    exact ⟨cells[d % cells.length]'(Nat.mod_lt _ hpos), by simp [draw, Nat.mod_lt _ hpos]⟩
  induction draws with
  | nil => simp [tryRandomLoop, drawn]
  | cons d ds ih =>
    obtain ⟨c, hc⟩ := hdraw d
    simp only [tryRandomLoop, hc, drawn, List.filterMap_cons, List.find?_cons]
    by_cases he : isEmpty s c = true
    · simp [he]
    · have he' : isEmpty s c = false := by simpa using he
      simp only [he', Bool.false_eq_true, if_false]
      exact ih

theorem tryRandomLoop_ok {s : State} {cells : List Cid} {draws : List Nat} {c : Cid}
    (h : tryRandomLoop s cells draws = .okCell c) : c ∈ cells ∧ isEmpty s c = true := by
  induction draws with
  | nil => cases h
  | cons d ds ih =>
    simp only [tryRandomLoop] at h
    split at h
    · cases h
    · rename_i c0 hd
      split at h
      · rename_i he
        cases h
        exact ⟨draw_mem hd, he⟩
      · exact ih h

theorem step_remove_mobile_ok {sp : Space} {B : Cid → Nat} {s : State} (h : InvB sp B s) {a : Aid} {k : AKind}
    (hk : s.kinds[a]? = some k) (hfix : k ≠ .fixed) : (step sp s (.remove a)).2 = .ok := by
  rw [step_remove_mobile hk hfix,
    setCellMobile_none (s := { s with registry := s.registry.erase a }) fun o ho => h.mobile_mem hk hfix ho]

theorem step_remove_listed_ok {sp : Space} {B : Cid → Nat} {s : State} (h : InvB sp B s) {a : Aid} {c : Cid}
    (hm : a ∈ s.occ c) : (step sp s (.remove a)).2 = .ok := by
  have hc := h.mem_cell a c hm
  obtain ⟨k, hk⟩ : ∃ k, s.kinds[a]? = some k := ⟨s.kinds[a]'(h.known a c hc), by simp [h.known a c hc]⟩
  by_cases hfix : k = .fixed
  · subst hfix
    rw [step_remove_fixed hk, hc]
    simp only [hm, if_true]
  · exact step_remove_mobile_ok h hk hfix

theorem step_remove_ok {sp : Space} {B : Cid → Nat} {s : State} (h : InvB sp B s) {a : Aid}
    (hok : (step sp s (.remove a)).2 = .ok) :
    (∀ c, (step sp s (.remove a)).1.occ c = (s.occ c).erase a) ∧
    (step sp s (.remove a)).1.registry = s.registry.erase a := by
  cases hk : s.kinds[a]? with
  | none =>
    simp only [step, hk] at hok
    cases hok
  | some k =>
    by_cases hfix : k = .fixed
    · subst hfix
      rw [step_remove_fixed hk] at hok ⊢
      cases ho : s.cellOf a with
      | none =>
        rw [ho] at hok
        cases hok
      | some c =>
        rw [ho] at hok
        simp only at hok ⊢
        split
        · exact ⟨unplace_occ h ho, rfl⟩
        · rename_i hm
          rw [if_neg hm] at hok
          cases hok
    · rw [step_remove_mobile hk hfix,
        setCellMobile_none (s := { s with registry := s.registry.erase a }) fun o ho => h.mobile_mem hk hfix ho]
      exact ⟨leave_occ (inv_deregister h a) a, leave_registry _ a⟩

end Mesa.Cells
