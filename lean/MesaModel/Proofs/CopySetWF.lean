import MesaModel.Proofs.CopySet
/-! Every operation of `Model/CopySet.lean` preserves well-formedness (all identities below `next`). -/
namespace Mesa.CopySet

variable {w : World}

theorem WF.of_le {w w' : World} (hw : WF w) (hn : w.next ≤ w'.next)
    (ha : ∀ i ar, w'.agents i = some ar → w.agents i = some ar ∨ (i < w'.next ∧ ar.model < w'.next))
    (hm : ∀ i mr, w'.models i = some mr → w.models i = some mr ∨ (i < w'.next ∧ mr.gen < w'.next ∧ ∀ a ∈ mr.reg, a < w'.next))
    (hs : ∀ i r, w'.sets i = some r → w.sets i = some r ∨
      (i < w'.next ∧ r.gen < w'.next ∧ (∀ a ∈ r.members, a < w'.next) ∧ ∀ m ∈ r.owners, m < w'.next))
    (hi : ∀ t ∈ w'.setIds, t ∈ w.setIds ∨ t < w'.next) : WF w' := by
  have up : ∀ {x}, x < w.next → x < w'.next := fun hx => Nat.lt_of_lt_of_le hx hn
  refine ⟨fun i ar h => (ha i ar h).elim (fun h => ?_) id, fun i mr h => (hm i mr h).elim (fun h => ?_) id,
    fun i r h => (hs i r h).elim (fun h => ?_) id, fun t ht => (hi t ht).elim (fun h => ?_) id⟩
  · exact ⟨up (hw.agentsLt i ar h).1, up (hw.agentsLt i ar h).2⟩
  · obtain ⟨h1, h2, h3⟩ := hw.modelsLt i mr h
    exact ⟨up h1, up h2, fun a ha => up (h3 a ha)⟩
  · obtain ⟨h0, h1, h2, h3⟩ := hw.setsLt i r h
    exact ⟨up h0, up h1, fun a ha => up (h2 a ha), fun a ha => up (h3 a ha)⟩
  · exact up (hw.setIdsLt t h)

theorem setIds_append {n : Nat} {l : List Nat} {k : Nat} (hk : k < n) : ∀ t ∈ l ++ [k], t ∈ l ∨ t < n := by
  intro t ht
  rcases List.mem_append.mp ht with ht | ht
  · exact .inl ht
  · exact .inr (List.mem_singleton.mp ht ▸ hk)

theorem map_add_lt {l : List Nat} {n : Nat} (B : Nat) (h : ∀ a ∈ l, a < n) : ∀ a ∈ l.map (· + B), a < n + B := by
  intro a ha
  obtain ⟨a0, ha0, rfl⟩ := List.mem_map.mp ha
  exact Nat.add_lt_add_right (h a0 ha0) B

theorem WF.newModel (hw : WF w) (sc : List Nat) : WF (newModel w sc).1 :=
  hw.of_le (Nat.le_add_right _ 2) (fun _ _ => .inl)
    (upd_cases ⟨Nat.lt_succ_self _, Nat.lt_succ_of_lt (Nat.lt_succ_self _), by simp⟩)
    (fun _ _ => .inl) (fun _ => .inl)

theorem agentAlive_lt (hw : WF w) {a : Nat} (h : agentAlive w a = true) : a < w.next := by
  obtain ⟨ar, _, har, _⟩ := agentAlive_some h
  exact (hw.agentsLt a ar har).1

theorem WF.members_lt (hw : WF w) {t : Nat} {r : SetRec} (hr : w.sets t = some r) : ∀ a ∈ r.members, a < w.next :=
  (hw.setsLt t r hr).2.2.1

/-- the generators are arbitrary: `WF` does not read them -/
theorem WF.setMembers (hw : WF w) {t : Nat} {r : SetRec} (hr : w.sets t = some r) {l : List Nat}
    (hl : ∀ x ∈ l, x < w.next) (gens : Nat → Option Rng) :
    WF { w with sets := upd w.sets t { r with members := l }, gens := gens } :=
  have ⟨h0, h1, _, h3⟩ := hw.setsLt t r hr
  hw.of_le (Nat.le_refl _) (fun _ _ => .inl) (fun _ _ => .inl) (upd_cases ⟨h0, h1, hl, h3⟩) (fun _ => .inl)

theorem copiedM_lt (hw : WF w) {r : SetRec} : ∀ m ∈ copiedM w r, m < w.next := by
  intro m hm
  obtain ⟨a, _, ar, har, rfl⟩ := mem_copiedM.mp hm
  exact (hw.agentsLt a ar har).2

theorem WF.copyWorld (hw : WF w) {t : Nat} {r : SetRec} (hr : w.sets t = some r) (k : Bool) : WF (copyWorld w t r k) := by
  obtain ⟨h0, h1, h2, _⟩ := hw.setsLt t r hr
  apply hw.of_le (Nat.le_add_right _ _)
  · intro i ar' h
    rcases copyWorld_agents_cases h with ⟨_, h⟩ | ⟨a, ar, rfl, _, har, rfl⟩
    · exact .inl h
    · obtain ⟨ha1, ha2⟩ := hw.agentsLt a ar har
      exact .inr ⟨Nat.add_lt_add_right ha1 _, Nat.add_lt_add_right ha2 _⟩
  · intro i mr' h
    rcases copyWorld_models_cases h with ⟨_, h⟩ | ⟨m, mr, rfl, _, hmr, rfl⟩
    · exact .inl h
    · obtain ⟨hm1, hm2, hm3⟩ := hw.modelsLt m mr hmr
      exact .inr ⟨Nat.add_lt_add_right hm1 _, Nat.add_lt_add_right hm2 _, map_add_lt _ hm3⟩
  · refine upd_cases ⟨Nat.add_lt_add_right h0 _, Nat.add_lt_add_right h1 _,
      map_add_lt _ fun a ha => h2 a (mem_aliveMembers.mp ha).1, ?_⟩
    cases k
    · simp
    · exact map_add_lt _ (copiedM_lt hw)
  · exact setIds_append (Nat.add_lt_add_right h0 _)

theorem WF.step (hw : WF w) : ∀ op, WF (step w op) := by
  refine step_cases (M := fun _ w' => WF w') w (fun _ => hw) hw.newModel
    ?create ?remove ?setW ?mkSet ?add ?discard ?sortW ?shuffle (fun _ _ hr => hw.copyWorld hr true)
  case create =>
    intro m v mr _ hmr
    obtain ⟨hm1, hm2, hm3⟩ := hw.modelsLt m mr hmr
    refine hw.of_le (Nat.le_succ _) (upd_cases ⟨Nat.lt_succ_self _, Nat.lt_succ_of_lt hm1⟩)
      (upd_cases ⟨Nat.lt_succ_of_lt hm1, Nat.lt_succ_of_lt hm2, ?_⟩) (fun _ _ => .inl) (fun _ => .inl)
    intro a ha
    rcases List.mem_append.mp ha with ha | ha
    · exact Nat.lt_succ_of_lt (hm3 a ha)
    · exact List.mem_singleton.mp ha ▸ Nat.lt_succ_self _
  case remove =>
    intro a ar mr _ _ hmr
    obtain ⟨hm1, hm2, hm3⟩ := hw.modelsLt _ mr hmr
    exact hw.of_le (Nat.le_refl _) (fun _ _ => .inl)
      (upd_cases ⟨hm1, hm2, fun x hx => hm3 x (List.mem_of_mem_erase hx)⟩) (fun _ _ => .inl) (fun _ => .inl)
  case setW =>
    intro a v ar _ har
    exact hw.of_le (Nat.le_refl _) (upd_cases (hw.agentsLt a ar har)) (fun _ _ => .inl) (fun _ _ => .inl) (fun _ => .inl)
  case mkSet =>
    intro m as mr _ hall hmr
    refine hw.of_le (Nat.le_succ _) (fun _ _ => .inl) (fun _ _ => .inl)
      (upd_cases ⟨Nat.lt_succ_self _, Nat.lt_succ_of_lt (hw.modelsLt m mr hmr).2.1, ?_, by simp⟩)
      (setIds_append (Nat.lt_succ_self _))
    intro a ha
    exact Nat.lt_succ_of_lt (agentAlive_lt hw (hall a ((mem_dedup a as).mp ha)))
  case add =>
    intro t a r ha hr
    refine hw.setMembers hr (fun x hx => ?_) _
    split at hx
    · exact hw.members_lt hr x hx
    · rcases List.mem_append.mp hx with hx | hx
      · exact hw.members_lt hr x hx
      · exact List.mem_singleton.mp hx ▸ agentAlive_lt hw ha
  case discard =>
    intro t a r _ hr
    exact hw.setMembers hr (fun x hx => hw.members_lt hr x (List.mem_of_mem_erase hx)) _
  case sortW =>
    intro t r hr
    exact hw.setMembers hr (fun x hx => hw.members_lt hr x (mem_aliveMembers.mp ((mem_sortBy _ x _).mp hx)).1) _
  case shuffle =>
    intro t r g hr _
    exact hw.setMembers hr (fun x hx => hw.members_lt hr x (mem_aliveMembers.mp ((Rng.mem_shuffle _ g x).mp hx)).1) _

theorem WF.run (hw : WF w) (ops : List Op) : WF (run w ops) := by
  induction ops generalizing w with
  | nil => exact hw
  | cons op ops ih => exact ih (hw.step op)

end Mesa.CopySet
